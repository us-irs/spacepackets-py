import SpVerif.BE
/-!
# Model of `spacepackets/ccsds/spacepacket.py` (header, packet id, sequence control, generic packet)

Arithmetic normal form: `x << k | y` on disjoint bit ranges is `x * 2^k + y`; `(x >> k) & m` is
`x / 2^k % (m+1)`. The equivalence on the octet / 16-bit word domain is part of what the
correspondence check establishes exhaustively (DESIGN.md §4).
-/
namespace SpVerif.SpacePacket

/-- `PacketId.raw()` -/
def pidRaw (ptype shf apid : Nat) : Nat := ptype * 4096 + shf * 2048 + apid
/-- `PacketSeqCtrl.raw()` -/
def pscRaw (flags count : Nat) : Nat := flags * 16384 + count

structure PacketId where
  ptype : Nat
  shf : Nat
  apid : Nat
deriving DecidableEq, Repr

structure Psc where
  flags : Nat
  count : Nat
deriving DecidableEq, Repr

/-- `PacketId(ptype, sec_header_flag, apid)`: ValueError on APID out of range. -/
def PacketId.new (ptype shf : Nat) (apid : Int) : Py PacketId :=
  if apid > 2047 ∨ apid < 0 then .error .value else .ok ⟨ptype, shf, apid.toNat⟩
def PacketId.raw (p : PacketId) : Nat := pidRaw p.ptype p.shf p.apid
/-- `PacketId.from_raw(raw)` (for `raw ≥ 0`) -/
def PacketId.fromRaw (raw : Nat) : PacketId := ⟨raw / 4096 % 2, raw / 2048 % 2, raw % 2048⟩

/-- `PacketSeqCtrl(seq_flags, seq_count)`: ValueError on count out of range. -/
def Psc.new (flags : Nat) (count : Int) : Py Psc :=
  if count > 16383 ∨ count < 0 then .error .value else .ok ⟨flags, count.toNat⟩
def Psc.raw (p : Psc) : Nat := pscRaw p.flags p.count
/-- `PacketSeqCtrl.from_raw(raw)`: `raw & ~0xC000` keeps all bits above bit 15 as well, so for a
    raw value beyond 16 bits the count exceeds its range and the constructor raises. -/
def Psc.fromRaw (raw : Nat) : Py Psc :=
  Psc.new (raw / 16384 % 4) (((raw / 65536 * 65536 + raw % 16384 : Nat) : Int))

structure Sph where
  version : Nat
  ptype : Nat
  shf : Nat
  apid : Nat
  flags : Nat
  count : Nat
  dlen : Nat
deriving DecidableEq, Repr

/-- `SpacePacketHeader(...)`: the three range checks, in the order the constructor performs them. -/
def Sph.new (version ptype shf : Nat) (apid : Int) (flags : Nat) (count dlen : Int) : Py Sph :=
  if dlen > 65535 ∨ dlen < 0 then .error .value
  else if apid > 2047 ∨ apid < 0 then .error .value
  else if count > 16383 ∨ count < 0 then .error .value
  else .ok ⟨version, ptype, shf, apid.toNat, flags, count.toNat, dlen.toNat⟩

/-- the constructor on natural numbers -/
theorem Sph.new_nat (v t s f a c d : Nat) :
    Sph.new v t s (a : Int) f (c : Int) (d : Int) =
      if 65535 < d ∨ 2047 < a ∨ 16383 < c then .error .value else .ok ⟨v, t, s, a, f, c, d⟩ := by
  unfold Sph.new
  split
  · rw [if_pos (by omega)]
  · split
    · rw [if_pos (by omega)]
    · split
      · rw [if_pos (by omega)]
      · rw [if_neg (by omega)]; rfl

theorem Psc.new_nat (f c : Nat) :
    Psc.new f (c : Int) = if 16383 < c then .error .value else .ok ⟨f, c⟩ := by
  unfold Psc.new
  split
  · rw [if_pos (by omega)]
  · rw [if_neg (by omega)]; rfl

/-- `SpacePacketHeader.pack()` -/
def Sph.pack (h : Sph) : Py Bytes := do
  let w0 ← packBE 2 (h.version * 8192 + pidRaw h.ptype h.shf h.apid)
  let w1 ← packBE 2 (pscRaw h.flags h.count)
  let w2 ← packBE 2 h.dlen
  pure (w0 ++ w1 ++ w2)

/-- `SpacePacketHeader.packet_len` -/
def Sph.packetLen (h : Sph) : Nat := 6 + h.dlen + 1

/-- `SpacePacketHeader.unpack(data)` -/
def Sph.unpack (d : Bytes) : Py Sph := do
  if d.length < 6 then throw .value
  let d0 ← idx d 0
  let d1 ← idx d 1
  let psc ← unpackBE 2 (slice d 2 4)
  let dl ← unpackBE 2 (slice d 4 6)
  Sph.new (d0 / 32 % 8) (d0 / 16 % 2) (d0 / 8 % 2) ((d0 % 8 * 256 + d1 : Nat) : Int)
    (psc / 16384) ((psc % 16384 : Nat) : Int) ((dl : Nat) : Int)

/-- `get_space_packet_id_bytes` -/
def idBytes (version ptype shf apid : Nat) : Nat × Nat :=
  (version % 8 * 32 + ptype % 2 * 16 + shf % 2 * 8 + apid / 256 % 8, apid % 256)

/-- `get_apid_from_raw_space_packet` -/
def apidFromRaw (d : Bytes) : Py Nat := do
  if d.length < 6 then throw .value
  let d0 ← idx d 0
  let d1 ← idx d 1
  pure (d0 % 8 * 256 + d1)

/-- `get_total_space_packet_len_from_len_field` -/
def totalLenFromLenField (lenField : Nat) : Nat := lenField + 6 + 1

/-- `SpacePacket(sp_header, sec_header, user_data).pack()` -/
def spPack (h : Sph) (sec user : Option Bytes) : Py Bytes := do
  let hdr ← h.pack
  let p1 ←
    if h.shf ≠ 0 then
      match sec with
      | none => throw .value
      | some s => pure (hdr ++ s)
    else
      match user with
      | none => throw .value
      | some _ => pure hdr
  match user with
  | none => pure p1
  | some u => pure (p1 ++ u)

end SpVerif.SpacePacket
