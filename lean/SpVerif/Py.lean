/-!
# Python-semantics kit

Octet strings, the error categories of the library (documented and undocumented ones) and the
primitive operations whose *failure modes* matter for the properties: indexing (`IndexError`),
`struct.unpack` on a slice of the wrong size (`struct.error`), `struct.pack` / `bytearray.append`
of an out-of-range integer, `IntEnum(v)`.

Nothing here totalises silently: every access that can fail in CPython can fail here.
-/
namespace SpVerif

abbrev Bytes := List UInt8

/-- Error categories. `documented` are those the library's docstrings / exception modules name. -/
inductive Err
  | value        -- ValueError and subclasses (BytesTooShortError, TmSrcDataTooShortError, UnicodeDecodeError)
  | crc          -- InvalidTcCrc16 / InvalidTmCrc16 / InvalidCrc
  | cfdpVersion  -- UnsupportedCfdpVersion
  | tlvType      -- TlvTypeMissmatch
  | uslp         -- the seven Uslp* exception classes
  | verifParams  -- InvalidVerifParams
  | overflow     -- OverflowError
  | fileNotFound -- FileNotFoundError
  | type         -- TypeError
  | index        -- IndexError
  | struct       -- struct.error
  | attr         -- AttributeError
  | key          -- KeyError
  | assertion    -- AssertionError
  | fuel         -- model-only: a fuelled loop ran out of fuel (shown impossible by lemmas)
deriving DecidableEq, Repr, Inhabited

def Err.documented : Err → Bool
  | .value | .crc | .cfdpVersion | .tlvType | .uslp | .verifParams | .overflow | .fileNotFound => true
  | _ => false

def Err.name : Err → String
  | .value => "value" | .crc => "crc" | .cfdpVersion => "cfdp_version" | .tlvType => "tlv_type"
  | .uslp => "uslp" | .verifParams => "verif_params" | .overflow => "overflow"
  | .fileNotFound => "file_not_found" | .type => "type" | .index => "index" | .struct => "struct"
  | .attr => "attribute" | .key => "key" | .assertion => "assertion" | .fuel => "fuel"

abbrev Py := Except Err

/-- A computation fails, if at all, only with a documented error. -/
def Documented {α : Type} (x : Py α) : Prop := ∀ e, x = .error e → e.documented = true

/-- `UInt8` from a natural number (callers establish `n < 256` where it matters). -/
abbrev u8 (n : Nat) : UInt8 := UInt8.ofNat n

@[simp] theorem u8_toNat (n : Nat) : (u8 n).toNat = n % 256 := by
  simp [u8]

@[simp] theorem u8_toNat_self (x : UInt8) : u8 x.toNat = x := by
  simp [u8]

theorem toNat_lt (x : UInt8) : x.toNat < 256 := UInt8.toNat_lt x

/-- `b[i]` for a non-negative index; `IndexError` when out of range. -/
def idx (b : Bytes) (i : Nat) : Py Nat :=
  match b[i]? with
  | some x => .ok x.toNat
  | none => .error .index

/-- `b[s:e]` for non-negative `s`, `e` (total, clamps like Python). -/
def slice (b : Bytes) (s e : Nat) : Bytes := (b.take e).drop s

/-- `b[s:]`. -/
abbrev sliceFrom (b : Bytes) (s : Nat) : Bytes := b.drop s

/-- `bytearray.append(v)` / `bytes([v])`: `ValueError` outside 0..255. -/
def byteOf (v : Int) : Py UInt8 :=
  if 0 ≤ v ∧ v < 256 then .ok (u8 v.toNat) else .error .value

/-- `bytearray.append(v)` for `v ≥ 0`. -/
def byteOfN (v : Nat) : Py UInt8 :=
  if v < 256 then .ok (u8 v) else .error .value

theorem byteOfN_ok {v : Nat} (h : v < 256) : byteOfN v = .ok (u8 v) := by simp [byteOfN, h]

/-- `IntEnum(v)`: `ValueError` iff `v` is not a member. -/
def enumOf (members : List Nat) (v : Nat) : Py Nat :=
  if v ∈ members then .ok v else .error .value

@[simp] theorem idx_ok {b : Bytes} {i : Nat} (h : i < b.length) : idx b i = .ok b[i].toNat := by
  simp [idx, List.getElem?_eq_getElem h]

theorem idx_err {b : Bytes} {i : Nat} (h : b.length ≤ i) : idx b i = .error .index := by
  simp [idx, List.getElem?_eq_none h]

theorem lt_of_idx_ok {b : Bytes} {i v : Nat} (h : idx b i = .ok v) : i < b.length :=
  Nat.lt_of_not_le fun hl => by rw [idx_err hl] at h; cases h

@[simp] theorem slice_length (b : Bytes) (s e : Nat) : (slice b s e).length = min e b.length - s := by
  simp [slice]

theorem slice_append_left (a b : Bytes) (s e : Nat) (h : e ≤ a.length) :
    slice (a ++ b) s e = slice a s e := by
  simp [slice, List.take_append_of_le_length h]

theorem idx_append_left (a b : Bytes) (i : Nat) (h : i < a.length) : idx (a ++ b) i = idx a i := by
  simp [idx, List.getElem?_append_left h]

theorem idx_drop (b : Bytes) (k i : Nat) : idx (b.drop k) i = idx b (k + i) := by
  simp [idx, List.getElem?_drop]

theorem slice_drop (b : Bytes) (k s e : Nat) : slice (b.drop k) s e = slice b (k + s) (k + e) := by
  simp only [slice, List.take_drop, List.drop_drop]

theorem slice_eq_of_append (a m c : Bytes) : slice (a ++ m ++ c) a.length (a.length + m.length) = m := by
  simp [slice, List.take_append, List.drop_append]

/-- Use these with `rw`: as `simp`/`dsimp` lemmas they hold by `rfl` and leave no proof term, and the kernel
    then normalises the scrutinee of the `>>=` on its own (for a stuck `Sph.pack h` that means unary
    arithmetic on `v * 8192`). -/
theorem bind_ok {α β : Type} (a : α) (f : α → Py β) : (Except.ok a >>= f) = f a := rfl
theorem bind_err {α β : Type} (e : Err) (f : α → Py β) : ((Except.error e : Py α) >>= f) = .error e := rfl

/-- inversion of a successful `>>=` -/
theorem bind_ok_inv {α β : Type} {x : Py α} {f : α → Py β} {b : β} (h : (x >>= f) = .ok b) :
    ∃ a, x = .ok a ∧ f a = .ok b := by
  cases x with
  | error e => cases h
  | ok a => exact ⟨a, rfl, h⟩

theorem pure_ok_inv {α : Type} {a b : α} (h : (pure a : Py α) = .ok b) : a = b := by
  cases h; rfl

theorem map_ok_inv {α β : Type} {f : α → β} {x : Py α} {b : β} (h : (f <$> x) = .ok b) :
    ∃ a, x = .ok a ∧ f a = b := by
  cases x with
  | error e => cases h
  | ok a => exact ⟨a, rfl, Except.ok.inj h⟩

/-- a failed `>>=`: the first step failed, or it succeeded and the rest failed -/
theorem bind_error_inv {α β : Type} {x : Py α} {f : α → Py β} {e : Err} (h : (x >>= f) = .error e) :
    x = .error e ∨ ∃ a, x = .ok a ∧ f a = .error e := by
  cases x with
  | error e' => cases h; exact Or.inl rfl
  | ok a => exact Or.inr ⟨a, rfl, h⟩

theorem foldl_inv {S O : Type} (f : S → O → S) (Inv : S → Prop) (hstep : ∀ s o, Inv s → Inv (f s o))
    (l : List O) (s : S) (h : Inv s) : Inv (l.foldl f s) := by
  induction l generalizing s with
  | nil => exact h
  | cons o rest ih => exact ih _ (hstep s o h)

theorem throw_eq {α : Type} (e : Err) : (throw e : Py α) = .error e := rfl

/-- with `ite_err_bind`: a `do` block whose steps each give a value or the error `e` is one `if` on the
    conjunction of their conditions -/
theorem ite_ite_and {α : Type} {a b : Prop} [Decidable a] [Decidable b] (x e : α) :
    (if a then (if b then x else e) else e) = if a ∧ b then x else e := by
  by_cases a <;> by_cases b <;> simp [*]

theorem ite_err_bind {α β : Type} {c : Prop} [Decidable c] (y : Py α) (e : Err) (k : α → Py β) :
    ((if c then y else .error e) >>= k) = if c then y >>= k else .error e := by
  split <;> rfl

/-! `if c: raise e` inside a `do` block elaborates to `if c then throw e >>= k else k ()` with `k` the rest of
the block (after `dsimp only` has removed the `have __do_jp`). -/

theorem guard_pos {α : Type} {c : Prop} [Decidable c] {e : Err} {k : Unit → Py α} (h : c) :
    (if c then throw e >>= k else k ()) = .error e := by
  rw [if_pos h]; rfl

theorem guard_ok_inv {α : Type} {c : Prop} [Decidable c] {e : Err} {k : Unit → Py α} {b : α}
    (h : (if c then throw e >>= k else k ()) = .ok b) : ¬ c ∧ k () = .ok b := by
  by_cases hc : c
  · rw [guard_pos hc] at h; cases h
  · rw [if_neg hc] at h; exact ⟨hc, h⟩

/-- two accepted inputs that are equal were decoded to the same value: with a round-trip theorem for
    `f`, this is injectivity of the encoder -/
theorem ok_unique {α β : Type} {f : β → Py α} {x y : β} {a b : α} (ha : f x = .ok a) (hb : f y = .ok b)
    (e : x = y) : a = b := by
  subst e; exact Except.ok.inj (ha.symm.trans hb)

theorem Documented.ok {α : Type} (a : α) : Documented (Except.ok a : Py α) := by
  intro e h; cases h

theorem Documented.err {α : Type} {e : Err} (h : e.documented = true) :
    Documented (Except.error e : Py α) := by
  intro e' h'; cases h'; exact h

theorem Documented.ite {α : Type} {c : Prop} [Decidable c] {x y : Py α} (hx : Documented x) (hy : Documented y) :
    Documented (if c then x else y) := by
  split <;> assumption

theorem Documented.guard {α : Type} {c : Prop} [Decidable c] {e : Err} {k : Unit → Py α}
    (he : e.documented = true) (hk : ¬ c → Documented (k ())) :
    Documented (if c then throw e >>= k else k ()) := by
  by_cases h : c
  · rw [guard_pos h]; exact Documented.err he
  · rw [if_neg h]; exact hk h

theorem enumOf_documented (m : List Nat) (v : Nat) : Documented (enumOf m v) :=
  Documented.ite (Documented.ok _) (Documented.err rfl)

theorem Documented.bind {α β : Type} {x : Py α} {f : α → Py β}
    (hx : Documented x) (hf : ∀ a, x = .ok a → Documented (f a)) : Documented (x >>= f) := by
  cases x with
  | error e =>
    intro e' h'
    have : (Except.error e : Py β) = .error e' := h'
    cases this; exact hx e rfl
  | ok a => exact hf a rfl

end SpVerif
