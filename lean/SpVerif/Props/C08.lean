import SpVerif.Model.Lv
import SpVerif.Model.Tlv
import SpVerif.Proofs.Lv
import SpVerif.Proofs.Tlv
/-!
# C08 — CFDP TLV and LV items encode exactly, round-trip, and are type-safe

Property theorems only. `Spec.*` is the field layout of CCSDS 727.0-B-5 as closed-form octet lists:
* LV (§5.1 "LV"): length octet, value;
* TLV (§5.4, table 5-? "TLV"): type octet, length octet, value;
* filestore request (§5.4.1): TLV type 0; value = action code (4 bits) | spare (4 bits), first file
  name LV, second file name LV for rename / append / replace;
* filestore response (§5.4.2): TLV type 1; value = action code (4) | status code (4) — which is
  the member value of the status-code enumeration itself —, first file name LV, second file name
  LV (same three actions), filestore message LV;
* message to user (§5.4.3): type 2; fault handler override (§5.4.4): type 4, one octet
  condition code (4) | handler code (4); flow label (§5.4.5): type 5; entity ID (§5.4.6): type 6.

File names are octet strings (their UTF-8 encoding); "valid" names satisfy `utf8Valid`.
-/
namespace SpVerif.Props.C08
open SpVerif SpVerif.Lv SpVerif.Tlv

def Spec.lv (v : Bytes) : Bytes := u8 v.length :: v
def Spec.tlv (t : Nat) (v : Bytes) : Bytes := u8 t :: u8 v.length :: v
/-- rename (2), append (3), replace (4) carry a second file name -/
def Spec.twoNames (action : Nat) : Prop := action = 2 ∨ action = 3 ∨ action = 4
instance (a : Nat) : Decidable (Spec.twoNames a) := by unfold Spec.twoNames; infer_instance
/-- value field common to request and response -/
def Spec.fsValue (firstOctet : Nat) (action : Nat) (first second : Bytes) : Bytes :=
  u8 firstOctet :: (Spec.lv first ++ (if Spec.twoNames action then Spec.lv second else []))
def Spec.fsRequest (r : FileStoreRequestTlv) : Bytes :=
  Spec.tlv 0 (Spec.fsValue (r.action * 16) r.action r.first r.second)
def Spec.fsResponse (r : FileStoreResponseTlv) : Bytes :=
  Spec.tlv 1 (Spec.fsValue r.status.toNat r.action r.first r.second ++ Spec.lv r.msg.value)
def Spec.faultHandler (cc hc : Nat) : Bytes := Spec.tlv 4 [u8 (cc * 16 + hc)]
def Spec.entityId (v : Bytes) : Bytes := Spec.tlv 6 v
def Spec.flowLabel (v : Bytes) : Bytes := Spec.tlv 5 v
def Spec.msgToUser (v : Bytes) : Bytes := Spec.tlv 2 v

/-- LV / TLV value: 0..255 octets -/
def WFValue (v : Bytes) : Prop := v.length ≤ 255
instance (v : Bytes) : Decidable (WFValue v) := by unfold WFValue; infer_instance

/-- a TLV type of the standard -/
def WFType (t : Nat) : Prop := t ∈ tlvTypes
instance (t : Nat) : Decidable (WFType t) := by unfold WFType; infer_instance

/-- filestore request parameters: an action code of the standard, names that are UTF-8, a second
    name only for the two-name actions, and a value field that fits the one-octet TLV length -/
def WFReq (r : FileStoreRequestTlv) : Prop :=
  r.action ∈ actionCodes ∧ utf8Valid r.first = true ∧ utf8Valid r.second = true ∧
  (¬ Spec.twoNames r.action → r.second = []) ∧
  (Spec.fsValue (r.action * 16) r.action r.first r.second).length ≤ 255
instance (r : FileStoreRequestTlv) : Decidable (WFReq r) := by unfold WFReq; infer_instance

/-- filestore response parameters: additionally a status code of the standard that belongs to the
    action code (its upper nibble), and the filestore message -/
def WFResp (r : FileStoreResponseTlv) : Prop :=
  r.action ∈ actionCodes ∧ 0 ≤ r.status ∧ r.status.toNat ∈ statusCodesNat ∧ r.status.toNat / 16 = r.action ∧
  utf8Valid r.first = true ∧ utf8Valid r.second = true ∧
  (¬ Spec.twoNames r.action → r.second = []) ∧
  (Spec.fsValue r.status.toNat r.action r.first r.second ++ Spec.lv r.msg.value).length ≤ 255
instance (r : FileStoreResponseTlv) : Decidable (WFResp r) := by unfold WFResp; infer_instance

-- non-vacuity: concrete non-trivial members of each domain
example : WFValue [1, 2, 3] ∧ WFType 6 ∧ ¬ WFType 3 := by decide
example : WFReq ⟨2, [0x61, 0xC3, 0xA4], [0x62]⟩ := by decide
example : WFReq ⟨5, [0x64, 0x69, 0x72], []⟩ := by decide
example : WFResp ⟨3, 50, [0x61], [0xE2, 0x82, 0xAC], ⟨[1, 2]⟩⟩ := by decide
example : ¬ WFResp ⟨3, 33, [0x61], [], ⟨[]⟩⟩ := by decide  -- a status code of another action

private theorem twoNames_iff (a : Nat) : Spec.twoNames a ↔ a ∈ snpActions := by
  rw [mem_snp]; unfold Spec.twoNames; omega

private theorem spec_fsValue (a s : Nat) (f g : Bytes) :
    Spec.fsValue (a * 16 + s) a f g = fsValue a s f g := by
  unfold Spec.fsValue fsValue Spec.lv
  by_cases h : a ∈ snpActions
  · rw [if_pos h, if_pos ((twoNames_iff a).2 h)]; rfl
  · rw [if_neg h, if_neg (fun x => h ((twoNames_iff a).1 x))]; rfl

private theorem spec_fsValue0 (a : Nat) (f g : Bytes) : Spec.fsValue (a * 16) a f g = fsValue a 0 f g :=
  spec_fsValue a 0 f g

/-- a value field that fits the TLV has names that fit their LVs, and a request or response of the
    domain has no second name unless its action takes one -/
private theorem names_fit {a s : Nat} {f g : Bytes} (hl : (fsValue a s f g).length ≤ 255)
    (hsec : ¬ Spec.twoNames a → g = []) :
    f.length ≤ 255 ∧ g.length ≤ 255 ∧ (if a ∈ snpActions then g else []) = g := by
  obtain ⟨h1, h2⟩ := fsValue_fits hl
  by_cases h : a ∈ snpActions
  · exact ⟨h1, h2 h, if_pos h⟩
  · cases hsec fun x => h ((twoNames_iff a).1 x)
    exact ⟨h1, Nat.zero_le _, if_neg h⟩

private theorem status_split (s : Int) (a : Nat) (h0 : 0 ≤ s) (h : s.toNat / 16 = a) :
    s.toNat = a * 16 + statusToInt s ∧ ((a * 16 + statusToInt s : Nat) : Int) = s := by
  obtain ⟨n, rfl⟩ := Int.eq_ofNat_of_zero_le h0
  have e : statusToInt (n : Int) = n % 16 := by unfold statusToInt; omega
  rw [Int.toNat_natCast] at h ⊢
  subst h
  rw [e, Nat.div_add_mod']
  exact ⟨rfl, rfl⟩

/-- **LV packs to length, value** for every value of 0..255 octets -/
theorem C08_lv_pack_exact (v : Bytes) (h : WFValue v) :
    (CfdpLv.new v >>= CfdpLv.pack) = .ok (Spec.lv v) := by
  rw [CfdpLv.new_ok h, bind_ok]; exact CfdpLv.pack_eq _ h

/-- **decoding returns the same value**, whatever follows the LV, and reports `length + 1` -/
theorem C08_lv_roundtrip (v rest : Bytes) (h : WFValue v) :
    CfdpLv.unpack (Spec.lv v ++ rest) = .ok ⟨v⟩ ∧ (CfdpLv.mk v).packetLen = v.length + 1 :=
  ⟨CfdpLv.unpack_pack_append v rest h, rfl⟩

/-- **exactly `length + 1` octets are consumed**: whenever the decoder accepts an input, the
    input is the encoding of the decoded LV followed by the untouched remainder -/
theorem C08_lv_consumes (d : Bytes) (l : CfdpLv) (h : CfdpLv.unpack d = .ok l) :
    WFValue l.value ∧ l.packetLen = l.value.length + 1 ∧ l.packetLen ≤ d.length ∧
      d = Spec.lv l.value ++ d.drop l.packetLen := by
  obtain ⟨h1, h2, h3⟩ := CfdpLv.unpack_spec d l h
  exact ⟨h1, rfl, h2, h3⟩

/-- **values longer than 255 octets are refused** (constructor; a hand-built object does not pack) -/
theorem C08_lv_refuse_long (v : Bytes) (h : 255 < v.length) :
    CfdpLv.new v = .error .value ∧ (CfdpLv.mk v).pack = .error .value :=
  ⟨CfdpLv.new_err h, CfdpLv.pack_err _ h⟩

theorem C08_lv_len (l : CfdpLv) (b : Bytes) (h : l.pack = .ok b) : b.length = l.packetLen :=
  CfdpLv.pack_length l b h

/-- **TLV packs to type, length, value** for every TLV type and every value of 0..255 octets -/
theorem C08_tlv_pack_exact (t : Nat) (v : Bytes) (ht : WFType t) (h : WFValue v) :
    (CfdpTlv.new t v >>= CfdpTlv.pack) = .ok (Spec.tlv t v) := by
  have ht' : t < 256 := by
    simp only [WFType, tlvTypes, List.mem_cons, List.not_mem_nil, or_false] at ht; omega
  rw [CfdpTlv.new_ok h, bind_ok]; exact CfdpTlv.pack_eq _ ht' h

/-- **decoding returns the same type and value**, whatever follows, and reports `length + 2` -/
theorem C08_tlv_roundtrip (t : Nat) (v rest : Bytes) (ht : WFType t) (h : WFValue v) :
    CfdpTlv.unpack (Spec.tlv t v ++ rest) = .ok ⟨t, v⟩ ∧ (CfdpTlv.mk t v).packetLen = v.length + 2 :=
  ⟨CfdpTlv.unpack_pack_append t v rest ht h, Nat.add_comm 2 _⟩

theorem C08_tlv_consumes (d : Bytes) (t : CfdpTlv) (h : CfdpTlv.unpack d = .ok t) :
    WFType t.ttype ∧ WFValue t.value ∧ t.packetLen = t.value.length + 2 ∧ t.packetLen ≤ d.length ∧
      d = Spec.tlv t.ttype t.value ++ d.drop t.packetLen := by
  obtain ⟨h0, h1, h2, h3⟩ := CfdpTlv.unpack_spec d t h
  exact ⟨h0, h1, Nat.add_comm 2 _, h2, h3⟩

/-- **values longer than 255 octets are refused** with `ValueError`, by the constructor and — for an
    object built around the constructor — by `pack` (nothing is truncated) -/
theorem C08_tlv_refuse_long (t : Nat) (v : Bytes) (h : 255 < v.length) :
    CfdpTlv.new t v = .error .value ∧ (CfdpTlv.mk t v).pack = .error .value :=
  ⟨CfdpTlv.new_err h, CfdpTlv.pack_err _ h⟩

theorem C08_tlv_len (t : CfdpTlv) (b : Bytes) (h : t.pack = .ok b) : b.length = t.packetLen :=
  CfdpTlv.pack_length t b h

/-- the encoding is injective on the domain (consequence of the round trip) -/
theorem C08_tlv_injective (t t' : Nat) (v v' : Bytes) (ht : WFType t) (ht' : WFType t')
    (h : WFValue v) (h' : WFValue v') (e : Spec.tlv t v = Spec.tlv t' v') : t = t' ∧ v = v' := by
  have := ok_unique (C08_tlv_roundtrip t v [] ht h).1 (C08_tlv_roundtrip t' v' [] ht' h').1
    (congrArg (· ++ []) e)
  exact ⟨congrArg CfdpTlv.ttype this, congrArg CfdpTlv.value this⟩

/-- what the three classes that only wrap a generic TLV share: pack and reported length of the
    wrapped TLV -/
private theorem wrap_pack_exact (T : Nat) (hT : T < 256) {v : Bytes} (h : v.length ≤ 255) :
    (CfdpTlv.mk T v).pack = .ok (Spec.tlv T v) ∧
      (Except.ok (CfdpTlv.mk T v).packetLen : Py Nat) = .ok (Spec.tlv T v).length :=
  ⟨CfdpTlv.pack_eq ⟨T, v⟩ hT h, congrArg Except.ok (Nat.add_comm 2 v.length)⟩

theorem C08_entity_id_pack_exact (v : Bytes) (h : WFValue v) :
    (EntityIdTlv.new v >>= EntityIdTlv.pack) = .ok (Spec.entityId v) ∧
    (EntityIdTlv.new v >>= fun e => pure e.packetLen) = .ok (Spec.entityId v).length := by
  rw [(EntityIdTlv.new_eq v).trans (if_pos h)]
  exact wrap_pack_exact 6 (by decide) h

theorem C08_entity_id_roundtrip (v rest : Bytes) (h : WFValue v) :
    EntityIdTlv.unpack (Spec.entityId v ++ rest) = EntityIdTlv.new v := by
  rw [(EntityIdTlv.new_eq v).trans (if_pos h)]
  exact unpackBind_pack_append EntityIdTlv.fromTlv 6 v rest (by decide) h

theorem C08_flow_label_pack_exact (v : Bytes) (h : WFValue v) :
    (FlowLabelTlv.new v >>= FlowLabelTlv.pack) = .ok (Spec.flowLabel v) ∧
    (FlowLabelTlv.new v >>= fun e => pure e.packetLen) = .ok (Spec.flowLabel v).length := by
  rw [(FlowLabelTlv.new_eq v).trans (if_pos h)]
  exact wrap_pack_exact 5 (by decide) h

theorem C08_flow_label_roundtrip (v rest : Bytes) (h : WFValue v) :
    FlowLabelTlv.unpack (Spec.flowLabel v ++ rest) = FlowLabelTlv.new v := by
  rw [(FlowLabelTlv.new_eq v).trans (if_pos h), FlowLabelTlv.unpack_bind]
  exact unpackBind_pack_append FlowLabelTlv.fromTlv 5 v rest (by decide) h

theorem C08_msg_to_user_pack_exact (v : Bytes) (h : WFValue v) :
    (MessageToUserTlv.new v >>= MessageToUserTlv.pack) = .ok (Spec.msgToUser v) ∧
    (MessageToUserTlv.new v >>= fun e => pure e.packetLen) = .ok (Spec.msgToUser v).length := by
  rw [(MessageToUserTlv.new_eq v).trans (if_pos h)]
  exact wrap_pack_exact 2 (by decide) h

theorem C08_msg_to_user_roundtrip (v rest : Bytes) (h : WFValue v) :
    MessageToUserTlv.unpack (Spec.msgToUser v ++ rest) = MessageToUserTlv.new v := by
  rw [(MessageToUserTlv.new_eq v).trans (if_pos h)]
  exact unpackBind_pack_append MessageToUserTlv.fromTlv 2 v rest (by decide) h

theorem C08_wrappers_refuse_long (v : Bytes) (h : 255 < v.length) :
    EntityIdTlv.new v = .error .value ∧ FlowLabelTlv.new v = .error .value ∧
      MessageToUserTlv.new v = .error .value := by
  have : ¬ v.length ≤ 255 := by omega
  exact ⟨(EntityIdTlv.new_eq v).trans (if_neg this), (FlowLabelTlv.new_eq v).trans (if_neg this),
    (MessageToUserTlv.new_eq v).trans (if_neg this)⟩

/-- for every condition code and handler code (nibbles; every member of the two enumerations):
    type 4, length 1, condition code in the upper and handler code in the lower nibble;
    reported length 3 -/
theorem C08_fault_handler_pack_exact (cc hc : Nat) (hcc : cc < 16) (hhc : hc < 16) :
    (FaultHandlerOverrideTlv.new (cc : Int) hc >>= FaultHandlerOverrideTlv.pack) =
      .ok (Spec.faultHandler cc hc) ∧
    (FaultHandlerOverrideTlv.new (cc : Int) hc >>= fun e => pure e.packetLen) = .ok 3 := by
  rw [FaultHandlerOverrideTlv.new_nat cc hc hcc hhc]
  exact ⟨CfdpTlv.pack_eq ⟨tFaultHandler, [u8 (cc * 16 + hc)]⟩ (show tFaultHandler < 256 by decide) (Nat.le_add_left 1 254), rfl⟩

theorem C08_fault_handler_roundtrip (cc hc : Nat) (hcc : cc < 16) (hhc : hc < 16) (rest : Bytes) :
    FaultHandlerOverrideTlv.unpack (Spec.faultHandler cc hc ++ rest) =
      FaultHandlerOverrideTlv.new (cc : Int) hc := by
  rw [FaultHandlerOverrideTlv.new_nat cc hc hcc hhc]
  refine (unpackBind_pack_append FaultHandlerOverrideTlv.fromTlv 4 [u8 (cc * 16 + hc)] rest (by decide)
    (Nat.le_add_left 1 254)).trans ?_
  rw [FaultHandlerOverrideTlv.fromTlv_eq, if_neg (fun h => h rfl)]
  dsimp only
  rw [nib_u8 hcc hhc, nib_div _ hhc, nib_mod _ hhc]
  rfl

/-- `ConditionCode.NO_CONDITION_FIELD` (−1) and every other negative code is refused -/
theorem C08_fault_handler_refuse_negative (cc : Int) (hc : Nat) (h : cc < 0) :
    FaultHandlerOverrideTlv.new cc hc = .error .value :=
  FaultHandlerOverrideTlv.new_neg cc hc h

private theorem req_len (r : FileStoreRequestTlv) (wf : WFReq r) :
    (fsValue r.action 0 r.first r.second).length ≤ 255 :=
  spec_fsValue0 r.action r.first r.second ▸ wf.2.2.2.2

/-- **layout of 727.0-B-5 §5.4.1** for every action code and all names of the domain -/
theorem C08_fs_request_pack_exact (r : FileStoreRequestTlv) (wf : WFReq r) :
    r.pack = .ok (Spec.fsRequest r) := by
  have ha := (mem_actionCodes r.action).1 wf.1
  rw [FileStoreRequestTlv.pack_closed, if_pos ⟨by omega, req_len r wf⟩, Spec.fsRequest, spec_fsValue0]
  rfl

theorem C08_fs_request_roundtrip (r : FileStoreRequestTlv) (wf : WFReq r) (rest : Bytes) :
    FileStoreRequestTlv.unpack (Spec.fsRequest r ++ rest) = .ok r := by
  have hl := req_len r wf
  obtain ⟨ha, u1, u2, hsec, _⟩ := wf
  obtain ⟨h1, h2, hs⟩ := names_fit hl hsec
  rw [Spec.fsRequest, spec_fsValue0]
  refine (unpackBind_pack_append FileStoreRequestTlv.fromTlv 0 _ rest (by decide) hl).trans ?_
  have := FileStoreRequestTlv.fromTlv_pack_tail r.action 0 r.first r.second [] ha (by omega) h1 h2 u1 u2
  rwa [List.append_nil, if_pos rfl, hs] at this

/-- **reported length = packed length** whenever a request packs, for *all* field values
    (counted in octets of the encoded names) -/
theorem C08_fs_request_len (r : FileStoreRequestTlv) (b : Bytes) (h : r.pack = .ok b) :
    b.length = r.packetLen :=
  FileStoreRequestTlv.pack_length r b h

private theorem resp_len (r : FileStoreResponseTlv) (wf : WFResp r) : (fsRespValue r).length ≤ 255 := by
  obtain ⟨_, h0, _, hdiv, _, _, _, hlen⟩ := wf
  rwa [(status_split r.status r.action h0 hdiv).1, spec_fsValue] at hlen

/-- **layout of 727.0-B-5 §5.4.2** for every action code with each of its status codes, one or two
    names and every filestore message of the domain -/
theorem C08_fs_response_pack_exact (r : FileStoreResponseTlv) (wf : WFResp r) :
    r.pack = .ok (Spec.fsResponse r) := by
  have ha := (mem_actionCodes r.action).1 wf.1
  rw [FileStoreResponseTlv.pack_closed, if_pos ⟨by omega, resp_len r wf⟩, Spec.fsResponse,
    (status_split r.status r.action wf.2.1 wf.2.2.2.1).1, spec_fsValue]
  rfl

theorem C08_fs_response_roundtrip (r : FileStoreResponseTlv) (wf : WFResp r) (rest : Bytes) :
    FileStoreResponseTlv.unpack (Spec.fsResponse r ++ rest) = .ok r := by
  have hl := resp_len r wf
  have hl' := fsRespValue_length r ▸ hl
  obtain ⟨ha, h0, hmem, hdiv, u1, u2, hsec, _⟩ := wf
  obtain ⟨e1, e2⟩ := status_split r.status r.action h0 hdiv
  obtain ⟨h1, h2, hs⟩ := names_fit (Nat.le_of_add_right_le hl') hsec
  rw [Spec.fsResponse, e1, spec_fsValue]
  refine (unpackBind_pack_append FileStoreResponseTlv.fromTlv 1 _ rest (by decide) hl).trans ?_
  have := FileStoreResponseTlv.fromTlv_pack_tail r.action (statusToInt r.status) r.first r.second
    r.msg.value [] ha (statusToInt_lt _) (e1 ▸ hmem) h1 h2 (by omega) u1 u2
  rwa [List.append_nil, if_pos rfl, hs, e2] at this

/-- **reported length = packed length** whenever a response packs, for *all* field values -/
theorem C08_fs_response_len (r : FileStoreResponseTlv) (b : Bytes) (h : r.pack = .ok b) :
    b.length = r.packetLen :=
  FileStoreResponseTlv.pack_length r b h

/-- **every accepted filestore request reports exactly the declared TLV length** — for *all*
    inputs: the input is a type-0 TLV with a value of `packet_len − 2` octets followed by the
    untouched remainder (a value field holding anything after the names is refused, so the
    reported length, the declared length and the consumed length coincide) -/
theorem C08_fs_request_len_exact (d : Bytes) (x : FileStoreRequestTlv)
    (h : FileStoreRequestTlv.unpack d = .ok x) :
    ∃ v, WFValue v ∧ x.packetLen = v.length + 2 ∧ x.packetLen ≤ d.length ∧
      d = Spec.tlv 0 v ++ d.drop x.packetLen := by
  obtain ⟨v, hf, h1, h2, h3⟩ :=
    unpackBind_spec (fun _ => FileStoreRequestTlv.fromTlv_foreign) h
  rw [(FileStoreRequestTlv.fromTlv_len_exact hf).trans (Nat.add_comm 2 _)]
  exact ⟨v, h1, rfl, h2, h3⟩

/-- **every accepted filestore response reports exactly the declared TLV length** (all inputs) -/
theorem C08_fs_response_len_exact (d : Bytes) (x : FileStoreResponseTlv)
    (h : FileStoreResponseTlv.unpack d = .ok x) :
    ∃ v, WFValue v ∧ x.packetLen = v.length + 2 ∧ x.packetLen ≤ d.length ∧
      d = Spec.tlv 1 v ++ d.drop x.packetLen := by
  obtain ⟨v, hf, h1, h2, h3⟩ :=
    unpackBind_spec (fun _ => FileStoreResponseTlv.fromTlv_foreign) h
  rw [(FileStoreResponseTlv.fromTlv_len_exact hf).trans (Nat.add_comm 2 _)]
  exact ⟨v, h1, rfl, h2, h3⟩

/-- **octets after the encoded names inside the value field of a REQUEST are refused** with
    `ValueError`, for every otherwise valid request and every non-empty slack that still fits the TLV
    (responses: `C08_fs_response_refuse_slack`) -/
theorem C08_fs_refuse_slack (r : FileStoreRequestTlv) (wf : WFReq r) (tail rest : Bytes) (ht : tail ≠ [])
    (hl : (Spec.fsValue (r.action * 16) r.action r.first r.second ++ tail).length ≤ 255) :
    FileStoreRequestTlv.unpack
      (Spec.tlv 0 (Spec.fsValue (r.action * 16) r.action r.first r.second ++ tail) ++ rest) =
      .error .value := by
  obtain ⟨ha, u1, u2, hsec, hlen⟩ := wf
  rw [spec_fsValue0] at hl hlen ⊢
  obtain ⟨h1, h2, _⟩ := names_fit hlen hsec
  refine (unpackBind_pack_append FileStoreRequestTlv.fromTlv 0 _ rest (by decide) hl).trans ?_
  exact FileStoreRequestTlv.fromTlv_slack r.action 0 r.first r.second tail ha (by omega) h1 h2 u1 u2 ht

-- the repaired C09 finding: a request TLV declaring 12 octets with three octets after the name
example : FileStoreRequestTlv.unpack [0, 10, 0, 5, 0x61, 0x2E, 0x74, 0x78, 0x74, 1, 2, 3] = .error .value := by
  decide
example : FileStoreRequestTlv.unpack [0, 7, 0, 5, 0x61, 0x2E, 0x74, 0x78, 0x74, 1, 2, 3] =
    .ok ⟨0, [0x61, 0x2E, 0x74, 0x78, 0x74], []⟩ := by decide
example : FileStoreResponseTlv.unpack [1, 5, 0x10, 1, 0x61, 0, 9] = .error .value := by decide
example : FileStoreResponseTlv.unpack [1, 4, 0x10, 1, 0x61, 0, 9] = .ok ⟨1, 16, [0x61], [], ⟨[]⟩⟩ := by decide

theorem C08_packet_len (a : AnyTlv) (b : Bytes) (h : a.pack = .ok b) : b.length = a.packetLen := by
  cases a with
  | generic t => exact CfdpTlv.pack_length t b h
  | fsRequest t => exact FileStoreRequestTlv.pack_length t b h
  | fsResponse t => exact FileStoreResponseTlv.pack_length t b h
  | _ t => exact CfdpTlv.pack_length t.tlv b h

/-- REQUEST names that do not fit are refused with `ValueError`, never encoded:
    a name of more than 255 octets, or a value field of more than 255 octets
    (responses, with their filestore message: `C08_fs_response_refuse_long`) -/
theorem C08_fs_refuse_long (r : FileStoreRequestTlv) (ha : r.action ∈ actionCodes)
    (h : 255 < (Spec.fsValue (r.action * 16) r.action r.first r.second).length) :
    r.pack = .error .value := by
  -- whatever the action code: `pack` refuses every value field that does not fit
  rw [spec_fsValue0] at h
  rw [FileStoreRequestTlv.pack_closed, if_neg (fun x => Nat.not_le.2 h x.2)]

/-- … and the same for **responses**: octets after the filestore-message LV inside the value field
    are refused with `ValueError`, for every otherwise valid response and every non-empty slack that
    still fits the TLV -/
theorem C08_fs_response_refuse_slack (r : FileStoreResponseTlv) (wf : WFResp r) (tail rest : Bytes) (ht : tail ≠ [])
    (hl : (Spec.fsValue r.status.toNat r.action r.first r.second ++ Spec.lv r.msg.value ++ tail).length ≤ 255) :
    FileStoreResponseTlv.unpack
      (Spec.tlv 1 (Spec.fsValue r.status.toNat r.action r.first r.second ++ Spec.lv r.msg.value ++ tail) ++ rest) =
      .error .value := by
  have hlen := fsRespValue_length r ▸ resp_len r wf
  obtain ⟨ha, h0, hmem, hdiv, u1, u2, hsec, _⟩ := wf
  obtain ⟨e1, _⟩ := status_split r.status r.action h0 hdiv
  rw [e1, spec_fsValue, Spec.lv, List.append_assoc, List.cons_append] at hl ⊢
  obtain ⟨h1, h2, _⟩ := names_fit (Nat.le_of_add_right_le hlen) hsec
  refine (unpackBind_pack_append FileStoreResponseTlv.fromTlv 1 _ rest (by decide) hl).trans ?_
  exact FileStoreResponseTlv.fromTlv_slack r.action (statusToInt r.status) r.first r.second r.msg.value tail ha
    (statusToInt_lt _) (e1 ▸ hmem) h1 h2 (by omega) u1 u2 ht

/-- … and **responses** whose names or filestore message do not fit are refused with `ValueError`,
    never encoded: a name or message of more than 255 octets, or a value field (names and message
    LV together) of more than 255 octets — whatever the status code -/
theorem C08_fs_response_refuse_long (r : FileStoreResponseTlv) (ha : r.action ∈ actionCodes)
    (h : 255 < (Spec.fsValue r.status.toNat r.action r.first r.second ++ Spec.lv r.msg.value).length) :
    r.pack = .error .value := by
  have hlen : (Spec.fsValue r.status.toNat r.action r.first r.second).length
      = (fsValue r.action (statusToInt r.status) r.first r.second).length := by
    rw [← spec_fsValue]; simp [Spec.fsValue]
  rw [List.length_append, hlen, ← List.length_append] at h
  rw [FileStoreResponseTlv.pack_closed, if_neg (fun x => Nat.not_le.2 h x.2)]

/-- **`from_tlv` of every concrete class refuses every TLV of another type with the type-mismatch
    error** — whatever its value octets are (also when they would be a perfectly good value of
    the class). -/
theorem C08_type_safe_from_tlv (t : CfdpTlv) :
    (t.ttype ≠ tEntityId → EntityIdTlv.fromTlv t = .error .tlvType) ∧
    (t.ttype ≠ tFlowLabel → FlowLabelTlv.fromTlv t = .error .tlvType) ∧
    (t.ttype ≠ tMsgToUser → MessageToUserTlv.fromTlv t = .error .tlvType) ∧
    (t.ttype ≠ tFaultHandler → FaultHandlerOverrideTlv.fromTlv t = .error .tlvType) ∧
    (t.ttype ≠ tFsRequest → FileStoreRequestTlv.fromTlv t = .error .tlvType) ∧
    (t.ttype ≠ tFsResponse → FileStoreResponseTlv.fromTlv t = .error .tlvType) :=
  ⟨fun h => if_pos h, fun h => if_pos h, fun h => if_pos h, FaultHandlerOverrideTlv.fromTlv_foreign,
    FileStoreRequestTlv.fromTlv_foreign, FileStoreResponseTlv.fromTlv_foreign⟩

/-- **`unpack` of every concrete class refuses every well-formed TLV of another type with the
    type-mismatch error**: if the octets are a TLV (the generic decoder accepts them) whose type
    is not the class's, the class decoder returns `TlvTypeMissmatch`. -/
theorem C08_type_safe_unpack (d : Bytes) (t : CfdpTlv) (h : CfdpTlv.unpack d = .ok t) :
    (t.ttype ≠ tEntityId → EntityIdTlv.unpack d = .error .tlvType) ∧
    (t.ttype ≠ tFlowLabel → FlowLabelTlv.unpack d = .error .tlvType) ∧
    (t.ttype ≠ tMsgToUser → MessageToUserTlv.unpack d = .error .tlvType) ∧
    (t.ttype ≠ tFaultHandler → FaultHandlerOverrideTlv.unpack d = .error .tlvType) ∧
    (t.ttype ≠ tFsRequest → FileStoreRequestTlv.unpack d = .error .tlvType) ∧
    (t.ttype ≠ tFsResponse → FileStoreResponseTlv.unpack d = .error .tlvType) := by
  obtain ⟨h1, h2, h3, h4, h5, h6⟩ := C08_type_safe_from_tlv t
  rw [EntityIdTlv.unpack_bind, FlowLabelTlv.unpack_bind, MessageToUserTlv.unpack_bind,
    FaultHandlerOverrideTlv.unpack_bind, FileStoreRequestTlv.unpack_bind,
    FileStoreResponseTlv.unpack_bind, h]
  exact ⟨h1, h2, h3, h4, h5, h6⟩

/-- an input that a class decoder accepts starts with the class's type octet, and `from_tlv` was run
    on a TLV of that type -/
private theorem head_of_unpackBind {α : Type} {f : CfdpTlv → Py α} {T : Nat} {d : Bytes} {x : α}
    (h : (CfdpTlv.unpack d >>= f) = .ok x) (hg : ∀ t, t.ttype ≠ T → f t = .error .tlvType) :
    d.head? = some (u8 T) ∧ ∃ v, f ⟨T, v⟩ = .ok x := by
  obtain ⟨v, hf, _, _, hd⟩ := unpackBind_spec hg h
  exact ⟨by rw [hd]; rfl, v, hf⟩

/-- **no object of the wrong kind is ever produced**: whenever a concrete decoder accepts octets,
    their first octet is the class's own TLV type (and the object re-packs under that type);
    whenever `from_tlv` accepts a TLV, it has the class's type. For *all* inputs. -/
theorem C08_type_safe_never_wrong_kind (d : Bytes) :
    (∀ x, EntityIdTlv.unpack d = .ok x → d.head? = some 6 ∧ x.tlv.ttype = 6) ∧
    (∀ x, FlowLabelTlv.unpack d = .ok x → d.head? = some 5 ∧ x.tlv.ttype = 5) ∧
    (∀ x, MessageToUserTlv.unpack d = .ok x → d.head? = some 2 ∧ x.tlv.ttype = 2) ∧
    (∀ x, FaultHandlerOverrideTlv.unpack d = .ok x → d.head? = some 4 ∧ x.tlv.ttype = 4) ∧
    (∀ x, FileStoreRequestTlv.unpack d = .ok x → d.head? = some 0) ∧
    (∀ x, FileStoreResponseTlv.unpack d = .ok x → d.head? = some 1) := by
  rw [FlowLabelTlv.unpack_bind]
  refine ⟨?_, ?_, ?_, fun x h => ?fh,
    fun x h => (head_of_unpackBind h fun _ => FileStoreRequestTlv.fromTlv_foreign).1,
    fun x h => (head_of_unpackBind h fun _ => FileStoreResponseTlv.fromTlv_foreign).1⟩
  case fh =>
    obtain ⟨hd, v, hf⟩ := head_of_unpackBind h fun _ => FaultHandlerOverrideTlv.fromTlv_foreign
    rw [FaultHandlerOverrideTlv.fromTlv_eq, if_neg (fun h => h rfl)] at hf
    split at hf <;> cases hf
    exact ⟨hd, rfl⟩
  -- the three classes that only wrap the generic TLV
  all_goals
    intro x h
    obtain ⟨hd, v, hf⟩ := head_of_unpackBind h fun _ ht => if_pos ht
    cases hf; exact ⟨hd, rfl⟩

/-- the error a `TlvHolder.to_*` conversion raises for a held object of a foreign type, determined
    by the KIND of the held object: a generic `CfdpTlv` goes through `from_tlv` and is refused with
    `TlvTypeMissmatch`; an object of another concrete class is refused with `TypeError` -/
def foreignErr : AnyTlv → Err
  | .generic _ => .tlvType
  | _ => .type

/-- the holder verdicts for a held object whose type is *not* the requested one, class by class,
    with the exact class of the error (`foreignErr`): `TlvTypeMissmatch` for a held generic TLV,
    `TypeError` for a held object of another concrete class -/
theorem C08_type_safe_holder_foreign (a : AnyTlv) :
    (a.tlvType ≠ tEntityId → holderToEntityId a = .error (foreignErr a)) ∧
    (a.tlvType ≠ tFlowLabel → holderToFlowLabel a = .error (foreignErr a)) ∧
    (a.tlvType ≠ tMsgToUser → holderToMsgToUser a = .error (foreignErr a)) ∧
    (a.tlvType ≠ tFaultHandler → holderToFaultHandler a = .error (foreignErr a)) ∧
    (a.tlvType ≠ tFsRequest → holderToFsRequest a = .error (foreignErr a)) ∧
    (a.tlvType ≠ tFsResponse → holderToFsResponse a = .error (foreignErr a)) := by
  cases a with
  | generic t => exact C08_type_safe_from_tlv t
  | _ _ =>
    -- a concrete object: every conversion but the one to its own class is `TypeError` by computation,
    -- and for that one the hypothesis is absurd
    refine ⟨?_, ?_, ?_, ?_, ?_, ?_⟩ <;> first | exact fun _ => rfl | exact fun h => absurd rfl h

/-- **`TlvHolder.to_*`**: a conversion succeeds only if the held object has the requested TLV
    type; a generic TLV goes through `from_tlv` (hence `TlvTypeMissmatch` for a foreign type), a
    concrete object of another class is refused with `TypeError` — never re-labelled. -/
theorem C08_type_safe_holder (a : AnyTlv) :
    (∀ x, holderToEntityId a = .ok x → a.tlvType = tEntityId) ∧
    (∀ x, holderToFlowLabel a = .ok x → a.tlvType = tFlowLabel) ∧
    (∀ x, holderToMsgToUser a = .ok x → a.tlvType = tMsgToUser) ∧
    (∀ x, holderToFaultHandler a = .ok x → a.tlvType = tFaultHandler) ∧
    (∀ x, holderToFsRequest a = .ok x → a.tlvType = tFsRequest) ∧
    (∀ x, holderToFsResponse a = .ok x → a.tlvType = tFsResponse) := by
  have key {α : Type} {y : Py α} {p : Prop} {e : Err} (hf : ¬ p → y = .error e) (x : α) (h : y = .ok x) : p :=
    Classical.byContradiction fun n => by rw [hf n] at h; cases h
  obtain ⟨f1, f2, f3, f4, f5, f6⟩ := C08_type_safe_holder_foreign a
  exact ⟨key f1, key f2, key f3, key f4, key f5, key f6⟩

example : foreignErr (.generic ⟨5, [1]⟩) = .tlvType ∧ foreignErr (.flowLabel ⟨⟨5, [1]⟩⟩) = .type ∧
    holderToEntityId (.generic ⟨5, [1]⟩) = .error .tlvType ∧ holderToEntityId (.flowLabel ⟨⟨5, [1]⟩⟩) = .error .type := by
  decide

-- the (class, foreign type) table on concrete octets: every TLV type through every other class
example : ∀ t ∈ tlvTypes, t ≠ 6 → EntityIdTlv.unpack [u8 t, 1, 7] = .error .tlvType := by decide
example : ∀ t ∈ tlvTypes, t ≠ 5 → FlowLabelTlv.unpack [u8 t, 1, 7] = .error .tlvType := by decide
example : ∀ t ∈ tlvTypes, t ≠ 2 → MessageToUserTlv.unpack [u8 t, 1, 7] = .error .tlvType := by decide
example : ∀ t ∈ tlvTypes, t ≠ 4 → FaultHandlerOverrideTlv.unpack [u8 t, 1, 7] = .error .tlvType := by decide
example : ∀ t ∈ tlvTypes, t ≠ 0 → FileStoreRequestTlv.unpack [u8 t, 2, 0x10, 0] = .error .tlvType := by decide
example : ∀ t ∈ tlvTypes, t ≠ 1 → FileStoreResponseTlv.unpack [u8 t, 3, 0x10, 0, 0] = .error .tlvType := by decide

/-- for every status code of the standard: the action code is its upper nibble (a member of the
    action-code enumeration), the packed status is its lower nibble, and mapping the pair back
    gives the code again -/
theorem C08_status_helpers :
    ∀ s ∈ statusCodesNat,
      statusToActionStatus (s : Int) = .ok (s / 16, s % 16) ∧ statusToInt (s : Int) = s % 16 ∧
      s / 16 ∈ actionCodes ∧ statusFromInt (s / 16) (s % 16) = (s : Int) := by
  decide

/-- pairs that are not in the table map to `INVALID`; `INVALID` itself has no action code -/
theorem C08_status_invalid (a n : Nat) (hn : n < 16) :
    statusFromInt a n = if a * 16 + n ∈ statusCodesNat then ((a * 16 + n : Nat) : Int) else statusInvalid := by
  unfold statusFromInt; rw [shl4_or a n hn]

theorem C08_status_invalid_member : statusToActionStatus statusInvalid = .error .value := by decide

theorem C08_utf8_ascii (b : Bytes) (h : ∀ x ∈ b, x.toNat < 128) : utf8Valid b = true := by
  unfold utf8Valid
  induction b with
  | nil => rfl
  | cons a r ih =>
    have ha : a.toNat < 128 := h a (by simp)
    simp only [utf8ValidFrom, utf8Step, ha, ↓reduceIte]
    exact ih fun x hx => h x (by simp [hx])

example : utf8Valid [0xC3, 0xA4] = true ∧ utf8Valid [0xF0, 0x9D, 0x84, 0x9E] = true ∧
    utf8Valid [0xC0, 0x80] = false ∧ utf8Valid [0xED, 0xA0, 0x80] = false ∧
    utf8Valid [0xF4, 0x90, 0x80, 0x80] = false ∧ utf8Valid [0xE2, 0x82] = false := by decide

end SpVerif.Props.C08
