import SpVerif.Proofs.ByteField
/-!
# C20 — unsigned byte fields keep value, width and big-endian octets coherent

Property theorems only. The model (`Model/ByteField.lean`) keeps the three attributes an
`UnsignedByteField` stores (`_byte_len`, `_val`, `_val_as_bytes`); the theorems show that every
way of building or re-assigning a field through the public API keeps them coherent
(`Coherent`), for **all** values of the 8/16/32/64-bit ranges (no sampling in the proofs).

`Spec.octets w v` is the closed-form big-endian layout: octet `i` of a `w`-octet field holds
`v / 256^(w-1-i) mod 256`.

Interpretation (DESIGN.md §8): for the empty field the int / len / octet views are claimed;
`from_bytes(b"")`, `ByteFieldGenerator.from_int(0, …)` / `.from_bytes(0, …)` and assigning octets to
an empty field are refused with `ValueError` by the code as documented, and proved as such.
-/
namespace SpVerif.Props.C20
open SpVerif SpVerif.ByteField

-- lets `decide` evaluate the concrete non-vacuity examples at the end of the file
private instance : DecidableEq (Py Bytes) := fun a b =>
  match a, b with
  | .ok x, .ok y => if h : x = y then isTrue (by rw [h]) else isFalse (by intro e; cases e; exact h rfl)
  | .error x, .error y => if h : x = y then isTrue (by rw [h]) else isFalse (by intro e; cases e; exact h rfl)
  | .ok _, .error _ => isFalse (by intro e; cases e)
  | .error _, .ok _ => isFalse (by intro e; cases e)
private instance : DecidableEq (Py Field) := fun a b =>
  match a, b with
  | .ok x, .ok y => if h : x = y then isTrue (by rw [h]) else isFalse (by intro e; cases e; exact h rfl)
  | .error x, .error y => if h : x = y then isTrue (by rw [h]) else isFalse (by intro e; cases e; exact h rfl)
  | .ok _, .error _ => isFalse (by intro e; cases e)
  | .error _, .ok _ => isFalse (by intro e; cases e)

/-- the domain of the statement: a supported width and a value representable in it -/
def WF (w v : Nat) : Prop := (w = 0 ∨ w = 1 ∨ w = 2 ∨ w = 4 ∨ w = 8) ∧ v < 256 ^ w

instance (w v : Nat) : Decidable (WF w v) := by unfold WF; infer_instance

/-- coherence of a field object: supported width, value in range, octets = encoding of the value -/
abbrev Coherent (f : Field) : Prop := Inv f

/-- what "big-endian in exactly that width" prescribes, octet by octet -/
def Spec.octets (w v : Nat) : Bytes :=
  if w = 1 then [u8 (v % 256)]
  else if w = 2 then [u8 (v / 256 % 256), u8 (v % 256)]
  else if w = 4 then
    [u8 (v / 16777216 % 256), u8 (v / 65536 % 256), u8 (v / 256 % 256), u8 (v % 256)]
  else if w = 8 then
    [u8 (v / 72057594037927936 % 256), u8 (v / 281474976710656 % 256),
     u8 (v / 1099511627776 % 256), u8 (v / 4294967296 % 256),
     u8 (v / 16777216 % 256), u8 (v / 65536 % 256), u8 (v / 256 % 256), u8 (v % 256)]
  else []

/-- the recursive codec of `BE.lean` is the closed-form layout on every supported width -/
theorem C20_spec (w v : Nat) (hw : w = 0 ∨ w = 1 ∨ w = 2 ∨ w = 4 ∨ w = 8) :
    beBytes w v = Spec.octets w v := by
  rcases hw with rfl | rfl | rfl | rfl | rfl
  · rfl
  · simp [beBytes, Spec.octets]
  · simp [beBytes, Spec.octets]
  · simp only [beBytes, Spec.octets, Nat.div_div_eq_div_mul, Nat.reduceMul]; simp
  · simp only [beBytes, Spec.octets, Nat.div_div_eq_div_mul, Nat.reduceMul]; simp

/-- **construction = Spec**: every in-range (width, value) pair is accepted and the object holds
    exactly the width, the value and the prescribed octets. -/
theorem C20_new (w v : Nat) (wf : WF w v) :
    Field.new (v : Int) (w : Int) = .ok ⟨w, v, Spec.octets w v⟩ := by
  rw [new_nat wf.1, if_pos wf.2, C20_spec w v wf.1]

/-- the concrete subclasses and the generator build the same object -/
theorem C20_new_variants (w v : Nat) (wf : WF w v) (h0 : w ≠ 0) :
    genFromInt (w : Int) (v : Int) = .ok ⟨w, v, Spec.octets w v⟩ ∧
    (w = 1 → u8New (v : Int) = .ok ⟨w, v, Spec.octets w v⟩) ∧
    (w = 2 → u16New (v : Int) = .ok ⟨w, v, Spec.octets w v⟩) ∧
    (w = 4 → u32New (v : Int) = .ok ⟨w, v, Spec.octets w v⟩) ∧
    (w = 8 → u64New (v : Int) = .ok ⟨w, v, Spec.octets w v⟩) := by
  have hn := C20_new w v wf
  have hw : (w : Int) = 1 ∨ (w : Int) = 2 ∨ (w : Int) = 4 ∨ (w : Int) = 8 := by
    have := wf.1; omega
  refine ⟨by rw [genFromInt_eq, if_pos hw, hn], ?_, ?_, ?_, ?_⟩ <;>
    (intro e; subst e; exact hn)

/-- the empty field: `ByteFieldEmpty()` is (width 0, value 0, no octets) -/
theorem C20_empty : emptyNew 0 = .ok ⟨0, 0, []⟩ := by
  have := C20_new 0 0 (by decide)
  simpa [emptyNew, Spec.octets] using this

/-- every object the constructor returns is coherent and stores the arguments unchanged -/
theorem C20_bytes (v n : Int) (f : Field) (h : Field.new v n = .ok f) :
    Coherent f ∧ (f.width : Int) = n ∧ (f.value : Int) = v ∧
    f.asBytes = Spec.octets f.width f.value ∧ f.asBytes.length = f.width ∧
    beNat f.asBytes = f.value := by
  have hi := new_inv h
  rw [new_eq] at h
  split at h <;> cases h
  rename_i g
  exact ⟨hi, (okWidth_toNat g.1).1, by show ((v.toNat : Nat) : Int) = v; omega, C20_spec _ _ hi.1,
    hi.length, hi.beNat⟩

/-- **the views agree** on every coherent field: `int()` is the big-endian number of the octets,
    `len()` their count, `hex_str` is `0x` + their hex digits (absent for the empty field). -/
theorem C20_views (f : Field) (hf : Coherent f) :
    f.intView = beNat f.asBytes ∧ f.lenView = f.asBytes.length ∧
    f.asBytes = Spec.octets f.lenView f.intView ∧
    f.hexStr = (if f.lenView = 0 then none
                else some (String.ofList ('0' :: 'x' :: hexOfBytes f.asBytes))) := by
  refine ⟨hf.beNat.symm, hf.length.symm, ?_, hexStr_eq hf⟩
  rw [Field.asBytes, hf.2.2]; exact C20_spec _ _ hf.1

/-- **refusal**: a negative value, a value too large for the width, or an unsupported width is
    refused with ValueError — by the base class, the four subclasses, `ByteFieldEmpty` and the
    generator (which also refuses width 0). Exactly these are refused (`C20_new_iff`). -/
theorem C20_refuse (v n : Int)
    (h : ¬ okWidth n ∨ v < 0 ∨ ((256 ^ n.toNat : Nat) : Int) ≤ v) :
    Field.new v n = .error .value ∧ genFromInt n v = .error .value := by
  have g : ¬ (okWidth n ∧ 0 ≤ v ∧ v < ((256 ^ n.toNat : Nat) : Int)) := by
    intro ⟨a, b, c⟩
    rcases h with h | h | h
    · exact h a
    · omega
    · omega
  have h1 : Field.new v n = .error .value := by rw [new_eq, if_neg g]
  refine ⟨h1, ?_⟩
  rw [genFromInt_eq]; split
  · exact h1
  · rfl

theorem C20_new_iff (v n : Int) (f : Field) :
    Field.new v n = .ok f ↔
      okWidth n ∧ 0 ≤ v ∧ v < ((256 ^ n.toNat : Nat) : Int) ∧
      f = ⟨n.toNat, v.toNat, Spec.octets n.toNat v.toNat⟩ := by
  rw [new_eq]
  constructor
  · intro h
    split at h <;> cases h
    rename_i g
    exact ⟨g.1, g.2.1, g.2.2, by rw [C20_spec _ _ (okWidth_toNat g.1).2]⟩
  · rintro ⟨a, b, c, rfl⟩
    rw [if_pos ⟨a, b, c⟩, C20_spec _ _ (okWidth_toNat a).2]

theorem C20_refuse_subclasses (v : Int) :
    ((v < 0 ∨ 256 ≤ v) → u8New v = .error .value) ∧
    ((v < 0 ∨ 65536 ≤ v) → u16New v = .error .value) ∧
    ((v < 0 ∨ 4294967296 ≤ v) → u32New v = .error .value) ∧
    ((v < 0 ∨ 18446744073709551616 ≤ v) → u64New v = .error .value) := by
  refine ⟨?_, ?_, ?_, ?_⟩ <;> intro h <;> exact (C20_refuse v _ (by right; simpa using h)).1

/-- the generator and `ByteFieldEmpty` on widths: the generator accepts 1, 2, 4, 8 only -/
theorem C20_refuse_width (n v : Int) :
    (¬ okWidth n → Field.new v n = .error .value ∧ emptyNew n = .error .value) ∧
    (¬ (n = 1 ∨ n = 2 ∨ n = 4 ∨ n = 8) →
      genFromInt n v = .error .value ∧ ∀ s, genFromBytes n s = .error .value) := by
  refine ⟨fun h => ⟨new_bad_width h v, new_bad_width h 0⟩, fun h => ⟨?_, fun s => ?_⟩⟩
  · rw [genFromInt_eq, if_neg h]
  · rw [genFromBytes_eq, if_neg (by intro ⟨a, _⟩; exact h a)]

/-- **round trip through the octets**, for every width 1, 2, 4, 8 and every value: building from
    the field's octets — directly, through the subclass reader (which may be handed a longer
    stream) or through the width-dispatching generator — gives back the same object. -/
theorem C20_roundtrip (w v : Nat) (wf : WF w v) (h0 : w ≠ 0) (rest : Bytes) :
    fromBytes (Spec.octets w v) = .ok ⟨w, v, Spec.octets w v⟩ ∧
    genFromBytes (w : Int) (Spec.octets w v ++ rest) = .ok ⟨w, v, Spec.octets w v⟩ := by
  have hw : W w := by have := wf.1; unfold W; omega
  rw [← C20_spec w v wf.1]
  constructor
  · rw [fromBytes_eq]
    simp only [beBytes_length, hw, ↓reduceIte, beNat_beBytes w v wf.2]
  · rw [genFromBytes_W hw _ (by simp), List.take_left' (beBytes_length w v), beNat_beBytes w v wf.2]

/-- the same, stated on objects: a coherent non-empty field is rebuilt from its own octets -/
theorem C20_roundtrip_obj (f : Field) (hf : Coherent f) (h0 : f.width ≠ 0) (rest : Bytes) :
    fromBytes f.asBytes = .ok f ∧ genFromBytes (f.width : Int) (f.asBytes ++ rest) = .ok f := by
  obtain ⟨hw, hv, hb⟩ := hf
  have := C20_roundtrip f.width f.value ⟨hw, hv⟩ h0 rest
  rw [← C20_spec _ _ hw, ← hb] at this
  cases f
  simpa [Field.asBytes] using this

/-- the generator dispatches on the width to the four subclass readers -/
theorem C20_gen_dispatch (s : Bytes) :
    genFromBytes 1 s = fromU8Bytes s ∧ genFromBytes 2 s = fromU16Bytes s ∧
    genFromBytes 4 s = fromU32Bytes s ∧ genFromBytes 8 s = fromU64Bytes s :=
  ⟨rfl, rfl, rfl, rfl⟩

/-- **from-bytes is total and exact on octet strings**: every string of 1, 2, 4 or 8 octets is
    accepted by `from_bytes`, the result is coherent and its octets are the input (with
    `C20_roundtrip`: a bijection between in-range pairs and octet strings of those lengths). -/
theorem C20_from_bytes (raw : Bytes) (h : W raw.length) :
    ∃ f, fromBytes raw = .ok f ∧ Coherent f ∧ f.asBytes = raw ∧ f.lenView = raw.length ∧
      f.intView = beNat raw :=
  ⟨_, by rw [fromBytes_eq, if_pos h], inv_of_bytes raw rfl h.w0, rfl, rfl, rfl⟩

/-- a stream with at least `n` octets, `n ∈ {1,2,4,8}`: the subclass reader / generator takes the
    first `n` octets and ignores the rest -/
theorem C20_from_stream (n : Nat) (hn : W n) (s : Bytes) (h : n ≤ s.length) :
    ∃ f, genFromBytes (n : Int) s = .ok f ∧ Coherent f ∧ f.asBytes = s.take n ∧ f.lenView = n :=
  ⟨_, genFromBytes_W hn s h, inv_of_bytes _ (by simp; omega) hn.w0, rfl, rfl⟩

/-- **too-short or wrongly sized octet strings are refused with ValueError** — `from_bytes` on any
    length other than 1, 2, 4, 8 (including the empty string), each subclass reader and the
    generator on a stream shorter than the width. -/
theorem C20_refuse_bytes (s : Bytes) :
    (¬ W s.length → fromBytes s = .error .value) ∧
    (s.length < 1 → fromU8Bytes s = .error .value ∧ genFromBytes 1 s = .error .value) ∧
    (s.length < 2 → fromU16Bytes s = .error .value ∧ genFromBytes 2 s = .error .value) ∧
    (s.length < 4 → fromU32Bytes s = .error .value ∧ genFromBytes 4 s = .error .value) ∧
    (s.length < 8 → fromU64Bytes s = .error .value ∧ genFromBytes 8 s = .error .value) := by
  refine ⟨fun h => by rw [fromBytes_eq, if_neg h], ?_, ?_, ?_, ?_⟩ <;> intro h
  · have : fromU8Bytes s = .error .value := by rw [fromU8Bytes_eq, if_pos h]
    exact ⟨this, this⟩
  · have : fromU16Bytes s = .error .value := by rw [fromU16Bytes_eq, if_pos h]
    exact ⟨this, this⟩
  · have : fromU32Bytes s = .error .value := by rw [fromU32Bytes_eq, if_pos h]
    exact ⟨this, this⟩
  · have : fromU64Bytes s = .error .value := by rw [fromU64Bytes_eq, if_pos h]
    exact ⟨this, this⟩

/-- **equality and hashing depend on exactly (value, width)**: `==` holds iff the hashed tuples
    are equal, for any two field objects … -/
theorem C20_eq (f g : Field) :
    f.beq g = true ↔ (f.value, f.width) = (g.value, g.width) := by
  simp [Field.beq]

theorem C20_hash (f g : Field) : f.hashKey = (f.value, f.width) ∧ (f.beq g = true ↔ f.hashKey = g.hashKey) :=
  ⟨rfl, beq_iff f g⟩

/-- … and on coherent fields that is the same as having the same octets, and as being the same
    object state; comparing with an octet string compares with the encoding. -/
theorem C20_eq_coherent (f g : Field) (hf : Coherent f) (hg : Coherent g) :
    (f.beq g = true ↔ f = g) ∧ (f.beq g = true ↔ f.asBytes = g.asBytes) ∧
    (∀ b, f.eqBytes b = true ↔ b = Spec.octets f.width f.value) := by
  refine ⟨⟨fun h => eq_of_key hf hg ((beq_iff f g).1 h), fun h => by subst h; simp [Field.beq]⟩,
    ⟨fun h => by rw [eq_of_key hf hg ((beq_iff f g).1 h)],
     fun h => by rw [eq_of_bytes hf hg h]; simp [Field.beq]⟩, fun b => ?_⟩
  rw [← C20_spec _ _ hf.1, ← hf.2.2]
  simp only [Field.eqBytes, beq_iff_eq]
  exact eq_comm

/-- distinct in-range pairs give unequal fields with distinct octets (no two values share an
    encoding, no two widths either) -/
theorem C20_injective (w v w' v' : Nat) (h : WF w v) (h' : WF w' v')
    (e : Spec.octets w v = Spec.octets w' v') : w = w' ∧ v = v' := by
  rw [← C20_spec _ _ h.1, ← C20_spec _ _ h'.1] at e
  have hw : w = w' := by
    have := congrArg List.length e
    simpa using this
  subst hw
  exact ⟨rfl, beBytes_inj w v v' h.2 h'.2 e⟩

/-- **assigning an integer**: accepted iff it fits the (unchanged) width; value and octets are
    replaced together. Refused (ValueError) otherwise. -/
theorem C20_set_int (f : Field) (hf : Coherent f) (v : Int) :
    f.setInt v =
      if 0 ≤ v ∧ v < ((256 ^ f.width : Nat) : Int)
      then .ok ⟨f.width, v.toNat, Spec.octets f.width v.toNat⟩ else .error .value := by
  rw [setInt_eq f hf.1, C20_spec _ _ hf.1]

/-- **assigning octets**: a string of at least `width` octets is accepted on a non-empty field,
    its first `width` octets become the octets and their big-endian number the value; a shorter
    one is refused with ValueError (as is any assignment of octets to the empty field). -/
theorem C20_set_bytes (f : Field) (hf : Coherent f) (raw : Bytes) :
    f.setBytes raw =
      if f.width = 0 ∨ raw.length < f.width then .error .value
      else .ok ⟨f.width, beNat (raw.take f.width), raw.take f.width⟩ :=
  setBytes_eq f hf.1 raw

/-- **all views stay in step under every history of assignments** (integers and octet strings,
    accepted or refused, in any order and number): the object is coherent after each step, the
    width never changes, and a refused assignment changes nothing. -/
theorem C20_set_coherent (f : Field) (hf : Coherent f) (l : List Assign) :
    Coherent (f.run l) ∧ (f.run l).width = f.width := by
  refine ⟨run_inv hf l, ?_⟩
  induction l generalizing f with
  | nil => rfl
  | cons a l ih =>
    have := ih (f.after a) (after_inv hf a)
    simp only [Field.run, List.foldl_cons] at this ⊢
    rw [this, after_width]

theorem C20_set_step (f : Field) (hf : Coherent f) (a : Assign) :
    Coherent (f.after a) ∧ (∀ e, f.assign a = .error e → f.after a = f ∧ e = .value) ∧
    (∀ g, f.assign a = .ok g → f.after a = g) := by
  refine ⟨after_inv hf a, fun e h => ⟨by simp [Field.after, h], ?_⟩, fun g h => by simp [Field.after, h]⟩
  cases a with
  | int v => rw [Field.assign, setInt_eq f hf.1] at h; split at h <;> cases h; rfl
  | octets raw => rw [Field.assign, setBytes_eq f hf.1] at h; split at h <;> cases h; rfl

/-- the trace the correspondence check compares is the unfolding of `after` -/
theorem C20_trace_states (f : Field) (l : List Assign) :
    (f.trace l).length = l.length ∧
    ∀ i (h : i < (f.trace l).length), ((f.trace l)[i]).2 = f.run (l.take (i + 1)) := by
  induction l generalizing f with
  | nil => exact ⟨rfl, fun i h => absurd h (by simp [Field.trace])⟩
  | cons a l ih =>
    obtain ⟨h1, h2⟩ := ih (f.after a)
    refine ⟨by simp [Field.trace, h1], fun i h => ?_⟩
    cases i with
    | zero => simp [Field.trace, Field.run]
    | succ i =>
      simp only [Field.trace, List.getElem_cons_succ]
      rw [h2 i (by simpa [Field.trace] using h)]
      simp [Field.run]

/-- **`to_unsigned` is big-endian over its whole accepted range**: on widths 1, 2, 4, 8 it accepts
    exactly `0 ≤ v < 256^w` and returns the prescribed octets. -/
theorem C20_unsigned (w : Nat) (hw : W w) (v : Int) (b : Bytes) :
    toUnsigned (w : Int) v = .ok b ↔
      0 ≤ v ∧ v < ((256 ^ w : Nat) : Int) ∧ b = Spec.octets w v.toNat := by
  rw [toUnsigned_W hw, ← C20_spec _ _ hw.w0]
  constructor
  · intro h
    split at h
    · cases h
    · split at h
      · cases h
      · cases h; exact ⟨by omega, by omega, rfl⟩
  · rintro ⟨a, c, rfl⟩
    rw [if_neg (by omega), if_neg (by omega)]

/-- its refusals: too large → ValueError; negative → the `struct.error` of `struct.pack`
    (not a ValueError; outside the accepted range, see manifest note); other widths → ValueError;
    width 0 → `b""` whatever the value. -/
theorem C20_unsigned_refuse (n v : Int) :
    (¬ okWidth n → toUnsigned n v = .error .value) ∧
    (n = 0 → toUnsigned n v = .ok []) ∧
    (∀ w : Nat, W w → n = (w : Int) →
      (((256 ^ w : Nat) : Int) ≤ v → toUnsigned n v = .error .value) ∧
      (v < 0 → toUnsigned n v = .error .struct)) := by
  refine ⟨fun h => toUnsigned_bad h v, fun h => by rw [h, toUnsigned_zero], fun w hw e => ?_⟩
  subst e
  rw [toUnsigned_W hw]
  constructor
  · intro h
    have hp : (0 : Int) ≤ ((256 ^ w : Nat) : Int) := Int.natCast_nonneg _
    rw [if_neg (by omega), if_pos h]
  · intro h; rw [if_pos h]

/-- **`to_signed` is big-endian two's complement over its whole accepted range**: on widths
    1, 2, 4, 8 it accepts exactly `|v| ≤ 2^(8w-1) - 1`; the octets are the unsigned encoding of
    `v mod 256^w`. Everything else is a ValueError (`struct.error` cannot occur). -/
theorem C20_signed (w : Nat) (hw : W w) (v : Int) (b : Bytes) :
    toSigned (w : Int) v = .ok b ↔
      (-((256 ^ w / 2 : Nat) : Int) < v ∧ v < ((256 ^ w / 2 : Nat) : Int)) ∧
      b = Spec.octets w (v % ((256 ^ w : Nat) : Int)).toNat := by
  rw [toSigned_W hw, ← C20_spec _ _ hw.w0]
  constructor
  · intro h
    split at h
    · rename_i g; cases h; exact ⟨g, rfl⟩
    · cases h
  · rintro ⟨g, rfl⟩
    rw [if_pos g]

theorem C20_signed_refuse (n v : Int) :
    (¬ okWidth n → toSigned n v = .error .value) ∧
    (n = 0 → toSigned n v = .ok []) ∧
    (∀ w : Nat, W w → n = (w : Int) →
      (v ≤ -((256 ^ w / 2 : Nat) : Int) ∨ ((256 ^ w / 2 : Nat) : Int) ≤ v) →
      toSigned n v = .error .value) := by
  refine ⟨fun h => toSigned_bad h v, fun h => by rw [h, toSigned_zero], fun w hw e h => ?_⟩
  subst e
  rw [toSigned_W hw, if_neg (by omega)]

/-- two's complement, spelled out: `w` octets; non-negative values are encoded like the unsigned
    helper does, a negative `v` as `256^w + v`; the number read back as unsigned is `v mod 256^w`;
    and decoding with the signed `struct` format returns `v`. -/
theorem C20_signed_twos (w : Nat) (hw : W w) (v : Int) (b : Bytes)
    (h : toSigned (w : Int) v = .ok b) :
    b.length = w ∧ (beNat b : Int) = v % ((256 ^ w : Nat) : Int) ∧ unpackS w b = .ok v ∧
    (0 ≤ v → toUnsigned (w : Int) v = .ok b) ∧
    (v < 0 → b = beBytes w (((256 ^ w : Nat) : Int) + v).toNat) := by
  rw [toSigned_W hw] at h
  split at h
  · rename_i g
    cases h
    have hp : (0 : Int) < ((256 ^ w : Nat) : Int) := by
      have : 0 < 256 ^ w := Nat.pow_pos (by decide)
      omega
    have he := pow_even hw
    have m0 : 0 ≤ v % ((256 ^ w : Nat) : Int) := Int.emod_nonneg _ (by omega)
    have m1 : v % ((256 ^ w : Nat) : Int) < ((256 ^ w : Nat) : Int) := Int.emod_lt_of_pos _ hp
    refine ⟨by simp, ?_, unpackS_packS hw v ⟨by omega, g.2⟩, fun h0 => ?_, fun hn => ?_⟩
    · rw [beNat_beBytes _ _ (by omega)]; omega
    · have e : v % ((256 ^ w : Nat) : Int) = v := Int.emod_eq_of_lt h0 (by omega)
      rw [toUnsigned_W hw, if_neg (by omega), if_neg (by omega), e]
    · have e : v % ((256 ^ w : Nat) : Int) = v + ((256 ^ w : Nat) : Int) := by
        rw [← Int.add_emod_right v]
        exact Int.emod_eq_of_lt (by omega) (by omega)
      rw [e, Int.add_comm]
  · cases h

/-- the two helpers return exactly `byte_num` octets whenever they accept -/
theorem C20_helper_len (n v : Int) (b : Bytes) :
    (toUnsigned n v = .ok b → (b.length : Int) = n) ∧ (toSigned n v = .ok b → (b.length : Int) = n) := by
  by_cases h : okWidth n
  · rcases okWidth_cases h with rfl | ⟨w, hw, rfl⟩
    · rw [toUnsigned_zero, toSigned_zero]
      constructor <;> (intro h; cases h; rfl)
    · constructor
      · intro hh
        have := ((C20_unsigned _ hw v b).1 hh).2.2
        rw [this, ← C20_spec _ _ hw.w0]; simp
      · intro hh
        have := (C20_signed_twos _ hw v b hh).1
        omega
  · rw [toUnsigned_bad h, toSigned_bad h]
    constructor <;> (intro h; cases h)

/-- **only ValueError**: every constructor, reader, generator entry and `to_signed` fails, if at
    all, with the documented ValueError, for every input; so does `to_unsigned` for `v ≥ 0`. -/
theorem C20_documented (v n : Int) (s : Bytes) :
    Documented (Field.new v n) ∧ Documented (fromBytes s) ∧ Documented (genFromBytes n s) ∧
    Documented (genFromInt n v) ∧ Documented (toSigned n v) ∧
    (0 ≤ v → Documented (toUnsigned n v)) :=
  ⟨new_documented v n, fromBytes_documented s, genFromBytes_documented n s,
   genFromInt_documented n v, toSigned_documented n v, toUnsigned_documented n v⟩

-- non-vacuity: concrete non-trivial instances of the hypotheses
example : WF 8 0xFEDCBA9876543210 := by decide
example : WF 0 0 ∧ ¬ WF 0 1 ∧ ¬ WF 3 5 ∧ ¬ WF 2 65536 := by decide
example : Spec.octets 8 0xFEDCBA9876543210 = [0xFE, 0xDC, 0xBA, 0x98, 0x76, 0x54, 0x32, 0x10] := by decide
example : Spec.octets 4 0x80000001 = [0x80, 0x00, 0x00, 0x01] := by decide
example : Coherent ⟨2, 0xFFFE, [0xFF, 0xFE]⟩ := by decide
example : ¬ Coherent ⟨2, 0xFFFE, [0xFE, 0xFF]⟩ := by decide
example : W 4 ∧ W [0xAB, 0xCD].length := by decide
example : toSigned 2 (-2) = .ok [0xFF, 0xFE] := by decide +kernel
example : toSigned 1 (-128) = .error .value ∧ toSigned 1 (-127) = .ok [0x81] := by decide +kernel
example : toUnsigned 8 0xFFFFFFFFFFFFFFFF = .ok [0xFF, 0xFF, 0xFF, 0xFF, 0xFF, 0xFF, 0xFF, 0xFF] := by
  decide +kernel
example : toUnsigned 1 (-1) = .error .struct ∧ toUnsigned 1 256 = .error .value := by decide +kernel
example : (Field.mk 2 0x00AB [0x00, 0xAB]).hexStr = some "0x00ab" := by decide
example : fromBytes [] = .error .value ∧ genFromInt 0 0 = .error .value := by decide +kernel

end SpVerif.Props.C20
