import SpVerif.Model.Verificator
import SpVerif.Proofs.Verificator
/-!
# C16 — The PUS verification tracker follows its state machine for every report history

Property theorems only. The implementation model is `Verificator.step` (a transcription of
`PusVerificator.add_tc / add_tm / remove_entry / remove_completed_entries`, the `if/elif` chain of
`_check_subservice` included); the documented state machine is `Verificator.Spec` (a per-field
transition table, see `Model/Verificator.lean`). A history is a `List Op`; the tracker is keyed by
the 32-bit request id. Step values are natural numbers (what `PacketFieldEnum.val` of a decoded or
constructed step id is).

All history theorems are by induction on the op list and hold for histories of every length, over
any number of telecommands, from `PusVerificator()` or from any tracker with unique keys (every
reachable tracker has unique keys, `C16_keys_unique`). "The entry of `r` survives the history"
(`Alive`) means: `r` is present after every call, i.e. it is the *same* registration throughout
(`C16_alive_iff` gives the prefix formulation).
-/
namespace SpVerif.Props.C16
open SpVerif SpVerif.Verificator

/-- decidable well-formedness of a history: every report has a subservice in 1..8 and every step
    report (5, 6) carries a step id — what `Service1Tm` objects built with verification parameters
    or decoded from octets always satisfy -/
def WF (ops : List Op) : Bool := ops.all Op.WF

/-- non-vacuity: two telecommands interleaved, all eight reports, a duplicate registration, an
    unknown id, both ways of removing -/
def sample : List Op :=
  [.addTc 0x1801C000, .addTc 0x1802C001, .addTm 0x1801C000 1 none, .addTm 0x1802C001 2 none,
   .addTc 0x1801C000, .addTm 0x1801C000 3 none, .addTm 0x1801C000 5 (some 1), .addTm 0x1801C000 6 (some 2),
   .addTm 0x1801C000 5 (some 3), .addTm 0x77 7 none, .addTm 0x1801C000 4 none, .addTm 0x1801C000 8 none,
   .addTm 0x1801C000 7 none, .removeCompleted, .removeEntry 0x1801C000, .removeEntry 0x1801C000]

example : WF sample = true := by decide

example : (trace Tracker.empty (sample.take 13)).getLast? =
    some (.result ⟨true, .success, .failure, .failure, [1, 2, 3], .success⟩ true,
      [(0x1801C000, ⟨true, .success, .failure, .failure, [1, 2, 3], .success⟩),
       (0x1802C001, ⟨true, .failure, .unset, .unset, [], .unset⟩)]) := by decide

example : run Tracker.empty sample = [] := by decide

/-- **one call of the implementation = one call of the state machine**, on every tracker with
    unique keys, for every call in the domain -/
theorem C16_refines_step (t : Tracker) (hu : KeysUnique t) (o : Op) (wf : o.WF = true) :
    step t o = Spec.step t o := by
  cases o with
  | addTc r =>
    cases h : lookup t r with
    | none => simp [addTc_new h, Spec.step, h]
    | some s => simp [addTc_known h, Spec.step, h]
  | addTm r sub v =>
    cases h : lookup t r with
    | none => simp [addTm_unknown h, Spec.step, h]
    | some s =>
      obtain ⟨h1, h8, hv⟩ := (Op.WF_addTm r sub v).1 wf
      rw [addTm_known h sub v h1 h8 hv]
      simp only [Spec.step, h]
      rw [set_eq_map hu h (fun x => Spec.report x sub v)]
  | removeEntry r =>
    cases h : lookup t r with
    | none =>
      rw [removeEntry_unknown h]
      have : erase t r = t := erase_of_not_mem h
      rw [erase_eq_filter hu] at this
      simp only [Spec.step, h, Option.isSome_none]
      rw [this]
    | some s =>
      rw [removeEntry_known h, erase_eq_filter hu]
      simp [Spec.step, h]
  | removeCompleted => rfl

private theorem refines_from (t : Tracker) (hu : KeysUnique t) (ops : List Op) (wf : WF ops = true) :
    trace t ops = Spec.trace t ops := by
  induction ops generalizing t with
  | nil => rfl
  | cons o os ih =>
    simp only [WF, List.all_cons, Bool.and_eq_true] at wf
    have h := C16_refines_step t hu o wf.1
    simp only [trace, Spec.trace]
    rw [← h, ih (step t o).1 (keysUnique_step hu o) wf.2]

/-- **for every history in the domain, every answer and every intermediate dictionary of the
    implementation are those of the documented state machine** -/
theorem C16_refines (ops : List Op) (wf : WF ops = true) :
    trace Tracker.empty ops = Spec.trace Tracker.empty ops :=
  refines_from _ keysUnique_empty ops wf

/-- the `if/elif` chain of `_check_subservice` computes the per-field table: for every status
    record (3^4·2 field combinations, any step list), every subservice 1..8 -/
theorem C16_transition_table (s : VStatus) (sub : Nat) (v : Option Nat) (h1 : 1 ≤ sub) (h8 : sub ≤ 8)
    (hv : sub = 5 ∨ sub = 6 → v.isSome = true) :
    checkSubservice s sub v = (Spec.report s sub v, .ok (Spec.resultFlag sub)) :=
  checkSubservice_eq s sub v h1 h8 hv

/-- **keys stay unique** along every history (also outside the domain) -/
theorem C16_keys_unique (ops : List Op) : KeysUnique (run Tracker.empty ops) :=
  keysUnique_run keysUnique_empty ops

/-- … and from every tracker with unique keys, hence at every point of every history -/
theorem C16_keys_unique_from (t : Tracker) (hu : KeysUnique t) (ops : List Op) : KeysUnique (run t ops) :=
  keysUnique_run hu ops

/-- **a report for an unknown request id yields no result and changes nothing**, whatever its
    subservice and step id -/
theorem C16_unknown (t : Tracker) (r sub : Nat) (v : Option Nat) (h : lookup t r = none) :
    step t (.addTm r sub v) = (t, .noResult) :=
  addTm_unknown h sub v

/-- the converse: a report in the domain for a registered id always yields a result -/
theorem C16_known_result (t : Tracker) (r sub : Nat) (v : Option Nat) (s : VStatus) (h : lookup t r = some s)
    (wf : (Op.addTm r sub v).WF = true) :
    ∃ s' c, (step t (.addTm r sub v)).2 = .result s' c ∧ lookup (step t (.addTm r sub v)).1 r = some s' := by
  obtain ⟨h1, h8, hv⟩ := (Op.WF_addTm r sub v).1 wf
  rw [addTm_known h sub v h1 h8 hv]
  exact ⟨_, _, rfl, lookup_set_eq _ _ _ (by simp [h])⟩

/-- **a duplicate registration is refused and the existing entry is not reset** (the whole
    dictionary is unchanged) -/
theorem C16_duplicate (t : Tracker) (r : Nat) (s : VStatus) (h : lookup t r = some s) :
    step t (.addTc r) = (t, .added false) :=
  addTc_known h

/-- a new telecommand is accepted, filed last with the initial record, and nothing else changes -/
theorem C16_register (t : Tracker) (r : Nat) (h : lookup t r = none) :
    step t (.addTc r) = (t ++ [(r, VStatus.init)], .added true) ∧
      lookup (step t (.addTc r)).1 r = some ⟨false, .unset, .unset, .unset, [], .unset⟩ ∧
      ∀ r', r' ≠ r → lookup (step t (.addTc r)).1 r' = lookup t r' := by
  rw [addTc_new h]
  refine ⟨rfl, by simp [lookup_append, h, VStatus.init], ?_⟩
  intro r' hne
  have : ¬ r = r' := fun x => hne x.symm
  cases h' : lookup t r' <;> simp [lookup_append, h', this]

/-- **a report touches no other telecommand**: every entry under another key is the same before and
    after, and the set (and order) of keys is unchanged — for every subservice value -/
theorem C16_isolation (t : Tracker) (r sub : Nat) (v : Option Nat) :
    (∀ r', r' ≠ r → lookup (step t (.addTm r sub v)).1 r' = lookup t r') ∧
      keys (step t (.addTm r sub v)).1 = keys t := by
  exact ⟨fun r' hne => addTm_lookup_ne t r sub v hne, by rw [keys_step]⟩

/-- **within its own record a report writes only the field of its family** (acceptance 1/2,
    start 3/4, step and step list 5/6, completion 7/8) — plus the all-received mark -/
theorem C16_field_frame (t : Tracker) (r sub : Nat) (v : Option Nat) (s s' : VStatus)
    (h : lookup t r = some s) (h' : lookup (step t (.addTm r sub v)).1 r = some s') :
    (sub ≠ 1 → sub ≠ 2 → s'.accepted = s.accepted) ∧
    (sub ≠ 3 → sub ≠ 4 → s'.started = s.started) ∧
    (sub ≠ 5 → sub ≠ 6 → s'.step = s.step ∧ s'.stepList = s.stepList) ∧
    (sub ≠ 7 → sub ≠ 8 → s'.completed = s.completed) := by
  obtain rfl : Spec.report s sub v = s' := Option.some.inj ((addTm_lookup_eq h sub v).symm.trans h')
  refine ⟨?_, ?_, ?_, ?_⟩
  · intro a b; simp [Spec.report, Spec.accepted, a, b]
  · intro a b; simp [Spec.report, Spec.started, a, b]
  · intro a b; simp [Spec.report, Spec.stepField, Spec.stepList, a, b]
  · intro a b; simp [Spec.report, Spec.completed, a, b]

/-- what each report writes into the field of its family -/
theorem C16_field_values (s : VStatus) (v : Option Nat) :
    (Spec.report s 1 v).accepted = .success ∧ (Spec.report s 2 v).accepted = .failure ∧
    (Spec.report s 3 v).started = .success ∧ (Spec.report s 4 v).started = .failure ∧
    (Spec.report s 5 v).step = (if s.step = .unset then .success else s.step) ∧
    (Spec.report s 6 v).step = .failure ∧
    (Spec.report s 7 v).completed = .success ∧ (Spec.report s 8 v).completed = .failure := by
  refine ⟨rfl, rfl, rfl, rfl, ?_, rfl, rfl, rfl⟩
  simp [Spec.report, Spec.stepField]

/-- single call: whatever the call is, if the entry is still there its step field is still
    `failure` -/
theorem C16_step_sticky_step (t : Tracker) (hu : KeysUnique t) (r : Nat) (s s' : VStatus) (o : Op)
    (h : lookup t r = some s) (hf : s.step = .failure) (h' : lookup (step t o).1 r = some s') :
    s'.step = .failure := by
  exact entry_invariant_step (P := fun x => x.step = .failure) Spec.report_step_of_failure hu h hf o h'

/-- **once a step failure is recorded it stays recorded**, along every history the entry survives
    (later step successes, repeated reports, reports for other telecommands, registrations and
    removals of other entries included) -/
theorem C16_step_sticky (t : Tracker) (hu : KeysUnique t) (r : Nat) (s : VStatus) (ops : List Op)
    (h : lookup t r = some s) (hf : s.step = .failure) (alive : Alive t r ops) :
    ∃ s', lookup (run t ops) r = some s' ∧ s'.step = .failure :=
  entry_invariant (P := fun x => x.step = .failure) Spec.report_step_of_failure hu h hf ops alive

/-- a step success after a step failure in particular -/
example : (run Tracker.empty [.addTc 9, .addTm 9 6 (some 4), .addTm 9 5 (some 5)]) =
    [(9, ⟨false, .unset, .unset, .failure, [4, 5], .unset⟩)] := by decide

/-- **the result's `completed` flag is set exactly for failure reports and completion reports**
    (subservices 2, 4, 6, 7, 8), independent of the state -/
theorem C16_completed_flag (t : Tracker) (r sub : Nat) (v : Option Nat) (s' : VStatus) (c : Bool)
    (h : (step t (.addTm r sub v)).2 = .result s' c) :
    (c = true ↔ sub = 2 ∨ sub = 4 ∨ sub = 6 ∨ sub = 7 ∨ sub = 8) := by
  obtain ⟨s, -, -, -, -, -, rfl⟩ := addTm_result h
  simp [Spec.resultFlag]

/-- the status of the result is the record stored in the dictionary after the call -/
theorem C16_result_is_entry (t : Tracker) (r sub : Nat) (v : Option Nat) (s' : VStatus) (c : Bool)
    (h : (step t (.addTm r sub v)).2 = .result s' c) :
    lookup (step t (.addTm r sub v)).1 r = some s' := by
  obtain ⟨s, hl, -, -, -, rfl, -⟩ := addTm_result h
  exact addTm_lookup_eq hl sub v

/-- **'all verifications received' after a report = it was set before, or this report finishes the
    sequence per the table**: acceptance failure; start failure with an acceptance report seen;
    step failure / completion success / completion failure with acceptance and start reports seen -/
theorem C16_all_recvd_exact (t : Tracker) (r sub : Nat) (v : Option Nat) (s s' : VStatus)
    (h : lookup t r = some s) (h1 : 1 ≤ sub) (h8 : sub ≤ 8)
    (h' : lookup (step t (.addTm r sub v)).1 r = some s') :
    (s'.allRecvd = true ↔
      s.allRecvd = true ∨ sub = 2 ∨ (sub = 4 ∧ s.accepted ≠ .unset)
        ∨ ((sub = 6 ∨ sub = 7 ∨ sub = 8) ∧ s.accepted ≠ .unset ∧ s.started ≠ .unset)) := by
  obtain rfl : Spec.report s sub v = s' := Option.some.inj ((addTm_lookup_eq h sub v).symm.trans h')
  simp [Spec.report, Spec.finishes]

/-- single call: the mark never reverts while the entry is there -/
theorem C16_all_recvd_monotone_step (t : Tracker) (hu : KeysUnique t) (r : Nat) (s s' : VStatus) (o : Op)
    (h : lookup t r = some s) (hf : s.allRecvd = true) (h' : lookup (step t o).1 r = some s') :
    s'.allRecvd = true := by
  exact entry_invariant_step (P := fun x => x.allRecvd = true) Spec.report_allRecvd_of_true hu h hf o h'

/-- **'all verifications received' never reverts** along any history the entry survives -/
theorem C16_all_recvd_monotone (t : Tracker) (hu : KeysUnique t) (r : Nat) (s : VStatus) (ops : List Op)
    (h : lookup t r = some s) (hf : s.allRecvd = true) (alive : Alive t r ops) :
    ∃ s', lookup (run t ops) r = some s' ∧ s'.allRecvd = true :=
  entry_invariant (P := fun x => x.allRecvd = true) Spec.report_allRecvd_of_true hu h hf ops alive

/-- only a report for the telecommand itself can set the mark -/
theorem C16_all_recvd_only_by_report (t : Tracker) (hu : KeysUnique t) (r : Nat) (s s' : VStatus) (o : Op)
    (h : lookup t r = some s) (hf : s.allRecvd = false) (h' : lookup (step t o).1 r = some s')
    (hs : s'.allRecvd = true) : ∃ sub v, o = .addTm r sub v ∧ Spec.finishes sub s = true := by
  rcases step_entry hu h o h' with ⟨e, _⟩ | ⟨sub, v, ho, e⟩
  · subst e; simp [hf] at hs
  · subst e
    refine ⟨sub, v, ho, ?_⟩
    simpa [Spec.report, hf] using hs

/-- **the step list is the sequence of step values reported for that id, in order**: along every
    history the entry survives, the list grows by exactly the step values of the step reports
    (5 and 6) addressed to `r` -/
theorem C16_step_list (t : Tracker) (hu : KeysUnique t) (r : Nat) (s : VStatus) (ops : List Op)
    (h : lookup t r = some s) (alive : Alive t r ops) :
    ∃ s', lookup (run t ops) r = some s' ∧ s'.stepList = s.stepList ++ stepsFor r ops := by
  induction ops generalizing t s with
  | nil => exact ⟨s, h, by simp [stepsFor]⟩
  | cons o os ih =>
    obtain ⟨h0, hrest⟩ := alive
    obtain ⟨s1, h1⟩ := Option.isSome_iff_exists.1 h0
    have hl : s1.stepList = s.stepList ++ stepsOf r o := by
      rcases step_entry hu h o h1 with ⟨e, e2⟩ | ⟨sub, v, ho, e⟩
      · rw [e, e2]; simp
      · rw [e, ho]; exact Spec.report_stepList s r sub v
    obtain ⟨s', hs', hl'⟩ := ih _ (keysUnique_step hu o) _ h1 hrest
    refine ⟨s', hs', ?_⟩
    rw [hl', hl]
    simp [stepsFor]

/-- from the registration on: the list is exactly what was reported since -/
theorem C16_step_list_from_registration (t : Tracker) (hu : KeysUnique t) (r : Nat) (ops : List Op)
    (h : lookup t r = none) (alive : Alive t r (.addTc r :: ops)) :
    ∃ s', lookup (run t (.addTc r :: ops)) r = some s' ∧ s'.stepList = stepsFor r ops := by
  have hreg := (C16_register t r h).2.1
  have := C16_step_list (step t (.addTc r)).1 (keysUnique_step hu _) r _ ops hreg alive.2
  simpa [run] using this

example : stepsFor 7 [.addTm 7 5 (some 1), .addTm 8 5 (some 9), .addTm 7 1 (some 3), .addTm 7 6 (some 2),
    .addTm 7 5 none, .removeCompleted] = [1, 2] := by decide

/-- **removing completed entries removes exactly those marked finished**: the dictionary afterwards
    is the sub-dictionary (same order) of the entries without the mark; nothing is returned -/
theorem C16_remove_completed (t : Tracker) :
    (step t .removeCompleted).2 = .done ∧
    (∀ e, e ∈ (step t .removeCompleted).1 ↔ e ∈ t ∧ e.2.allRecvd = false) ∧
    ((step t .removeCompleted).1).Sublist t := by
  refine ⟨rfl, ?_, ?_⟩
  · intro e; simp [removeCompleted_eq]
  · rw [removeCompleted_eq]; exact List.filter_sublist

/-- … per request id (unique keys): an entry survives iff it is not marked, unchanged -/
theorem C16_remove_completed_lookup (t : Tracker) (hu : KeysUnique t) (r : Nat) :
    lookup (step t .removeCompleted).1 r = (lookup t r).filter (fun s => !s.allRecvd) := by
  rw [removeCompleted_eq, lookup_filter hu]

/-- **removing one entry** removes that entry and only it; an unknown id is reported as `False` -/
theorem C16_remove_entry (t : Tracker) (hu : KeysUnique t) (r : Nat) :
    (step t (.removeEntry r)).2 = .removed (lookup t r).isSome ∧
    lookup (step t (.removeEntry r)).1 r = none ∧
    (∀ r', r' ≠ r → lookup (step t (.removeEntry r)).1 r' = lookup t r') ∧
    ((lookup t r) = none → (step t (.removeEntry r)).1 = t) := by
  cases h : lookup t r with
  | none =>
    rw [removeEntry_unknown h]
    exact ⟨rfl, h, fun _ _ => rfl, fun _ => rfl⟩
  | some s =>
    rw [removeEntry_known h]
    exact ⟨rfl, lookup_erase_eq hu r, fun r' hne => lookup_erase_ne _ _ _ hne, fun x => by simp at x⟩

/-- a removed telecommand can be registered again and starts from the initial record -/
example : run Tracker.empty [.addTc 5, .addTm 5 2 none, .removeCompleted, .addTc 5] = [(5, VStatus.init)] := by
  decide

/-- a subservice outside 1..8 for a registered id is refused with `ValueError`, nothing changes -/
theorem C16_bad_subservice (t : Tracker) (r sub : Nat) (v : Option Nat) (s : VStatus) (h : lookup t r = some s)
    (hs : sub = 0 ∨ 8 < sub) : step t (.addTm r sub v) = (t, .raised .value) :=
  addTm_bad_subservice h sub v hs

/-- **no call in the domain raises**; outside the domain the only errors are `ValueError`
    (subservice) and `AttributeError` (step report whose `step_id` is `None`) -/
theorem C16_errors (t : Tracker) (o : Op) (e : Err) (h : (step t o).2 = .raised e) :
    o.WF = false ∧ (e = .value ∨ e = .attr) := by
  cases o with
  | addTc r => cases hl : lookup t r <;> simp [step, addTc, hl] at h
  | removeEntry r => cases hl : lookup t r <;> simp [step, removeEntry, hl] at h
  | removeCompleted => simp [step, removeCompleted] at h
  | addTm r sub v =>
    cases hl : lookup t r with
    | none => rw [addTm_unknown hl] at h; cases h
    | some s =>
      have nwf (hn : ¬ (1 ≤ sub ∧ sub ≤ 8 ∧ (sub = 5 ∨ sub = 6 → v.isSome = true))) :
          (Op.addTm r sub v).WF = false := Bool.eq_false_iff.2 (mt (Op.WF_addTm r sub v).1 hn)
      by_cases hb : sub = 0 ∨ 8 < sub
      · rw [addTm_bad_subservice hl sub v hb] at h
        exact ⟨nwf (by omega), .inl (Out.raised.inj h).symm⟩
      by_cases hv : sub = 5 ∨ sub = 6 → v.isSome = true
      · rw [addTm_known hl sub v (by omega) (by omega) hv] at h; cases h
      · rw [addTm_no_step_id hl hv] at h
        exact ⟨nwf (fun x => hv x.2.2), .inr (Out.raised.inj h).symm⟩

/-- "survives the history" = present after every non-empty prefix -/
theorem C16_alive_iff (t : Tracker) (r : Nat) (ops : List Op) :
    Alive t r ops ↔ ∀ n, 0 < n → n ≤ ops.length → (lookup (run t (ops.take n)) r).isSome = true := by
  induction ops generalizing t with
  | nil => simp only [Alive, List.length_nil, true_iff]; intro n hn hle; omega
  | cons o os ih =>
    simp only [Alive, ih]
    constructor
    · rintro ⟨h0, hrest⟩ n hn hle
      cases n with
      | zero => omega
      | succ m =>
        cases m with
        | zero => simpa [run] using h0
        | succ k =>
          have := hrest (k + 1) (by omega) (by simpa using hle)
          simpa [run] using this
    · intro hall
      refine ⟨by simpa [run] using hall 1 (by omega) (by simp), ?_⟩
      intro n hn hle
      have := hall (n + 1) (by omega) (by simpa using hle)
      simpa [run] using this

/-- a history without removals keeps every registered telecommand alive -/
theorem C16_alive_without_removals (t : Tracker) (hu : KeysUnique t) (r : Nat) (s : VStatus) (ops : List Op)
    (h : lookup t r = some s)
    (hops : ∀ o ∈ ops, o ≠ .removeEntry r ∧ o ≠ .removeCompleted) : Alive t r ops := by
  induction ops generalizing t s with
  | nil => trivial
  | cons o os ih =>
    have ho := hops o (by simp)
    -- only the two removals take a key away
    have hk : r ∈ keys (step t o).1 := by
      have hk : r ∈ keys t := (lookup_isSome_iff t r).1 (by rw [h]; rfl)
      rw [keys_step]
      cases o with
      | addTc r0 => dsimp only; split <;> simp [hk]
      | addTm r0 sub v => exact hk
      | removeEntry r0 => exact (List.mem_erase_of_ne fun x => ho.1 (congrArg _ x.symm)).2 hk
      | removeCompleted => exact absurd rfl ho.2
    obtain ⟨s1, h1⟩ := Option.isSome_iff_exists.1 ((lookup_isSome_iff _ r).2 hk)
    exact ⟨by simp [h1], ih _ (keysUnique_step hu o) _ h1 (fun o' ho' => hops o' (List.mem_cons_of_mem _ ho'))⟩

end SpVerif.Props.C16
