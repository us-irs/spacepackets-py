import SpVerif.Proofs.CfdpHeader
/-!
# C05 — CFDP fixed PDU header is encoded exactly per CCSDS 727.0-B-5 and round-trips

Property theorems only. `Spec.octets` is the layout of CCSDS 727.0-B-5 §5.1 (table 5-1) as arithmetic:
octet 0 = version `001` (3 bits) | PDU type | direction | transmission mode | CRC flag | large-file flag,
octets 1,2 = PDU data field length big-endian,
octet 3 = segmentation control | (entity-ID length − 1) (3 bits) | segment-metadata flag | (seq-number length − 1) (3 bits),
then source entity ID ‖ transaction sequence number ‖ destination entity ID, each big-endian.
-/
namespace SpVerif.Props.C05
open SpVerif SpVerif.CfdpHeader

/-- a byte field the header can carry: width 1, 2, 4 or 8 and a value of that width -/
def WFField (f : BF) : Prop := okWidth f.width ∧ f.value < 256 ^ f.width

/-- the domain the statement quantifies over: seven one-bit flags, a 16-bit data-field length,
    entity-ID width and sequence-number width in {1,2,4,8} (both IDs of the same width) and every
    value of those widths -/
def WF (h : PduHeader) : Prop :=
  h.pduType < 2 ∧ h.conf.direction < 2 ∧ h.conf.transMode < 2 ∧ h.conf.crcFlag < 2 ∧ h.conf.fileFlag < 2 ∧
  h.conf.segCtrl < 2 ∧ h.segMeta < 2 ∧ h.dataFieldLen < 65536 ∧
  WFField h.conf.source ∧ WFField h.conf.seqNum ∧ WFField h.conf.dest ∧
  h.conf.dest.width = h.conf.source.width

instance (f : BF) : Decidable (WFField f) := by unfold WFField; infer_instance
instance (h : PduHeader) : Decidable (WF h) := by unfold WF; infer_instance

/-- what the standard prescribes -/
def Spec.octets (h : PduHeader) : Bytes :=
  [u8 (32 + h.pduType * 16 + h.conf.direction * 8 + h.conf.transMode * 4 + h.conf.crcFlag * 2 + h.conf.fileFlag),
   u8 (h.dataFieldLen / 256), u8 (h.dataFieldLen % 256),
   u8 (h.conf.segCtrl * 128 + (h.conf.source.width - 1) * 16 + h.segMeta * 8 + (h.conf.seqNum.width - 1))]
  ++ beBytes h.conf.source.width h.conf.source.value
  ++ beBytes h.conf.seqNum.width h.conf.seqNum.value
  ++ beBytes h.conf.source.width h.conf.dest.value

-- arithmetic facts, proved in an empty context
private theorem a0 (t d m c l n : Nat) (ht : t < 2) (hd : d < 2) (hm : m < 2) (hc : c < 2) (hl : l < 2)
    (hn : n = 32 + t * 16 + d * 8 + m * 4 + c * 2 + l) :
    n % 256 / 32 = 1 ∧ n % 256 / 16 % 2 = t ∧ n % 256 / 8 % 2 = d ∧ n % 256 / 4 % 2 = m ∧
    n % 256 / 2 % 2 = c ∧ n % 256 % 2 = l := by omega
private theorem a3 (g i m j n : Nat) (hg : g < 2) (hi : 1 ≤ i ∧ i ≤ 8) (hm : m < 2) (hj : 1 ≤ j ∧ j ≤ 8)
    (hn : n = g * 128 + (i - 1) * 16 + m * 8 + (j - 1)) :
    n % 256 / 128 % 2 = g ∧ n % 256 / 16 % 8 + 1 = i ∧ n % 256 / 8 % 2 = m ∧ n % 256 % 8 + 1 = j := by omega
private theorem a12 (n : Nat) (h : n < 65536) : n / 256 % 256 * 256 + n % 256 % 256 = n := by omega
private theorem a1 (n : Nat) (h : n < 65536) : n / 256 % 256 = n / 256 := by omega
private theorem b0 (x : Nat) (hv : x / 32 = 1) :
    32 + x / 16 % 2 * 16 + x / 8 % 2 * 8 + x / 4 % 2 * 4 + x / 2 % 2 * 2 + x % 2 = x := by omega
private theorem b3 (x : Nat) (hx : x < 256) :
    x / 128 % 2 * 128 + (x / 16 % 8 + 1 - 1) * 16 + x / 8 % 2 * 8 + (x % 8 + 1 - 1) = x := by omega
private theorem b12 (x y : Nat) (hy : y < 256) : (x * 256 + y) / 256 = x ∧ (x * 256 + y) % 256 = y := by omega

/-- octets 0 and 3 of the layout, and the three ID fields behind the fixed octets -/
private def oct0 (h : PduHeader) : UInt8 :=
  u8 (32 + h.pduType * 16 + h.conf.direction * 8 + h.conf.transMode * 4 + h.conf.crcFlag * 2 + h.conf.fileFlag)
private def oct3 (h : PduHeader) : UInt8 :=
  u8 (h.conf.segCtrl * 128 + (h.conf.source.width - 1) * 16 + h.segMeta * 8 + (h.conf.seqNum.width - 1))
private def ids (h : PduHeader) : Bytes :=
  beBytes h.conf.source.width h.conf.source.value ++ beBytes h.conf.seqNum.width h.conf.seqNum.value
    ++ beBytes h.conf.source.width h.conf.dest.value

private theorem octets_eq (h : PduHeader) :
    Spec.octets h = oct0 h :: u8 (h.dataFieldLen / 256) :: u8 (h.dataFieldLen % 256) :: oct3 h :: ids h := rfl

/-- the decoder's readings of octets 0 and 3 of a header of the domain -/
private theorem oct_fields (h : PduHeader) (wf : WF h) :
    ((oct0 h).toNat / 32 = 1 ∧ (oct0 h).toNat / 16 % 2 = h.pduType ∧ (oct0 h).toNat / 8 % 2 = h.conf.direction ∧
      (oct0 h).toNat / 4 % 2 = h.conf.transMode ∧ (oct0 h).toNat / 2 % 2 = h.conf.crcFlag ∧
      (oct0 h).toNat % 2 = h.conf.fileFlag) ∧
    ((oct3 h).toNat / 128 % 2 = h.conf.segCtrl ∧ (oct3 h).toNat / 16 % 8 + 1 = h.conf.source.width ∧
      (oct3 h).toNat / 8 % 2 = h.segMeta ∧ (oct3 h).toNat % 8 + 1 = h.conf.seqNum.width) := by
  obtain ⟨ht, hd, hm, hc, hl, hg, hs, _, ⟨hsw, _⟩, ⟨hqw, _⟩, _, _⟩ := wf
  simp only [oct0, oct3, u8_toNat]
  exact ⟨a0 _ _ _ _ _ _ ht hd hm hc hl rfl,
    a3 _ _ _ _ _ hg ⟨okWidth_pos hsw, okWidth_le hsw⟩ hs ⟨okWidth_pos hqw, okWidth_le hqw⟩ rfl⟩

/-- **pack = standard layout**, for every flag combination, width combination, ID / sequence
    value and data-field length. -/
theorem C05_pack_exact (h : PduHeader) (wf : WF h) : h.pack = .ok (Spec.octets h) := by
  obtain ⟨ht, hd, hm, hc, hl, hg, hs, hn, ⟨hsw, _⟩, ⟨hqw, _⟩, _, hdw⟩ := wf
  have p1 := okWidth_pos hsw
  have p2 := okWidth_le hsw
  have q1 := okWidth_pos hqw
  have q2 := okWidth_le hqw
  have g : ¬ (h.conf.source.width = 0 ∨ h.conf.seqNum.width = 0) := by omega
  unfold PduHeader.pack
  rw [byteOfN_ok (show 32 + h.pduType * 16 + h.conf.direction * 8 + h.conf.transMode * 4
        + h.conf.crcFlag * 2 + h.conf.fileFlag < 256 by omega),
    byteOfN_ok (show h.conf.segCtrl * 128 + (h.conf.source.width - 1) * 16 + h.segMeta * 8
        + (h.conf.seqNum.width - 1) < 256 by omega)]
  simp only [g, ↓reduceIte, bind, Except.bind, pure, Except.pure, Spec.octets, BF.bytes, a1 _ hn, hdw]

/-- **length**: 4 + 2·idwidth + seqwidth, which is what `header_len` and `PduConfig.header_len()` report -/
theorem C05_len (h : PduHeader) (wf : WF h) :
    (Spec.octets h).length = 4 + 2 * h.conf.source.width + h.conf.seqNum.width ∧
    h.headerLen = (Spec.octets h).length ∧ h.conf.headerLen = (Spec.octets h).length := by
  obtain ⟨_, _, _, _, _, _, _, _, _, _, _, hdw⟩ := wf
  simp only [Spec.octets, List.length_append, List.length_cons, List.length_nil, beBytes_length,
    PduHeader.headerLen, PduConfig.headerLen, hdw]
  omega

theorem C05_pack_len (h : PduHeader) (wf : WF h) : ∃ b, h.pack = .ok b ∧ b.length = h.headerLen :=
  ⟨_, C05_pack_exact h wf, (C05_len h wf).2.1.symm⟩

theorem C05_packet_len (h : PduHeader) :
    h.packetLen = h.dataFieldLen + (4 + 2 * h.conf.source.width + h.conf.seqNum.width) := rfl

/-- the constructor accepts every member of the domain and stores it unchanged -/
theorem C05_new (h : PduHeader) (wf : WF h) :
    PduHeader.new h.pduType h.segMeta h.dataFieldLen h.conf = .ok h := by
  obtain ⟨_, _, _, _, _, _, _, hn, _, _, _, hdw⟩ := wf
  have g : ¬ (65535 < h.dataFieldLen ∨ h.conf.source.width ≠ h.conf.dest.width) := by omega
  rw [new_eq, if_neg g]

/-- **decode ∘ encode = id** for every member of the domain, whatever follows the header
    (one theorem for all 2^7 flag combinations × 16 width combinations × all values × all lengths) -/
theorem C05_roundtrip (h : PduHeader) (wf : WF h) (rest : Bytes) :
    PduHeader.unpack (Spec.octets h ++ rest) = .ok h := by
  obtain ⟨A0, A3⟩ := oct_fields h wf
  obtain ⟨_, _, _, _, _, _, _, hn, ⟨hsw, hsv⟩, ⟨hqw, hqv⟩, ⟨_, hdv⟩, hdw⟩ := wf
  rw [octets_eq]
  show PduHeader.unpack (_ :: _ :: _ :: _ :: (_ ++ _ ++ _ ++ rest)) = _
  rw [unpack_layout]
  · rw [hdw] at hdv
    simp only [u8_toNat, A0, A3, a12 _ hn, beNat_beBytes _ _ hsv, beNat_beBytes _ _ hqv, beNat_beBytes _ _ hdv]
    cases h with
    | mk t m n c =>
      cases c with
      | mk s d q tm ff cf dir sc =>
        cases s; cases d; cases q
        simp only at hdw
        simp only [hdw]
  · exact A0.1
  · rw [A3.2.1]; exact hsw
  · rw [A3.2.2.2]; exact hqw
  · rw [A3.2.1, beBytes_length]
  · rw [A3.2.2.2, beBytes_length]
  · rw [A3.2.1, beBytes_length]

theorem C05_unpack_pack (h : PduHeader) (wf : WF h) (rest : Bytes) :
    (h.pack >>= fun b => PduHeader.unpack (b ++ rest)) = .ok h := by
  rw [C05_pack_exact h wf, bind_ok]; exact C05_roundtrip h wf rest

theorem C05_pack_injective (h1 h2 : PduHeader) (w1 : WF h1) (w2 : WF h2)
    (he : Spec.octets h1 = Spec.octets h2) : h1 = h2 :=
  ok_unique (C05_roundtrip h1 w1 []) (C05_roundtrip h2 w2 []) (congrArg (· ++ []) he)

private theorem wf_decoded (x0 x1 x2 x3 : UInt8) (r : Bytes)
    (hi : okWidth (x3.toNat / 16 % 8 + 1)) (hs : okWidth (x3.toNat % 8 + 1))
    (hl : 2 * (x3.toNat / 16 % 8 + 1) + (x3.toNat % 8 + 1) ≤ r.length) :
    WF (decoded x0.toNat x1.toNat x2.toNat x3.toNat r) := by
  have c1 := toNat_lt x1
  have c2 := toNat_lt x2
  obtain ⟨l1, l2, l3⟩ := id_slice_lengths r _ _ hl
  unfold WF WFField decoded
  refine ⟨?_, ?_, ?_, ?_, ?_, ?_, ?_, ?_, ⟨hi, beNat_lt_of_length l1⟩, ⟨hs, beNat_lt_of_length l2⟩,
    ⟨hi, beNat_lt_of_length l3⟩, rfl⟩ <;> simp only <;> omega

/-- **encode ∘ decode = identity on the header octets**: whenever the decoder accepts, the result
    is in the domain, the buffer holds the whole header, and re-encoding gives exactly the first
    `header_len` octets of the buffer (with `C05_roundtrip`: a bijection). -/
theorem C05_decode_encode (b : Bytes) (h : PduHeader) (hu : PduHeader.unpack b = .ok h) :
    WF h ∧ h.headerLen ≤ b.length ∧ h.pack = .ok (b.take h.headerLen) := by
  obtain ⟨x0, x1, x2, x3, r, rfl, hv, hi, hs, hl, rfl⟩ := unpack_ok_inv hu
  have wf := wf_decoded x0 x1 x2 x3 r hi hs hl
  refine ⟨wf, ?_, ?_⟩
  · simp only [decoded, PduHeader.headerLen, List.length_cons]; omega
  · rw [C05_pack_exact _ wf]
    congr 1
    obtain ⟨l1, l2, l3⟩ := id_slice_lengths r _ _ hl
    simp only [Spec.octets, decoded, PduHeader.headerLen, b0 _ hv, b3 _ (toNat_lt x3),
      (b12 _ _ (toNat_lt x2)).1, (b12 _ _ (toNat_lt x2)).2, u8_toNat_self, beBytes_beNat_of_length l1,
      beBytes_beNat_of_length l2, beBytes_beNat_of_length l3]
    rw [show 4 + 2 * (x3.toNat / 16 % 8 + 1) + (x3.toNat % 8 + 1)
      = ((x3.toNat / 16 % 8 + 1) + (x3.toNat % 8 + 1) + (x3.toNat / 16 % 8 + 1)) + 4 by omega]
    simp only [List.take_succ_cons, List.cons_append, List.nil_append, List.take_add, List.drop_drop,
      List.append_assoc]

/-- source and destination IDs of different widths are refused (`ValueError`), by the constructor
    and by `set_entity_ids` -/
theorem C05_refuse_widths (t m n : Nat) (c : PduConfig) (hw : c.source.width ≠ c.dest.width) :
    PduHeader.new t m n c = .error .value := by
  rw [new_eq, if_pos (Or.inr hw)]

theorem C05_refuse_widths_setter (h : PduHeader) (s d : BF) (hw : s.width ≠ d.width) :
    h.setEntityIds s d = .error .value := by
  rw [setEntityIds_eq, if_pos hw]

/-- a data-field length above 65 535 is refused (`ValueError`), by the constructor and by the setter -/
theorem C05_refuse_len (t m n : Nat) (c : PduConfig) (hn : 65535 < n) :
    PduHeader.new t m n c = .error .value := by
  rw [new_eq, if_pos (Or.inl hn)]

theorem C05_refuse_len_setter (h : PduHeader) (n : Nat) (hn : 65535 < n) :
    h.setDataFieldLen n = .error .value := by
  rw [setDataFieldLen_eq, if_pos hn]

/-- the setters accept what is allowed and change nothing else -/
theorem C05_setters_accept (h : PduHeader) (n : Nat) (s d : BF) (hn : n ≤ 65535) (hw : s.width = d.width) :
    h.setDataFieldLen n = .ok { h with dataFieldLen := n } ∧
    h.setEntityIds s d = .ok { h with conf := { h.conf with source := s, dest := d } } := by
  constructor
  · rw [setDataFieldLen_eq, if_neg (by omega)]
  · rw [setEntityIds_eq, if_neg (by omega)]

/-- an unsupported version (anything but `001`) is refused with `UnsupportedCfdpVersion`,
    for every buffer of at least four octets -/
theorem C05_refuse_version (x0 x1 x2 x3 : UInt8) (r : Bytes) (hv : x0.toNat / 32 ≠ 1) :
    PduHeader.unpack (x0 :: x1 :: x2 :: x3 :: r) = .error .cfdpVersion := by
  rw [unpack_cons4, if_pos hv]

/-- a width code other than 1/2/4/8 (entity IDs or sequence number) is refused with `ValueError` -/
theorem C05_refuse_code (x0 x1 x2 x3 : UInt8) (r : Bytes) (hv : x0.toNat / 32 = 1)
    (hc : ¬ okWidth (x3.toNat / 16 % 8 + 1) ∨ ¬ okWidth (x3.toNat % 8 + 1)) :
    PduHeader.unpack (x0 :: x1 :: x2 :: x3 :: r) = .error .value := by
  rw [unpack_cons4, if_neg (by omega)]
  rcases hc with hc | hc
  · rw [if_pos hc]
  · by_cases hi : ¬ okWidth (x3.toNat / 16 % 8 + 1)
    · rw [if_pos hi]
    · rw [if_neg hi, if_pos hc]

/-- `check_len_in_bytes` accepts exactly 1, 2, 4, 8 -/
theorem C05_check_len (n : Nat) :
    checkLenInBytes n = if n = 1 ∨ n = 2 ∨ n = 4 ∨ n = 8 then .ok n else .error .value := rfl

/-- fewer than four octets are refused with the documented too-short error (a `ValueError`) -/
theorem C05_short (b : Bytes) (h : b.length < 4) : PduHeader.unpack b = .error .value :=
  unpack_short b h

/-- every strict prefix of a packed header is refused with `ValueError` -/
theorem C05_truncated (h : PduHeader) (wf : WF h) (k : Nat) (hk : k < h.headerLen) :
    PduHeader.unpack ((Spec.octets h).take k) = .error .value := by
  by_cases h4 : k < 4
  · apply unpack_short; simp; omega
  · obtain ⟨A0, A3⟩ := oct_fields h wf
    obtain ⟨j, rfl⟩ : ∃ j, k = j + 4 := ⟨k - 4, by omega⟩
    have g4 : ((ids h).take j).length < 2 * h.conf.source.width + h.conf.seqNum.width := by
      simp only [ids, List.length_take, List.length_append, beBytes_length]
      unfold PduHeader.headerLen at hk
      omega
    rw [octets_eq]
    show PduHeader.unpack (_ :: _ :: _ :: _ :: (ids h).take j) = _
    rw [unpack_cons4, if_neg (by rw [A0.1]; exact fun h => h rfl), A3.2.1, A3.2.2.2,
      if_neg (fun h => h wf.2.2.2.2.2.2.2.2.1.1), if_neg (fun h => h wf.2.2.2.2.2.2.2.2.2.1.1), if_pos g4]

/-- `header_len_from_raw` agrees with `header_len` of the decoded header -/
theorem C05_header_len_from_raw (b : Bytes) (h : PduHeader) (hu : PduHeader.unpack b = .ok h) :
    headerLenFromRaw b = .ok h.headerLen := by
  obtain ⟨x0, x1, x2, x3, r, rfl, _, _, _, _, rfl⟩ := unpack_ok_inv hu
  exact headerLenFromRaw_cons4 x0 x1 x2 x3 r

theorem C05_header_len_from_raw_pack (h : PduHeader) (wf : WF h) (rest : Bytes) :
    headerLenFromRaw (Spec.octets h ++ rest) = .ok (Spec.octets h).length := by
  rw [C05_header_len_from_raw _ h (C05_roundtrip h wf rest), (C05_len h wf).2.1]

/-- `header_len_from_raw` refuses fewer than four octets with `ValueError` and is total otherwise -/
theorem C05_header_len_from_raw_total (b : Bytes) :
    (b.length < 4 → headerLenFromRaw b = .error .value) ∧
    (4 ≤ b.length → ∃ n, headerLenFromRaw b = .ok n ∧ 7 ≤ n ∧ n ≤ 28) := by
  constructor
  · exact headerLenFromRaw_short b
  · intro h4
    obtain ⟨x0, x1, x2, x3, r, rfl⟩ := exists_cons4 b h4
    exact ⟨_, headerLenFromRaw_cons4 x0 x1 x2 x3 r, by omega, by omega⟩

/-- the decoder fails, for any octet string whatever, only with `ValueError` or
    `UnsupportedCfdpVersion` (never IndexError / struct.error) -/
theorem C05_unpack_errors (b : Bytes) (e : Err) (h : PduHeader.unpack b = .error e) :
    e = .value ∨ e = .cfdpVersion := unpack_error b e h

theorem C05_unpack_documented (b : Bytes) : Documented (PduHeader.unpack b) := unpack_documented b

/-- the decoder reads nothing beyond the header: the result depends only on the first
    `header_len` octets -/
theorem C05_unpack_prefix (b : Bytes) (h : PduHeader) (hu : PduHeader.unpack b = .ok h) (rest : Bytes) :
    PduHeader.unpack (b.take h.headerLen ++ rest) = .ok h := by
  obtain ⟨wf, _, hp⟩ := C05_decode_encode b h hu
  rw [C05_pack_exact h wf] at hp
  rw [← Except.ok.inj hp]
  exact C05_roundtrip h wf rest

/-- a header whose IDs or sequence number are empty byte fields (`PduConfig.empty()`) cannot be
    packed: `ValueError` -/
theorem C05_pack_empty_width (h : PduHeader) (h0 : h.conf.source.width = 0 ∨ h.conf.seqNum.width = 0) :
    h.pack = .error .value := by
  unfold PduHeader.pack byteOfN
  split
  · simp [bind, Except.bind, throw, throwThe, MonadExceptOf.throw]
  · simp [bind, Except.bind]

/-- `verify_length_and_checksum`: complete verdict — too short → `ValueError`; CRC flag set and
    CRC-16 over exactly the declared PDU non-zero → `InvalidCrc`; otherwise `packet_len` -/
theorem C05_verify (h : PduHeader) (d : Bytes) :
    h.verifyLengthAndChecksum d =
      if d.length < h.packetLen then .error .value
      else if h.conf.crcFlag = 1 ∧ Crc.crc16 (d.take h.packetLen) ≠ 0 then .error .crc
      else .ok h.packetLen := verify_eq h d

/-- a PDU body followed by its CRC-16 trailer (and anything after it) passes the check -/
theorem C05_verify_accepts_trailer (h : PduHeader) (m rest : Bytes) (hl : m.length + 2 = h.packetLen) :
    h.verifyLengthAndChecksum (m ++ Crc.crcTrailer m ++ rest) = .ok h.packetLen := by
  have hlen : (m ++ Crc.crcTrailer m).length = h.packetLen := by
    simp [Crc.crcTrailer, Crc.be16]; omega
  rw [verify_eq]
  have g1 : ¬ (m ++ Crc.crcTrailer m ++ rest).length < h.packetLen := by
    simp only [List.length_append] at hlen ⊢; omega
  have t : (m ++ Crc.crcTrailer m ++ rest).take h.packetLen = m ++ Crc.crcTrailer m := List.take_left' hlen
  rw [if_neg g1, t, Crc.crc16_residue]
  simp

-- non-vacuity: concrete non-trivial members of the domain (8-octet IDs, 4-octet sequence number,
-- every flag set) and the prescribed octets
example : WF ⟨1, 1, 0xFEDC, ⟨⟨8, 0x0102030405060708⟩, ⟨8, 0xF1F2F3F4F5F6F7F8⟩, ⟨4, 0xA1A2A3A4⟩, 1, 1, 1, 1, 1⟩⟩ := by
  decide
example : Spec.octets ⟨1, 1, 0xFEDC, ⟨⟨8, 0x0102030405060708⟩, ⟨8, 0xF1F2F3F4F5F6F7F8⟩, ⟨4, 0xA1A2A3A4⟩, 1, 1, 1, 1, 1⟩⟩
    = [0x3F, 0xFE, 0xDC, 0xFB, 1, 2, 3, 4, 5, 6, 7, 8, 0xA1, 0xA2, 0xA3, 0xA4,
       0xF1, 0xF2, 0xF3, 0xF4, 0xF5, 0xF6, 0xF7, 0xF8] := by decide
example : WF ⟨0, 0, 7, ⟨⟨1, 255⟩, ⟨1, 0⟩, ⟨2, 0x1234⟩, 0, 0, 0, 0, 0⟩⟩ := by decide
example : Spec.octets ⟨0, 0, 7, ⟨⟨1, 255⟩, ⟨1, 0⟩, ⟨2, 0x1234⟩, 0, 0, 0, 0, 0⟩⟩ = [0x20, 0, 7, 0x01, 255, 0x12, 0x34, 0] := by
  decide
-- refusals are not vacuous either
example : PduHeader.new 0 0 65536 PduConfig.default = .error .value := by rfl
example : PduHeader.new 0 0 0 { PduConfig.default with dest := ⟨2, 0⟩ } = .error .value := by rfl
example : PduHeader.unpack [0x40, 0, 0, 0x11, 0, 0, 0, 0, 0, 0, 0] = .error .cfdpVersion :=
  C05_refuse_version _ _ _ _ _ (by decide)
example : PduHeader.unpack [0x20, 0, 0, 0x20, 0, 0, 0, 0, 0, 0, 0] = .error .value :=
  C05_refuse_code _ _ _ _ _ (by decide) (Or.inl (by decide))

end SpVerif.Props.C05
