import SpVerif.Model.Parser
import SpVerif.Proofs.Parser
/-!
# C13 — Space-packet stream parser reassembles losslessly under any fragmentation

Property theorems only. Model: `SpVerif.Parser` (`parse_space_packets` as it is in `/repo` now).

* `scanPy`/`parseCall`/`runPy` are the Python-faithful versions in the `Py` monad (they perform the
  `struct.unpack` calls of the code); `scan`/`call`/`run` are the pure functions. `C13_total*`:
  the former never fail and compute the latter, for **every** buffer, deque, ID list and schedule.
* A *schedule* is any list of `append c` (the caller's `deque.append`) and `parse` steps
  (`Parser.Step`); `fed s` is the concatenation of what it appends. Every way of cutting a stream
  into chunks (every subset of cut positions) together with every placement of parser calls is a
  schedule with `fed s = stream`; there is no bound on the number or size of chunks or packets.
* The statement's objects: `WFPacket` (registered ID, complete, length = length field + 7), `Junk`
  (octets between packets at none of which a registered ID can be read), `Incomplete` (the
  not-yet-complete tail), `stream` (junk₁ ‖ packet₁ ‖ junk₂ ‖ packet₂ ‖ … ‖ rest) — all decidable.

`Spec` for this property is the decomposition itself: the parser applied to `stream segs rest`
must return exactly the packets of `segs`, in order, and then go on with `rest` (`C13_stream`).
-/
namespace SpVerif.Props.C13
open SpVerif SpVerif.Parser

/-- a complete space packet whose (masked) packet ID is registered: at least seven octets, and as
    long as its length field says (`length field + 7`) -/
def WFPacket (ids : List Nat) (p : Bytes) : Prop :=
  6 < p.length ∧ pidOf p ∈ ids ∧ p.length = totalOf p

/-- octets `j` in front of `x` that "cannot be a registered packet ID": at no position of `j` whose
    successor octet is known does the 16-bit word (masked with `0x1FFF`) equal a registered ID.
    (The successor of the last octet of `j` is the first octet of `x`.) -/
def Junk (ids : List Nat) (j x : Bytes) : Prop :=
  ∀ i, i < j.length → i + 1 < (j ++ x).length → pidOf ((j ++ x).drop i) ∉ ids

/-- the not-yet-complete tail: fewer than seven octets of anything, or the beginning of a packet
    with a registered ID that is shorter than its header announces -/
def Incomplete (ids : List Nat) (t : Bytes) : Prop :=
  t.length ≤ 6 ∨ (pidOf t ∈ ids ∧ t.length < totalOf t)

/-- junk₁ ‖ packet₁ ‖ … ‖ junkₙ ‖ packetₙ ‖ rest -/
def stream : List (Bytes × Bytes) → Bytes → Bytes
  | [], rest => rest
  | (j, p) :: segs, rest => j ++ p ++ stream segs rest

/-- every segment is junk (possibly empty) followed by a well-formed packet -/
def WFStream (ids : List Nat) : List (Bytes × Bytes) → Prop
  | [] => True
  | (j, p) :: segs => Junk ids j p ∧ WFPacket ids p ∧ WFStream ids segs

/-- the packets of a stream, in stream order -/
def packetsOf (segs : List (Bytes × Bytes)) : List Bytes := segs.map (·.2)

instance (ids : List Nat) (p : Bytes) : Decidable (WFPacket ids p) := by unfold WFPacket; infer_instance
instance (ids : List Nat) (j x : Bytes) : Decidable (Junk ids j x) := by unfold Junk; infer_instance
instance (ids : List Nat) (t : Bytes) : Decidable (Incomplete ids t) := by unfold Incomplete; infer_instance
instance instDecWFStream (ids : List Nat) : (segs : List (Bytes × Bytes)) → Decidable (WFStream ids segs)
  | [] => isTrue trivial
  | (j, p) :: segs =>
    have := instDecWFStream ids segs
    by unfold WFStream; infer_instance

/-- the scan performs its two `struct.unpack` calls only on slices of exactly two octets: no
    `struct.error`, no `IndexError`, for every buffer and every ID list; and it terminates
    (well-founded recursion on the number of remaining octets) -/
theorem C13_total (ids : List Nat) (buf : Bytes) : scanPy ids buf = .ok (scan ids buf) := by
  fun_induction scan ids buf with
  | case1 rest h6 => rw [scanPy, dif_pos h6]; rfl
  | case2 rest h6 hpid hinc =>
    rw [scanPy_long ids rest (Nat.not_le.1 h6), if_pos hpid, if_pos hinc]; rfl
  | case3 rest h6 hpid hinc r ih =>
    rw [scanPy_long ids rest (Nat.not_le.1 h6), if_pos hpid, if_neg hinc, ih]; rfl
  | case4 rest h6 hpid ih =>
    rw [scanPy_long ids rest (Nat.not_le.1 h6), if_neg hpid, ih]

/-- one call on any deque succeeds and is the pure `call` -/
theorem C13_total_call (ids : List Nat) (q : List Bytes) : parseCall ids q = .ok (call ids q) := by
  unfold parseCall call
  split
  · rfl
  · dsimp only
    split
    · rfl
    · rw [C13_total, bind_ok]; rfl

/-- any schedule of appends and calls on any deque succeeds and is the pure `run` -/
theorem C13_total_run (ids : List Nat) (q : List Bytes) (s : List Step) :
    runPy ids q s = .ok (run ids q s) := by
  induction s generalizing q with
  | nil => rfl
  | cons st s ih =>
    cases st with
    | append c => exact ih _
    | parse => rw [runPy, C13_total_call, bind_ok, ih, bind_ok]; rfl

/-- drain – concatenate – scan – re-insert: a call returns what a scan of the concatenated deque
    returns, and the deque afterwards concatenates to the residual of that scan (whatever the
    number and sizes of the chunks that were in the deque) -/
theorem C13_call (ids : List Nat) (q : List Bytes) :
    (call ids q).1 = (scan ids q.flatten).1 ∧ (call ids q).2.flatten = (scan ids q.flatten).2 := by
  unfold call
  split
  · next hq =>
    obtain rfl : q = [] := by simpa using hq
    simp [scan_short]
  · split
    · next hl => rw [scan_short ids q.flatten (by rw [headerLen] at hl; omega)]; simp
    · exact ⟨rfl, requeue_flatten _⟩

/-- after a call the deque holds at most one chunk -/
theorem C13_call_one_chunk (ids : List Nat) (q : List Bytes) : (call ids q).2.length ≤ 1 := by
  unfold call requeue
  split
  · simp
  · split
    · simp
    · split <;> simp

/-- **chunking**: scanning `a ++ b` is scanning `a`, then scanning what was left of `a` followed by
    `b`: a decision taken at a scan position depends only on octets that were available when it was
    taken -/
theorem C13_chunk (ids : List Nat) (a b : Bytes) :
    scan ids (a ++ b) =
      ((scan ids a).1 ++ (scan ids ((scan ids a).2 ++ b)).1, (scan ids ((scan ids a).2 ++ b)).2) := by
  fun_induction scan ids a with
  | case1 rest h6 => simp
  | case2 rest h6 hpid hinc => simp
  | case3 rest h6 hpid hinc r ih =>
    simp only [headerLen] at h6
    have hle : totalOf rest ≤ rest.length := by omega
    rw [scan_match ids (rest ++ b) (by simp; omega) (by rw [pidOf_append _ _ (by omega)]; exact hpid)
      (by rw [totalOf_append _ _ (by omega)]; simp; omega)]
    rw [totalOf_append _ _ (by omega), List.drop_append_of_le_length hle,
      List.take_append_of_le_length hle, ih]
    simp [r]
  | case4 rest h6 hpid ih =>
    simp only [headerLen] at h6
    rw [scan_skip ids (rest ++ b) (by simp; omega) (by rw [pidOf_append _ _ (by omega)]; exact hpid)]
    rw [List.drop_append_of_le_length (by omega), ih]

/-- **every schedule** (induction over the schedule): at any point of any interleaving of appends
    and parser calls, starting from any deque, the packets returned so far followed by what a scan
    of the present deque returns are exactly what ONE scan of all octets fed returns — and the
    residuals agree -/
theorem C13_any_schedule (ids : List Nat) (q : List Bytes) (s : List Step) :
    scan ids (q.flatten ++ fed s) =
      (returned (run ids q s).1 ++ (scan ids (run ids q s).2.flatten).1,
       (scan ids (run ids q s).2.flatten).2) := by
  induction s generalizing q with
  | nil => simp [run, fed, returned]
  | cons st s ih =>
    cases st with
    | append c => simpa [fed, run] using ih (q ++ [c])
    | parse =>
      have h := ih (call ids q).2
      rw [(C13_call ids q).2] at h
      simp only [fed, run, returned_cons, (C13_call ids q).1]
      rw [C13_chunk ids q.flatten (fed s), h]
      simp

/-- **after any parser call**: whatever the schedule before it, once a call has been made all the
    packets returned up to and including it are exactly those of one scan of everything fed so far,
    and the deque concatenates to exactly that scan's residual -/
theorem C13_after_parse (ids : List Nat) (q : List Bytes) (s : List Step) :
    returned (run ids q (s ++ [.parse])).1 = (scan ids (q.flatten ++ fed s)).1 ∧
    (run ids q (s ++ [.parse])).2.flatten = (scan ids (q.flatten ++ fed s)).2 := by
  rw [run_append, C13_any_schedule ids q s]
  simpa [run, returned] using C13_call ids (run ids q s).2

/-- the schedule "append one chunk, call the parser" for a list of chunks -/
def feedEach (cs : List Bytes) : List Step := cs.flatMap fun c => [.append c, .parse]

private theorem fed_feedEach (cs : List Bytes) : fed (feedEach cs) = cs.flatten := by
  induction cs with
  | nil => rfl
  | cons c cs ih => simpa [feedEach, fed] using ih

/-- **every fragmentation**: for every list of chunks (every set of cut positions, empty chunks
    included), calling the parser after each chunk returns in total what one call on the unfragmented
    stream returns, and leaves the same residual -/
theorem C13_feed_eq_batch (ids : List Nat) (cs : List Bytes) (hne : cs ≠ []) :
    returned (run ids [] (feedEach cs)).1 = (scan ids cs.flatten).1 ∧
    (run ids [] (feedEach cs)).2.flatten = (scan ids cs.flatten).2 := by
  obtain ⟨cs', c, rfl⟩ : ∃ cs' c, cs = cs' ++ [c] :=
    ⟨cs.dropLast, cs.getLast hne, (List.dropLast_concat_getLast hne).symm⟩
  have e : feedEach (cs' ++ [c]) = (feedEach cs' ++ [.append c]) ++ [.parse] := by
    simp [feedEach]
  have hf : fed (feedEach cs' ++ [.append c]) = (cs' ++ [c]).flatten := by
    rw [fed_append, fed_feedEach]; simp [fed]
  have := C13_after_parse ids [] (feedEach cs' ++ [.append c])
  rw [← e, hf] at this
  simpa using this

private theorem wf_take (ids : List Nat) (rest : Bytes) (hpid : pidOf rest ∈ ids)
    (hle : totalOf rest ≤ rest.length) : WFPacket ids (rest.take (totalOf rest)) := by
  have h7 := totalOf_ge rest
  refine ⟨by simp; omega, ?_, ?_⟩
  · rw [pidOf_take _ _ (by omega) hle]; exact hpid
  · rw [totalOf_take _ _ (by omega) hle]; simp; omega

/-- whatever the buffer, every returned element is a complete packet with a registered ID whose
    length is the one its header announces -/
theorem C13_sound (ids : List Nat) (buf : Bytes) : ∀ p ∈ (scan ids buf).1, WFPacket ids p := by
  fun_induction scan ids buf with
  | case1 rest h6 => simp
  | case2 rest h6 hpid hinc => simp
  | case3 rest h6 hpid hinc r ih =>
    intro p hp
    rcases List.mem_cons.1 hp with rfl | hp
    · exact wf_take ids rest hpid (Nat.not_lt.1 hinc)
    · exact ih p hp
  | case4 rest h6 hpid ih => exact ih

/-- the residual kept in the deque is a suffix of what was scanned -/
theorem C13_residual_suffix (ids : List Nat) (buf : Bytes) : (scan ids buf).2 <:+ buf := by
  fun_induction scan ids buf with
  | case1 rest h6 => exact List.suffix_refl _
  | case2 rest h6 hpid hinc => exact List.suffix_refl _
  | case3 rest h6 hpid hinc r ih => exact List.IsSuffix.trans ih (List.drop_suffix _ _)
  | case4 rest h6 hpid ih => exact List.IsSuffix.trans ih (List.drop_suffix _ _)

/-- **the residual is always "not yet decidable"**: for every input, what the scan leaves in the
    deque is `Incomplete` — at most six octets of anything, or the beginning of a packet with a
    registered ID that is shorter than its header announces. (Never a complete registered packet,
    never more than six octets that do not start with a registered ID.) -/
theorem C13_residual_incomplete (ids : List Nat) (buf : Bytes) : Incomplete ids (scan ids buf).2 := by
  fun_induction scan ids buf with
  | case1 rest h6 => exact Or.inl (by simpa [headerLen] using h6)
  | case2 rest h6 hpid hinc => exact Or.inr ⟨hpid, by omega⟩
  | case3 rest h6 hpid hinc r ih => exact ih
  | case4 rest h6 hpid ih => exact ih

/-- an incomplete tail is kept whole -/
theorem C13_incomplete (ids : List Nat) (t : Bytes) (h : Incomplete ids t) : scan ids t = ([], t) := by
  rcases h with h | ⟨hp, hl⟩
  · exact scan_short ids t h
  · exact scan_incomplete ids t hp hl

/-- a second call without new data returns nothing and leaves the residual as it is -/
theorem C13_idem (ids : List Nat) (a : Bytes) : scan ids (scan ids a).2 = ([], (scan ids a).2) :=
  C13_incomplete ids _ (C13_residual_incomplete ids a)

/-- scanning the residual again returns no packet and keeps it whole -/
theorem C13_residual_quiet (ids : List Nat) (buf : Bytes) :
    (scan ids (scan ids buf).2).1 = [] ∧ scan ids (scan ids buf).2 = ([], (scan ids buf).2) := by
  have h := C13_incomplete ids _ (C13_residual_incomplete ids buf)
  exact ⟨by rw [h], h⟩

/-- a strict prefix of a well-formed packet is an incomplete tail -/
theorem C13_prefix_incomplete (ids : List Nat) (t c : Bytes) (hc : c ≠ []) (hp : WFPacket ids (t ++ c)) :
    Incomplete ids t := by
  obtain ⟨h6, hid, hlen⟩ := hp
  have hcl : 0 < c.length := List.length_pos_iff.mpr hc
  by_cases hs : t.length ≤ 6
  · exact Or.inl hs
  · refine Or.inr ⟨?_, ?_⟩
    · rw [← pidOf_append t c (by omega)]; exact hid
    · rw [← totalOf_append t c (by omega), ← hlen]; simp; omega

private theorem junk_widen (ids : List Nat) (j p x : Bytes) (hp : 2 ≤ p.length) (hj : Junk ids j p) :
    Junk ids j (p ++ x) := by
  intro i hi _
  have h := hj i hi (by simp; omega)
  rw [← List.append_assoc, List.drop_append_of_le_length (by simp; omega),
    pidOf_append _ _ (by simp; omega)]
  exact h

/-- **stream theorem** (parser = Spec): for packets `P₁ … Pₙ` with registered IDs and
    `|Pᵢ| = length field + 7`, each preceded by junk `Jᵢ` (possibly empty) in which no position carries
    a registered ID, followed by ANY further octets `rest`, the scan returns `P₁ … Pₙ` — each exactly
    once, complete, byte-identical, in stream order — and then continues with `rest` exactly as if
    the stream had started there -/
theorem C13_stream (ids : List Nat) (segs : List (Bytes × Bytes)) (rest : Bytes) (h : WFStream ids segs) :
    scan ids (stream segs rest) = (packetsOf segs ++ (scan ids rest).1, (scan ids rest).2) := by
  induction segs with
  | nil => simp [stream, packetsOf]
  | cons seg segs ih =>
    obtain ⟨j, p⟩ := seg
    obtain ⟨hj, hp, hs⟩ := h
    obtain ⟨h6, hid, hlen⟩ := hp
    simp only [stream, List.append_assoc]
    have e : min j.length ((j ++ (p ++ stream segs rest)).length - 6) = j.length := by simp; omega
    rw [scan_junk ids j _ (junk_widen ids j p _ (by omega) hj), e, List.drop_left,
      scan_packet ids p _ h6 hid hlen, ih hs]
    simp [packetsOf]

/-- the stream ends in an incomplete tail (a strict prefix of a further packet, or fewer than seven
    octets): exactly the packets are returned and exactly the tail stays in the queue -/
theorem C13_stream_tail (ids : List Nat) (segs : List (Bytes × Bytes)) (t : Bytes)
    (h : WFStream ids segs) (ht : Incomplete ids t) :
    scan ids (stream segs t) = (packetsOf segs, t) := by
  rw [C13_stream ids segs t h, C13_incomplete ids t ht]; simp

/-- junk in front of the incomplete tail: junk octets are skipped as long as more than six octets
    remain; the tail is kept whole (the residual is the last `max |t| (min 6 |j ++ t|)` octets) -/
theorem C13_stream_junk_tail (ids : List Nat) (segs : List (Bytes × Bytes)) (j t : Bytes)
    (h : WFStream ids segs) (hj : Junk ids j t) (ht : Incomplete ids t) :
    scan ids (stream segs (j ++ t)) =
      (packetsOf segs, (j ++ t).drop (min j.length ((j ++ t).length - 6))) := by
  have hi : Incomplete ids ((j ++ t).drop (min j.length ((j ++ t).length - 6))) := by
    by_cases hk : j.length ≤ (j ++ t).length - 6
    · rw [Nat.min_eq_left hk, List.drop_left]; exact ht
    · exact Or.inl (by simp at hk ⊢; omega)
  rw [C13_stream ids segs (j ++ t) h, scan_junk ids j t hj, C13_incomplete ids _ hi]; simp

/-- the residual of `C13_stream_junk_tail` ends with the whole tail -/
theorem C13_tail_kept (j t : Bytes) : t <:+ (j ++ t).drop (min j.length ((j ++ t).length - 6)) := by
  refine ⟨j.drop (min j.length ((j ++ t).length - 6)), ?_⟩
  rw [List.drop_append_of_le_length (Nat.min_le_left _ _)]

private theorem junk_nil (ids : List Nat) (x : Bytes) : Junk ids [] x := by
  intro i hi; simp at hi

private theorem junk_cons (ids : List Nat) (o : UInt8) (j y : Bytes)
    (h0 : pidOf (o :: (j ++ y)) ∉ ids) (hj : Junk ids j y) : Junk ids (o :: j) y := by
  intro i hi hi'
  cases i with
  | zero => simpa using h0
  | succ i =>
    have := hj i (by simp at hi; omega) (by simp at hi' ⊢; omega)
    simpa using this

/-- **the decomposition always exists**: every octet string is (uniquely, by `C13_stream_junk_tail`)
    of the form junk₁ ‖ packet₁ ‖ … ‖ junkₙ ‖ packetₙ ‖ junk ‖ incomplete tail with well-formed
    registered packets and junk that carries no registered ID. Hence the stream theorem and the
    lossless corollary speak about EVERY input: the parser's result on arbitrary octets is
    prescribed by the statement (this is why the correspondence check may treat every generated
    stream as an input inside the property's domain). -/
theorem C13_every_stream (ids : List Nat) (b : Bytes) :
    ∃ segs j t, WFStream ids segs ∧ Junk ids j t ∧ Incomplete ids t ∧ b = stream segs (j ++ t) := by
  fun_induction scan ids b with
  | case1 rest h6 => exact ⟨[], [], rest, trivial, junk_nil ids _, Or.inl h6, by simp [stream]⟩
  | case2 rest h6 hpid hinc =>
    exact ⟨[], [], rest, trivial, junk_nil ids _, Or.inr ⟨hpid, by omega⟩, by simp [stream]⟩
  | case3 rest h6 hpid hinc r ih =>
    obtain ⟨segs, j, t, hs, hj, ht, he⟩ := ih
    refine ⟨([], rest.take (totalOf rest)) :: segs, j, t,
      ⟨junk_nil ids _, wf_take ids rest hpid (Nat.not_lt.1 hinc), hs⟩, hj, ht, ?_⟩
    simp only [stream, List.nil_append, ← he, List.take_append_drop]
  | case4 rest h6 hpid ih =>
    obtain ⟨segs, j, t, hs, hj, ht, he⟩ := ih
    simp only [headerLen] at h6
    obtain ⟨o, tl, rfl⟩ := List.exists_cons_of_length_pos (show 0 < rest.length by omega)
    simp only [List.drop_succ_cons, List.drop_zero] at he
    cases segs with
    | nil =>
      simp only [stream] at he
      exact ⟨[], o :: j, t, trivial, junk_cons ids o j t (by rw [← he]; exact hpid) hj, ht, by simp [stream, he]⟩
    | cons seg segs =>
      obtain ⟨j₁, p₁⟩ := seg
      obtain ⟨hj₁, hp₁, hs'⟩ := hs
      simp only [stream] at he
      refine ⟨(o :: j₁, p₁) :: segs, j, t, ⟨junk_cons ids o j₁ p₁ ?_ hj₁, hp₁, hs'⟩, hj, ht, by simp [stream, he]⟩
      have h2 : 2 ≤ (o :: (j₁ ++ p₁)).length := by have := hp₁.1; simp; omega
      have : pidOf ((o :: (j₁ ++ p₁)) ++ stream segs (j ++ t)) ∉ ids := by
        simpa [he] using hpid
      rwa [pidOf_append _ _ h2] at this

/-- **lossless**: take any well-formed stream (packets with registered IDs separated by junk, then
    junk and an incomplete tail), cut it in ANY way into chunks and interleave the appends with parser
    calls in ANY way (`s` is any schedule with `fed s = the stream`, starting from an empty deque).
    Then, as soon as a call follows the last append, all calls together have returned exactly the
    packets of the stream — each exactly once, complete, byte-identical, in stream order — and the
    deque concatenates to exactly the not-yet-complete tail (preceded by at most `6 - |t|` octets of
    the junk in front of it). -/
theorem C13_lossless (ids : List Nat) (segs : List (Bytes × Bytes)) (j t : Bytes)
    (h : WFStream ids segs) (hj : Junk ids j t) (ht : Incomplete ids t)
    (s : List Step) (hs : fed s = stream segs (j ++ t)) :
    returned (run ids [] (s ++ [.parse])).1 = packetsOf segs ∧
    (run ids [] (s ++ [.parse])).2.flatten = (j ++ t).drop (min j.length ((j ++ t).length - 6)) := by
  have := C13_after_parse ids [] s
  simp only [List.flatten_nil, List.nil_append, hs, C13_stream_junk_tail ids segs j t h hj ht] at this
  exact this

/-- junk-free tail: the deque holds exactly the tail -/
theorem C13_lossless_tail (ids : List Nat) (segs : List (Bytes × Bytes)) (t : Bytes)
    (h : WFStream ids segs) (ht : Incomplete ids t)
    (s : List Step) (hs : fed s = stream segs t) :
    returned (run ids [] (s ++ [.parse])).1 = packetsOf segs ∧
    (run ids [] (s ++ [.parse])).2.flatten = t := by
  have := C13_lossless ids segs [] t h (junk_nil ids t) ht s (by simpa using hs)
  simpa using this

/-- **a later call finishes it**: a deque that concatenates to junk followed by the incomplete tail
    `t`; the caller appends the missing octets `c` (so that `t ++ c` is a well-formed packet) and
    calls the parser: exactly that packet is returned and the deque is empty -/
theorem C13_finish (ids : List Nat) (q : List Bytes) (j t c : Bytes)
    (hq : q.flatten = j ++ t) (hj : Junk ids j (t ++ c)) (hp : WFPacket ids (t ++ c)) :
    call ids (q ++ [c]) = ([t ++ c], []) := by
  have hf : (q ++ [c]).flatten = j ++ (t ++ c) := by simp [hq]
  have hs : scan ids (j ++ (t ++ c)) = ([t ++ c], []) := by
    simpa [stream, packetsOf, scan_short] using C13_stream ids [(j, t ++ c)] [] ⟨hj, hp, trivial⟩
  have h6 := hp.1
  unfold call
  rw [if_neg (by simp), if_neg (by rw [hf, headerLen, List.length_append]; omega), hf, hs]
  rfl

/-! ## Discarding junk early does not change what is returned (justifies the relation the
    correspondence check uses for the queue content of streams with junk) -/

/-- a leading residual position with both octets known and no registered ID may be dropped at once:
    every later scan returns the same packets -/
theorem C13_early_discard (ids : List Nat) (r c : Bytes) :
    (scan ids (canonRest ids r ++ c)).1 = (scan ids (r ++ c)).1 := by
  fun_induction canonRest ids r with
  | case2 r h => rfl
  | case1 r h ih =>
    rw [ih]
    by_cases hs : (r ++ c).length ≤ 6
    · rw [scan_short ids _ hs, scan_short ids _ (by simp at hs ⊢; omega)]
    · rw [scan_skip ids (r ++ c) (by omega) (by rw [pidOf_append _ _ h.1]; exact h.2),
        List.drop_append_of_le_length (by omega)]

section Examples

/-- registered: TM, secondary header, APID 0x123 (raw 0x0923); TC, APID 5 (raw 0x1005) -/
def exIds : List Nat := [0x0923, 0x1005]
/-- 8 octets, length field 1 -/
def exP1 : Bytes := [0x09, 0x23, 0xC0, 0x01, 0x00, 0x01, 0xAA, 0xBB]
/-- 7 octets, length field 0, version bits set (masked away by `0x1FFF`) -/
def exP2 : Bytes := [0x30, 0x05, 0xC0, 0x02, 0x00, 0x00, 0x7F]
def exJunk : Bytes := [0xFF, 0x09]
/-- the first five octets of a further packet -/
def exTail : Bytes := [0x09, 0x23, 0xC0, 0x03, 0x00]

example : WFPacket exIds exP1 := by decide
example : WFPacket exIds exP2 := by decide
example : Junk exIds exJunk exP2 := by decide
example : Incomplete exIds exTail := by decide
example : WFStream exIds [([], exP1), (exJunk, exP2)] := by decide
example : ¬ WFPacket exIds (exP1.take 7) := by decide
/-- junk whose last octet together with the first octet of the next packet reads as a registered ID is not junk -/
example : ¬ Junk exIds [0x55, 0x09] [0x23, 0x00] := by decide

example : scan exIds (exP1 ++ exJunk ++ exP2 ++ exTail) = ([exP1, exP2], exTail) :=
  C13_stream_tail exIds [([], exP1), (exJunk, exP2)] exTail (by decide) (by decide)

/-- a schedule cutting inside the first header, exactly behind it, and one octet before the end -/
example :
    returned (run exIds []
      ([.append (exP1.take 3), .parse, .append ((exP1.drop 3).take 3), .parse,
        .append (exP1.drop 6 ++ exJunk ++ exP2.take 6), .append (exP2.drop 6 ++ exTail)] ++ [.parse])).1
      = [exP1, exP2] :=
  (C13_lossless_tail exIds [([], exP1), (exJunk, exP2)] exTail (by decide) (by decide) _ (by decide)).1

end Examples

end SpVerif.Props.C13
