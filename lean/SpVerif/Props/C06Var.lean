import SpVerif.Props.C05
import SpVerif.Props.C06Fixed
import SpVerif.Props.C08
import SpVerif.Proofs.Eof
import SpVerif.Proofs.Finished
import SpVerif.Proofs.Metadata
/-!
# C06 (part "var") — EOF, Finished and Metadata PDUs are encoded exactly per CCSDS 727.0-B-5 §5.2
and round-trip

Property theorems only. (Base class, ACK, Prompt, Keep Alive and NAK are in `Props/C06Fixed.lean`;
`WFConf`, `WFBase`, `Spec.pdu`, `crcLen` are shared with that part.)

Layout (727.0-B-5 §5.2): fixed PDU header ‖ directive code ‖ parameters ‖ CRC-16 iff the CRC flag
is set, the data-field length counting every octet after the header, with the parameters

* EOF (code 4, §5.2.2, towards the receiver): `condition code (4 bits) | spare (4 bits)`, file
  checksum (4 octets), file size (FSS: 32 bits, 64 with the large-file flag), optional fault
  location (entity-ID TLV: type 6, length, value);
* Finished (code 5, §5.2.3, towards the sender): `condition code (4) | spare (1) | delivery code
  (1) | file status (2)`, filestore responses (TLVs of type 1, list order), optional fault
  location (not with condition code "no error" / "unsupported checksum type");
* Metadata (code 7, §5.2.5, towards the receiver): `reserved (1) | closure requested (1) |
  reserved (2) | checksum type (4)`, file size (FSS), source file name (LV), destination file name
  (LV), options (TLVs, list order).

All three decoders read the declared PDU only: whatever follows it is ignored
(`C06_*_roundtrip` hold with an arbitrary suffix), and the CRC trailer is never parsed as a TLV.
-/
namespace SpVerif.Props.C06Var
open SpVerif SpVerif.CfdpHeader SpVerif.FileDirective SpVerif.Tlv SpVerif.Lv
open SpVerif.Eof SpVerif.Finished SpVerif.Metadata
open SpVerif.Props.C06Fixed (WFConf crcLen WFBase wfBase_new prelude_pdu pdu_len pdu_crc pdu_truncated
  pack_eq_iff_of eq_repack_of)
open SpVerif.Nak (fits)

private theorem byteOf_nibble (c : Int) (h0 : 0 ≤ c) (h : c < 16) :
    byteOf (c * 16) = .ok (u8 (c.toNat * 16)) := by
  unfold byteOf
  have g : 0 ≤ c * 16 ∧ c * 16 < 256 := by omega
  rw [if_pos g]
  congr 2
  omega

private theorem byteOf_bad (c : Int) (h : c < 0 ∨ 16 ≤ c) : byteOf (c * 16) = .error .value := by
  unfold byteOf
  have g : ¬ (0 ≤ c * 16 ∧ c * 16 < 256) := by omega
  rw [if_neg g]

/-- a TLV object's value octets are its packed octets without type and length -/
private theorem value_of_pack {build : Py CfdpTlv} {b : Bytes} (hp : (build >>= fun t => t.pack) = .ok b) :
    (build >>= fun t => pure t.value) = .ok b.tail.tail := by
  obtain ⟨t, hb, hp⟩ := bind_ok_inv hp
  obtain ⟨_, _, he⟩ := CfdpTlv.pack_ok t _ hp
  rw [hb, bind_ok, he]; rfl

private theorem tlv_pack (ty : Nat) (v : Bytes) (ht : ty ∈ tlvTypes) (hv : v.length ≤ 255) :
    CfdpTlv.pack ⟨ty, v⟩ = .ok (C08.Spec.tlv ty v) := by
  have : ty < 256 := by simp only [tlvTypes, List.mem_cons, List.not_mem_nil, or_false] at ht; omega
  exact CfdpTlv.pack_eq _ this hv

/-- a fault location as the library builds it: an entity-ID TLV (type 6) of 0..255 value octets -/
def WFFault : Option EntityIdTlv → Prop
  | none => True
  | some t => t.tlv.ttype = 6 ∧ t.tlv.value.length ≤ 255

instance (fl : Option EntityIdTlv) : Decidable (WFFault fl) := by
  cases fl <;> unfold WFFault <;> infer_instance

/-- the fault location as the standard lays it out: nothing, or type 6, length, entity ID -/
def Spec.fault : Option EntityIdTlv → Bytes
  | none => []
  | some t => C08.Spec.entityId t.tlv.value

private theorem fault_eta (t : EntityIdTlv) (h : t.tlv.ttype = 6) : (⟨⟨6, t.tlv.value⟩⟩ : EntityIdTlv) = t := by
  cases t with
  | mk tlv => cases tlv; simp_all

private theorem packFault_spec (fl : Option EntityIdTlv) (wf : WFFault fl) :
    Eof.packFaultLoc fl = .ok (Spec.fault fl) := by
  cases fl with
  | none => rfl
  | some t =>
    obtain ⟨h1, h2⟩ := wf
    show t.tlv.pack = _
    rw [CfdpTlv.pack_eq _ (by omega) h2, h1]
    rfl

private theorem fault_length (fl : Option EntityIdTlv) : (Spec.fault fl).length = Eof.faultLen fl := by
  cases fl with
  | none => rfl
  | some t => simp [Spec.fault, C08.Spec.entityId, C08.Spec.tlv, Eof.faultLen, EntityIdTlv.packetLen,
      CfdpTlv.packetLen]; omega

private theorem unpack_fault (t : EntityIdTlv) (wf : WFFault (some t)) :
    EntityIdTlv.unpack (Spec.fault (some t)) = .ok t := by
  obtain ⟨h1, h2⟩ := wf
  have := CfdpTlv.unpack_pack_append 6 t.tlv.value [] (by decide) h2
  rw [List.append_nil] at this
  rw [EntityIdTlv.unpack_bind, Spec.fault, C08.Spec.entityId, C08.Spec.tlv, this, bind_ok, EntityIdTlv.fromTlv_eq]
  simp only [tEntityId, ↓reduceIte]
  rw [fault_eta t h1]

/-- valid EOF PDUs: every condition code nibble (all `ConditionCode` members), a 4-octet checksum,
    a file size over the full range of the selected FSS width, no fault location or an entity-ID
    TLV of any width 0..255, towards the receiver, any header configuration -/
def WFEof (k : Eof) : Prop :=
  0 ≤ k.cond ∧ k.cond < 16 ∧ k.checksum.length = 4 ∧
  fits (fssWidth k.fd.header.conf.fileFlag) k.fileSize ∧ WFFault k.faultLoc ∧
  WFBase k.fd 4 0 (5 + fssWidth k.fd.header.conf.fileFlag + (Spec.fault k.faultLoc).length)

instance (k : Eof) : Decidable (WFEof k) := by unfold WFEof; infer_instance

/-- the parameters of 727.0-B-5 §5.2.2 -/
def Spec.eofParams (k : Eof) : Bytes :=
  [u8 (k.cond.toNat * 16)] ++ k.checksum ++ beBytes (fssWidth k.fd.header.conf.fileFlag) k.fileSize.toNat
    ++ Spec.fault k.faultLoc

def Spec.eof (k : Eof) : Bytes := C06Fixed.Spec.pdu k.fd (Spec.eofParams k)

private theorem eofParams_length (k : Eof) (hc : k.checksum.length = 4) :
    (Spec.eofParams k).length = 5 + fssWidth k.fd.header.conf.fileFlag + (Spec.fault k.faultLoc).length := by
  simp only [Spec.eofParams, List.length_append, List.length_cons, List.length_nil, hc, beBytes_length]

theorem WFEof.base {k : Eof} (wf : WFEof k) : WFBase k.fd 4 0 (Spec.eofParams k).length := by
  rw [eofParams_length k wf.2.2.1]; exact wf.2.2.2.2.2

private theorem eof_plen (f c : Nat) (fl : Option EntityIdTlv) :
    eofParamLen f c fl + 1 = 1 + (5 + fssWidth f + (Spec.fault fl).length) + (if c = 1 then 2 else 0) := by
  unfold eofParamLen; rw [fault_length]; omega

private theorem eofParamLen_le (f c : Nat) (fl : Option EntityIdTlv) (wf : WFFault fl) :
    eofParamLen f c fl + 1 ≤ 300 := by
  unfold eofParamLen
  have := fssWidth_le f
  have : Eof.faultLen fl ≤ 257 := by
    cases fl with
    | none => simp [Eof.faultLen]
    | some t => have := wf.2; simp [Eof.faultLen, EntityIdTlv.packetLen, CfdpTlv.packetLen]; omega
  split <;> omega

/-- the constructor accepts every configuration, every condition code, checksum of 4 octets, size
    and fault location, forces the direction "towards receiver" and yields a valid PDU -/
theorem C06_eof_new (c : PduConfig) (wf : WFConf c) (cs : Bytes) (size : Int) (fl : Option EntityIdTlv)
    (cond : Int) (hcs : cs.length = 4) (hfl : WFFault fl) :
    ∃ k, Eof.new c cs size fl cond = .ok k ∧ k.cond = cond ∧ k.checksum = cs ∧ k.fileSize = size ∧
      k.faultLoc = fl ∧ k.fd.header.conf = { c with direction := 0 } ∧
      (0 ≤ cond → cond < 16 → fits (fssWidth c.fileFlag) size → WFEof k) := by
  rw [Eof.new_eq]
  have hle := eofParamLen_le c.fileFlag c.crcFlag fl hfl
  have g2 : ¬ (c.source.width ≠ c.dest.width ∨ 65535 < eofParamLen c.fileFlag c.crcFlag fl + 1) := by
    have := wf.widths; omega
  rw [if_neg (by omega), if_neg g2]
  refine ⟨_, rfl, rfl, rfl, rfl, rfl, rfl, ?_⟩
  intro h0 h1 h2
  exact ⟨h0, h1, hcs, h2, hfl, wfBase_new c wf _ _ _ _ (by omega) (by omega) (eof_plen _ _ _)⟩

/-- a checksum that is not 4 octets long is refused (`ValueError`) -/
theorem C06_eof_refuse_checksum (c : PduConfig) (cs : Bytes) (size : Int) (fl : Option EntityIdTlv)
    (cond : Int) (h : cs.length ≠ 4) : Eof.new c cs size fl cond = .error .value := by
  rw [Eof.new_eq, if_pos h]

/-- **pack = standard layout**, for every valid EOF PDU in every header configuration -/
theorem C06_eof_pack_exact (k : Eof) (wf : WFEof k) : k.pack = .ok (Spec.eof k) := by
  obtain ⟨h0, h1, _, h3, h4, w1, _, _, w4, _, _⟩ := wf
  unfold Eof.pack
  rw [pack_spec k.fd w1 (by omega), byteOf_nibble _ h0 h1, width_of_large, Nak.packInt_fits _ _ h3, packFault_spec _ h4]
  simp only [bind, Except.bind, pure, Except.pure, Spec.eof, C06Fixed.Spec.pdu, Spec.eofParams, specOctets,
    List.append_assoc]

/-- **a file size that does not fit the selected width makes `pack` fail, never truncate**
    (`struct.error` from `struct.pack`; `ValueError` first if the condition code is no nibble) -/
theorem C06_eof_fss_overflow (k : Eof) (wf : C05.WF k.fd.header) (hc : k.fd.code < 256)
    (h : ¬ fits (fssWidth k.fd.header.conf.fileFlag) k.fileSize) :
    k.pack = .error .struct ∨ k.pack = .error .value := by
  unfold Eof.pack
  rw [pack_spec k.fd wf hc, width_of_large]
  by_cases hcond : 0 ≤ k.cond ∧ k.cond < 16
  · left
    rw [byteOf_nibble _ hcond.1 hcond.2, Nak.packInt_not_fits _ _ h]
    rfl
  · right
    rw [byteOf_bad _ (by omega)]
    rfl

/-- `ConditionCode.NO_CONDITION_FIELD` (−1) is constructible but cannot be packed (`ValueError`) -/
theorem C06_eof_no_condition_field (k : Eof) (wf : C05.WF k.fd.header) (hc : k.fd.code < 256)
    (h : k.cond < 0 ∨ 16 ≤ k.cond) : k.pack = .error .value := by
  unfold Eof.pack
  rw [pack_spec k.fd wf hc, byteOf_bad _ h]
  rfl

/-- **length clauses**: 1 + 4 + FSS octets, plus the fault location TLV, plus 2 with CRC -/
theorem C06_eof_len (k : Eof) (wf : WFEof k) :
    (Spec.eof k).length = k.packetLen ∧
    k.fd.header.dataFieldLen = (Spec.eof k).length - k.fd.header.headerLen ∧
    k.fd.header.dataFieldLen = k.packetLen - k.fd.header.headerLen ∧
    (Spec.eof k).length = k.fd.header.headerLen + 1
      + (5 + fssWidth k.fd.header.conf.fileFlag + (Spec.fault k.faultLoc).length) + crcLen k.fd.header.conf := by
  have := pdu_len k.fd 4 0 (Spec.eofParams k) wf.base
  rwa [eofParams_length k wf.2.2.1] at this

theorem C06_eof_crc (k : Eof) :
    (k.fd.header.conf.crcFlag = 1 →
      Spec.eof k = (C05.Spec.octets k.fd.header ++ [u8 k.fd.code] ++ Spec.eofParams k)
        ++ Crc.crcTrailer (C05.Spec.octets k.fd.header ++ [u8 k.fd.code] ++ Spec.eofParams k) ∧
      Crc.crc16 (Spec.eof k) = 0) ∧
    (k.fd.header.conf.crcFlag ≠ 1 →
      Spec.eof k = C05.Spec.octets k.fd.header ++ [u8 k.fd.code] ++ Spec.eofParams k) :=
  pdu_crc k.fd (Spec.eofParams k)

/-- **parameter round trip**: the parser reads condition code, checksum, file size and fault location
    back behind any `A` of the directive header's length -/
theorem eof_parse_params (k : Eof) (wf : WFEof k) (A : Bytes) (hA : A.length = k.fd.headerLen) :
    Eof.parse (k.fd, A ++ Spec.eofParams k) = .ok k := by
  obtain ⟨h0, h1, hcs, hfit, hfl, wb⟩ := wf
  have e : A ++ Spec.eofParams k = A ++ [u8 (k.cond.toNat * 16)] ++ k.checksum
      ++ beBytes (fssWidth k.fd.header.conf.fileFlag) k.fileSize.toNat ++ Spec.fault k.faultLoc := by
    simp only [Spec.eofParams, List.append_assoc]
  have l1 : (A ++ [u8 (k.cond.toNat * 16)]).length = k.fd.headerLen + 1 := by rw [List.length_append, hA]; rfl
  have l2 : (A ++ [u8 (k.cond.toNat * 16)] ++ k.checksum).length = k.fd.headerLen + 5 := by
    rw [List.length_append, l1, hcs]
  have l3 : (A ++ [u8 (k.cond.toNat * 16)] ++ k.checksum
      ++ beBytes (fssWidth k.fd.header.conf.fileFlag) k.fileSize.toNat).length = Eof.fixedEnd k.fd := by
    rw [List.length_append, l2, beBytes_length]; rfl
  have e0 : Eof.condOf k.fd (A ++ Spec.eofParams k) = k.cond := by
    have : octetAt (A ++ Spec.eofParams k) k.fd.headerLen = k.cond.toNat * 16 % 256 := by
      rw [← hA]; simp [Spec.eofParams, octetAt]
    rw [Eof.condOf, this]
    omega
  have e1 : Eof.checksumOf k.fd (A ++ Spec.eofParams k) = k.checksum := by
    have := slice_eq_of_append (A ++ [u8 (k.cond.toNat * 16)]) k.checksum
      (beBytes (fssWidth k.fd.header.conf.fileFlag) k.fileSize.toNat ++ Spec.fault k.faultLoc)
    rwa [← List.append_assoc, ← e, l1, hcs] at this
  have e2 : Eof.sizeOf k.fd (A ++ Spec.eofParams k) = k.fileSize := by
    have := slice_eq_of_append (A ++ [u8 (k.cond.toNat * 16)] ++ k.checksum)
      (beBytes (fssWidth k.fd.header.conf.fileFlag) k.fileSize.toNat) (Spec.fault k.faultLoc)
    rw [← e, l2, beBytes_length] at this
    rw [Eof.sizeOf, Eof.fixedEnd, this, beNat_beBytes _ _ hfit.2]
    exact Nak.toNat_cast_fits _ _ hfit
  have hd : (A ++ Spec.eofParams k).drop (Eof.fixedEnd k.fd) = Spec.fault k.faultLoc := by
    rw [e]; exact List.drop_left' l3
  have hlen : (A ++ Spec.eofParams k).length = Eof.fixedEnd k.fd + (Spec.fault k.faultLoc).length := by
    rw [e, List.length_append, l3]
  rw [Eof.parse_eq, if_neg (by omega), e0, e1, e2, hd]
  cases hf : k.faultLoc with
  | none =>
    rw [if_pos (by rw [hlen, hf]; rfl)]
    cases k; cases hf; rfl
  | some t =>
    rw [hf] at hfl hlen
    have hpos : 0 < (Spec.fault (some t)).length := by
      simp [Spec.fault, C08.Spec.entityId, C08.Spec.tlv]
    have hu := unpack_fault t hfl
    have hdl : k.fd.header.dataFieldLen
        = eofParamLen k.fd.header.conf.fileFlag k.fd.header.conf.crcFlag (some t) + 1 := by
      rw [eof_plen, ← hf]; exact wb.len
    rw [if_neg (by omega), hu, bind_ok, Eof.calcLen_eq', if_neg (by have := wb.1.2.2.2.2.2.2.2.1; omega), bind_ok,
      ← hdl, fd_eta k.fd _ rfl]
    cases k; cases hf; rfl

/-- **round trip, whatever follows the PDU**: decoding the packed PDU followed by arbitrary octets
    returns the identical PDU (condition code, checksum, file size, fault location, header) — in
    particular neither the CRC trailer nor trailing octets are read as a fault location -/
theorem C06_eof_roundtrip (k : Eof) (wf : WFEof k) (rest : Bytes) :
    Eof.unpack (Spec.eof k ++ rest) = .ok k := by
  rw [Eof.unpack_eq, Spec.eof, prelude_pdu _ k.fd 4 0 _ rest wf.base (by omega)]
  exact eof_parse_params k wf _ (specOctets_length k.fd wf.2.2.2.2.2.1)

/-- widths `UnsignedByteField` supports; `EntityIdTlv.__eq__` raises `ValueError` for any other -/
def EqWidth : Option EntityIdTlv → Prop
  | none => True
  | some t => t.value.length ∈ [1, 2, 4, 8]

instance (fl : Option EntityIdTlv) : Decidable (EqWidth fl) := by
  cases fl <;> unfold EqWidth <;> infer_instance

private theorem optEntityBeq_refl (fl : Option EntityIdTlv) (h : EqWidth fl) :
    Eof.optEntityBeq fl fl = .ok true := by
  cases fl with
  | none => rfl
  | some t =>
    have h' : t.value.length ∈ [1, 2, 4, 8] := h
    simp [Eof.optEntityBeq, EntityIdTlv.beq, ubfValue, h', bind, Except.bind, pure, Except.pure]

/-- the decoded PDU **compares equal** to the original (both ways) and **re-packs to the same
    octets**; `==` needs a fault location whose entity ID has a width the library can compare -/
theorem C06_eof_eq_repack (k : Eof) (wf : WFEof k) (hw : EqWidth k.faultLoc) (rest : Bytes) :
    ∃ k', (k.pack >>= fun b => Eof.unpack (b ++ rest)) = .ok k' ∧ k' = k ∧
      k.beq k' = .ok true ∧ k'.beq k = .ok true ∧ k'.pack = k.pack :=
  eq_repack_of (C06_eof_pack_exact k wf) (C06_eof_roundtrip k wf rest)
    (by simp [Eof.beq, beq_refl, optEntityBeq_refl _ hw])

/-- with a fault location of any other width `==` raises `ValueError` (documented; nothing is
    compared wrongly) -/
theorem C06_eof_eq_other_width (k : Eof) (t : EntityIdTlv) (hf : k.faultLoc = some t)
    (hw : t.value.length ∉ [1, 2, 4, 8]) : k.beq k = .error .value := by
  simp [Eof.beq, beq_refl, hf, Eof.optEntityBeq, EntityIdTlv.beq, ubfValue, hw, bind, Except.bind]

/-- **the `fault_location` setter keeps the length consistent**: afterwards the PDU is the one a
    fresh constructor call with the new fault location gives -/
theorem C06_eof_set_fault_loc (c : PduConfig) (cs : Bytes) (size : Int) (fl fl' : Option EntityIdTlv)
    (cond : Int) (hfl : WFFault fl) (hfl' : WFFault fl') :
    (Eof.new c cs size fl cond >>= fun k => k.setFaultLoc fl') = Eof.new c cs size fl' cond := by
  have h1 := eofParamLen_le c.fileFlag c.crcFlag fl hfl
  have h2 := eofParamLen_le c.fileFlag c.crcFlag fl' hfl'
  rw [Eof.new_eq, Eof.new_eq]
  by_cases g1 : cs.length ≠ 4
  · rw [if_pos g1, if_pos g1]; rfl
  · rw [if_neg g1, if_neg g1]
    by_cases g2 : c.source.width ≠ c.dest.width
    · rw [if_pos (Or.inl g2), if_pos (Or.inl g2)]; rfl
    · rw [if_neg (by omega), if_neg (by omega), bind_ok, Eof.setFaultLoc_eq]
      have g3 : ¬ 65535 < eofParamLen c.fileFlag c.crcFlag fl' + 1 := by omega
      simp only [g3, ↓reduceIte]

/-- the decoder fails, for any octet string whatever, only with `ValueError`,
    `UnsupportedCfdpVersion`, `InvalidCrc` or `TlvTypeMissmatch` — never `IndexError` / `struct.error` -/
theorem C06_eof_documented (d : Bytes) : Documented (Eof.unpack d) := Eof.unpack_documented d

/-- what acceptance means: the buffer holds the whole declared PDU, the CRC-16 over exactly the
    declared PDU is zero when the flag is set, the decoded PDU is not longer than the declared one,
    and the result depends on the declared PDU only (trailing octets are neither read nor required) -/
theorem C06_eof_accept_sound (d : Bytes) (k : Eof) (h : Eof.unpack d = .ok k) :
    ∃ fd p, prelude d = .ok (fd, p) ∧ fd.packetLen ≤ d.length ∧ k.packetLen ≤ fd.packetLen ∧
      (fd.header.conf.crcFlag = 1 → Crc.crc16 (d.take fd.packetLen) = 0) ∧
      ∀ rest, Eof.unpack (d.take fd.packetLen ++ rest) = .ok k := by
  obtain ⟨fd, p, hp, _, h3, h4, h5, ht⟩ := Eof.unpack_inv d k h
  exact ⟨fd, p, hp, h3, h5, h4, ht⟩

theorem C06_eof_truncated (x : Eof) (wf : WFEof x) (k : Nat) (hk : k < (Spec.eof x).length) :
    Eof.unpack ((Spec.eof x).take k) = .error .value := by
  rw [Eof.unpack_eq]
  exact pdu_truncated _ x.fd _ _ _ wf.base k hk

-- non-vacuity: FILE_CHECKSUM_FAILURE, 64-bit size with pairwise different octets, 2-octet fault location, CRC
private def exEof : Eof :=
  ⟨⟨⟨0, 0, 20, ⟨⟨2, 0x0102⟩, ⟨2, 0x0304⟩, ⟨1, 9⟩, 0, 1, 1, 0, 0⟩⟩, 4⟩, 5, [0xA1, 0xA2, 0xA3, 0xA4],
    0x0102030405060708, some ⟨⟨6, [0x0A, 0x0B]⟩⟩⟩
example : WFEof exEof := by decide
example : EqWidth exEof.faultLoc := by decide
example : Eof.new ⟨⟨2, 0x0102⟩, ⟨2, 0x0304⟩, ⟨1, 9⟩, 0, 1, 1, 1, 0⟩ [0xA1, 0xA2, 0xA3, 0xA4] 0x0102030405060708
    (some ⟨⟨6, [0x0A, 0x0B]⟩⟩) 5 = .ok exEof := by rfl
example : C05.Spec.octets exEof.fd.header ++ [u8 exEof.fd.code] ++ Spec.eofParams exEof
    = [0x23, 0, 20, 0x10, 1, 2, 9, 3, 4, 4, 0x50, 0xA1, 0xA2, 0xA3, 0xA4, 1, 2, 3, 4, 5, 6, 7, 8, 6, 2, 0x0A, 0x0B] := by
  decide
example : WFEof ⟨⟨⟨0, 0, 10, ⟨⟨1, 0⟩, ⟨1, 0⟩, ⟨1, 0⟩, 0, 0, 0, 0, 0⟩⟩, 4⟩, 0, [0, 0, 0, 0], 4294967295, none⟩ := by decide
example : ¬ fits 4 4294967296 := by decide

/-- the filestore responses as the standard lays them out: the TLVs of C08 in list order -/
def Spec.responses : List FileStoreResponseTlv → Bytes
  | [] => []
  | r :: l => C08.Spec.fsResponse r ++ Spec.responses l

/-- every response is a valid filestore-response TLV (C08) -/
def WFResponses (l : List FileStoreResponseTlv) : Prop := ∀ r ∈ l, C08.WFResp r

instance (l : List FileStoreResponseTlv) : Decidable (WFResponses l) := by unfold WFResponses; infer_instance

/-- valid Finished PDUs: every `ConditionCode` / `DeliveryCode` / `FileStatus` member, any number of
    valid filestore responses, a fault location (entity ID of any width) only with a condition code
    that can have one (DESIGN §8), towards the sender, any header configuration -/
def WFFin (k : Finished) : Prop :=
  0 ≤ k.cond ∧ k.cond.toNat ∈ condMembers ∧ k.delivery < 2 ∧ k.status < 4 ∧
  WFResponses k.responses ∧ WFFault k.faultLoc ∧
  (k.faultLoc ≠ none → mightHaveFaultLoc k.cond = true) ∧
  WFBase k.fd 5 1 (1 + (Spec.responses k.responses).length + (Spec.fault k.faultLoc).length)

instance (k : Finished) : Decidable (WFFin k) := by unfold WFFin; infer_instance

/-- the parameters of 727.0-B-5 §5.2.3 -/
def Spec.finParams (k : Finished) : Bytes :=
  [u8 (k.cond.toNat * 16 + k.delivery * 4 + k.status)] ++ Spec.responses k.responses ++ Spec.fault k.faultLoc

def Spec.finished (k : Finished) : Bytes := C06Fixed.Spec.pdu k.fd (Spec.finParams k)

private theorem finParams_length (k : Finished) :
    (Spec.finParams k).length = 1 + (Spec.responses k.responses).length + (Spec.fault k.faultLoc).length := by
  simp only [Spec.finParams, List.length_append, List.length_cons, List.length_nil]

theorem WFFin.base {k : Finished} (wf : WFFin k) : WFBase k.fd 5 1 (Spec.finParams k).length := by
  rw [finParams_length]; exact wf.2.2.2.2.2.2.2

private theorem finOctet_all : ∀ c < 16, ∀ d < 2, ∀ s < 4,
    ((c <<< 4) ||| (d <<< 2)) ||| s = c * 16 + d * 4 + s := by decide

private theorem cond_lt (c : Nat) (h : c ∈ condMembers) : c < 16 := by
  simp only [condMembers, List.mem_cons, List.not_mem_nil, or_false] at h; omega

private theorem resp_pack (r : FileStoreResponseTlv) (wf : C08.WFResp r) :
    r.pack = .ok (C08.Spec.fsResponse r) ∧ (C08.Spec.fsResponse r).length = r.packetLen ∧
    2 ≤ (C08.Spec.fsResponse r).length := by
  have h := C08.C08_fs_response_pack_exact r wf
  refine ⟨h, C08.C08_fs_response_len r _ h, ?_⟩
  simp [C08.Spec.fsResponse, C08.Spec.tlv]

private theorem packResponses_spec (l : List FileStoreResponseTlv) (wf : WFResponses l) :
    packResponses l = .ok (Spec.responses l) := by
  induction l with
  | nil => rfl
  | cons r l ih =>
    have hr := (resp_pack r (wf r List.mem_cons_self)).1
    have hl := (List.forall_mem_cons.mp wf).2
    simp only [packResponses, hr, ih hl, bind, Except.bind, pure, Except.pure, Spec.responses]

private theorem fin_faultLen (cond : Int) (fl : Option EntityIdTlv) (h : fl ≠ none → mightHaveFaultLoc cond = true) :
    Finished.faultLen cond fl = (Spec.fault fl).length := by
  cases fl with
  | none => rfl
  | some t =>
    have := h (by simp)
    rw [fault_length]
    simp [Finished.faultLen, Eof.faultLen, this]

private theorem fin_packFault (cond : Int) (fl : Option EntityIdTlv) (wf : WFFault fl)
    (h : fl ≠ none → mightHaveFaultLoc cond = true) :
    Finished.packFaultLoc cond fl = .ok (Spec.fault fl) := by
  cases fl with
  | none => rfl
  | some t =>
    have := h (by simp)
    simp only [Finished.packFaultLoc, this, ↓reduceIte]
    exact packFault_spec (some t) wf

private theorem fin_plen (c : Nat) (cond : Int) (rs : List FileStoreResponseTlv) (fl : Option EntityIdTlv)
    (hr : WFResponses rs) (hm : fl ≠ none → mightHaveFaultLoc cond = true) :
    finParamLen c cond rs fl + 1
      = 1 + (1 + (Spec.responses rs).length + (Spec.fault fl).length) + (if c = 1 then 2 else 0) := by
  unfold finParamLen
  rw [fin_faultLen _ _ hm, ← packResponses_length (packResponses_spec _ hr)]
  split <;> omega

/-- the constructor accepts every configuration and every parameter set whose encoding fits the
    16-bit data-field length, forces the direction "towards sender" and yields a valid PDU -/
theorem C06_finished_new (c : PduConfig) (wf : WFConf c) (cond : Int) (dc fs : Nat)
    (rs : List FileStoreResponseTlv) (fl : Option EntityIdTlv)
    (hn : finParamLen c.crcFlag cond rs fl + 1 ≤ 65535) :
    ∃ k, Finished.new c cond dc fs rs fl = .ok k ∧ k.cond = cond ∧ k.delivery = dc ∧ k.status = fs ∧
      k.responses = rs ∧ k.faultLoc = fl ∧ k.fd.header.conf = { c with direction := 1 } ∧
      k.fd.header.dataFieldLen = finParamLen c.crcFlag cond rs fl + 1 ∧
      (0 ≤ cond → cond.toNat ∈ condMembers → dc < 2 → fs < 4 → WFResponses rs → WFFault fl →
        (fl ≠ none → mightHaveFaultLoc cond = true) → WFFin k) := by
  rw [Finished.new_eq]
  have g : ¬ (c.source.width ≠ c.dest.width ∨ 65535 < finParamLen c.crcFlag cond rs fl + 1) := by
    have := wf.widths; omega
  rw [if_neg g]
  refine ⟨_, rfl, rfl, rfl, rfl, rfl, rfl, rfl, rfl, ?_⟩
  intro h0 h1 h2 h3 h4 h5 h6
  exact ⟨h0, h1, h2, h3, h4, h5, h6, wfBase_new c wf _ _ _ _ (by omega) (by omega) (fin_plen _ _ _ _ h4 h6)⟩

/-- more filestore responses than the 16-bit data-field length can describe are refused
    (`ValueError`) by the constructor -/
theorem C06_finished_too_long (c : PduConfig) (cond : Int) (dc fs : Nat) (rs : List FileStoreResponseTlv)
    (fl : Option EntityIdTlv) (hn : 65535 < finParamLen c.crcFlag cond rs fl + 1) :
    Finished.new c cond dc fs rs fl = .error .value := by
  rw [Finished.new_eq, if_pos (Or.inr hn)]

/-- **pack = standard layout**, for every valid Finished PDU (any number of filestore responses in
    list order, then the fault location) in every header configuration -/
theorem C06_finished_pack_exact (k : Finished) (wf : WFFin k) : k.pack = .ok (Spec.finished k) := by
  obtain ⟨h0, h1, h2, h3, h4, h5, h6, w1, _, _, w4, _, _⟩ := wf
  unfold Finished.pack
  have hneg : ¬ k.cond < 0 := by omega
  have hb : ((k.cond.toNat <<< 4) ||| (k.delivery <<< 2)) ||| k.status
      = k.cond.toNat * 16 + k.delivery * 4 + k.status := finOctet_all _ (cond_lt _ h1) _ h2 _ h3
  have hlt : k.cond.toNat * 16 + k.delivery * 4 + k.status < 256 := by have := cond_lt _ h1; omega
  rw [pack_spec k.fd w1 (by omega), hb, byteOfN_ok hlt, packResponses_spec _ h4, fin_packFault _ _ h5 h6]
  simp only [hneg, ↓reduceIte, bind, Except.bind, pure, Except.pure, Spec.finished, C06Fixed.Spec.pdu, Spec.finParams,
    specOctets, List.append_assoc]

/-- `ConditionCode.NO_CONDITION_FIELD` (−1) is constructible but cannot be packed (`ValueError`) -/
theorem C06_finished_no_condition_field (k : Finished) (wf : C05.WF k.fd.header) (hc : k.fd.code < 256)
    (h : k.cond < 0) : k.pack = .error .value := by
  unfold Finished.pack
  rw [pack_spec k.fd wf hc]
  simp [h, bind, Except.bind, throw, throwThe, MonadExceptOf.throw]

/-- **length clauses**: one octet, the responses, the fault location, plus 2 with CRC -/
theorem C06_finished_len (k : Finished) (wf : WFFin k) :
    (Spec.finished k).length = k.packetLen ∧
    k.fd.header.dataFieldLen = (Spec.finished k).length - k.fd.header.headerLen ∧
    k.fd.header.dataFieldLen = k.packetLen - k.fd.header.headerLen ∧
    (Spec.finished k).length = k.fd.header.headerLen + 1
      + (1 + (Spec.responses k.responses).length + (Spec.fault k.faultLoc).length) + crcLen k.fd.header.conf := by
  have := pdu_len k.fd 5 1 (Spec.finParams k) wf.base
  rwa [finParams_length] at this

theorem C06_finished_crc (k : Finished) :
    (k.fd.header.conf.crcFlag = 1 →
      Spec.finished k = (C05.Spec.octets k.fd.header ++ [u8 k.fd.code] ++ Spec.finParams k)
        ++ Crc.crcTrailer (C05.Spec.octets k.fd.header ++ [u8 k.fd.code] ++ Spec.finParams k) ∧
      Crc.crc16 (Spec.finished k) = 0) ∧
    (k.fd.header.conf.crcFlag ≠ 1 →
      Spec.finished k = C05.Spec.octets k.fd.header ++ [u8 k.fd.code] ++ Spec.finParams k) :=
  pdu_crc k.fd (Spec.finParams k)

/-- **reported length = packed length for every parameter set, valid or not** (DESIGN §8: also for
    a fault location given with a condition code that cannot have one — it is neither packed nor
    counted): whenever the length the constructor / setters compute is in place and `pack` succeeds,
    the octets are `packet_len` long and the data-field length counts the octets after the header -/
theorem C06_finished_len_any (k : Finished) (wf : C05.WF k.fd.header) (hc : k.fd.code < 256)
    (hinv : k.fd.header.dataFieldLen
      = finParamLen k.fd.header.conf.crcFlag k.cond k.responses k.faultLoc + 1)
    (b : Bytes) (h : k.pack = .ok b) :
    b.length = k.packetLen ∧ k.fd.header.dataFieldLen = b.length - k.fd.header.headerLen := by
  unfold Finished.pack at h
  rw [pack_spec k.fd wf hc, bind_ok] at h
  by_cases hneg : k.cond < 0
  · rw [if_pos hneg] at h; cases h
  rw [if_neg hneg] at h
  obtain ⟨x, _, h⟩ := bind_ok_inv h
  obtain ⟨rs, hr, h⟩ := bind_ok_inv h
  obtain ⟨fl, hf, h⟩ := bind_ok_inv h
  cases pure_ok_inv h
  have := packetLen_eq k.fd
  have := headerLen_eq k.fd
  rw [withCrc_length]
  simp only [List.length_append, specOctets_length k.fd wf, List.length_cons, List.length_nil,
    packResponses_length hr, packFaultLoc_length hf]
  unfold finParamLen at hinv
  show _ = k.fd.packetLen ∧ _
  split at hinv <;> rename_i hcf <;> simp only [hcf, ↓reduceIte] <;> omega

private theorem tail_nil (l : List FileStoreResponseTlv) (fl : Option EntityIdTlv) (wf : WFResponses l)
    (h : Spec.responses l ++ Spec.fault fl = []) : l = [] ∧ fl = none := by
  have hlen := congrArg List.length h
  simp only [List.length_append, List.length_nil] at hlen
  constructor
  · cases l with
    | nil => rfl
    | cons r l =>
      have := (resp_pack r (wf r List.mem_cons_self)).2.2
      simp only [Spec.responses, List.length_append] at hlen
      omega
  · cases fl with
    | none => rfl
    | some t =>
      have : 2 ≤ (Spec.fault (some t)).length := by simp [Spec.fault, C08.Spec.entityId, C08.Spec.tlv]
      omega

/-- **the loop reads laid-out filestore responses and the fault location back**, in order, and
    stops exactly at the end of its input -/
private theorem unpackTlvs_spec (might : Bool) (l : List FileStoreResponseTlv) (fl : Option EntityIdTlv)
    (wf : WFResponses l) (hfl : WFFault fl) (hm : fl ≠ none → might = true)
    (hne : Spec.responses l ++ Spec.fault fl ≠ []) :
    unpackTlvs might (Spec.responses l ++ Spec.fault fl) = .ok (l, fl) := by
  induction l with
  | nil =>
    cases fl with
    | none => exact absurd rfl hne
    | some t =>
      have hmt := hm (by simp)
      have hu := unpack_fault t hfl
      have hh : idx (Spec.fault (some t)) 0 = .ok 6 := rfl
      rw [unpackTlvs]
      simp only [Spec.responses, List.nil_append]
      rw [hh, bind_ok]
      have hlen : t.packetLen = (Spec.fault (some t)).length := by
        rw [fault_length]; rfl
      simp only [tFsResponse, tEntityId, show ¬ (6 : Nat) = 1 by omega, ↓reduceIte, hmt, not_true_eq_false, hu,
        bind_ok, hlen, ge_iff_le, Nat.le_refl, ↓reduceDIte, pure, Except.pure]
  | cons r l ih =>
    have hr := resp_pack r (wf r List.mem_cons_self)
    have hl := (List.forall_mem_cons.mp wf).2
    have hd : Spec.responses (r :: l) ++ Spec.fault fl
        = C08.Spec.fsResponse r ++ (Spec.responses l ++ Spec.fault fl) := by
      simp [Spec.responses]
    have hh : idx (C08.Spec.fsResponse r ++ (Spec.responses l ++ Spec.fault fl)) 0 = .ok 1 := rfl
    rw [unpackTlvs, hd, hh, bind_ok]
    have hu := C08.C08_fs_response_roundtrip r (wf r List.mem_cons_self) (Spec.responses l ++ Spec.fault fl)
    simp only [tFsResponse, ↓reduceIte, hu, bind_ok]
    by_cases hnil : Spec.responses l ++ Spec.fault fl = []
    · obtain ⟨e1, e2⟩ := tail_nil l fl hl hnil
      subst e1 e2
      have : r.packetLen ≥ (C08.Spec.fsResponse r ++ (Spec.responses [] ++ Spec.fault none)).length := by
        simp [Spec.responses, Spec.fault, hr.2.1]
      simp only [this, ↓reduceDIte, pure, Except.pure]
    · have hpos : 0 < (Spec.responses l ++ Spec.fault fl).length := List.length_pos_iff.mpr hnil
      have : ¬ r.packetLen ≥ (C08.Spec.fsResponse r ++ (Spec.responses l ++ Spec.fault fl)).length := by
        rw [List.length_append, hr.2.1]; omega
      simp only [this, ↓reduceDIte]
      have hdrop : (C08.Spec.fsResponse r ++ (Spec.responses l ++ Spec.fault fl)).drop r.packetLen
          = Spec.responses l ++ Spec.fault fl := List.drop_left' hr.2.1
      rw [hdrop, ih hl hnil, bind_ok]
      rfl

private theorem fin_octet (c d s : Nat) (hc : c < 16) (hd : d < 2) (hs : s < 4) :
    (c * 16 + d * 4 + s) % 256 / 16 % 16 = c ∧ (c * 16 + d * 4 + s) % 256 / 4 % 2 = d ∧
    (c * 16 + d * 4 + s) % 256 % 4 = s := by omega

/-- the lengths the decoder's setters compute on the way are below the final one -/
private theorem finParamLen_mono (c : Nat) (cond : Int) (rs : List FileStoreResponseTlv) (fl : Option EntityIdTlv) :
    finParamLen c cond [] none ≤ finParamLen c cond rs none ∧
    finParamLen c cond rs none ≤ finParamLen c cond rs fl := by
  unfold finParamLen
  cases fl <;> simp only [Finished.faultLen, responsesLen] <;> omega

/-- **parameter round trip**: the parser reads the codes, the filestore responses and the fault
    location back behind any `A` of the directive header's length -/
theorem fin_parse_params (k : Finished) (wf : WFFin k) (A : Bytes) (hA : A.length = k.fd.headerLen) :
    Finished.parse (k.fd, A ++ Spec.finParams k) = .ok k := by
  obtain ⟨h0, h1, h2, h3, h4, h5, h6, wb⟩ := wf
  obtain ⟨o1, o2, o3⟩ := fin_octet _ _ _ (cond_lt _ h1) h2 h3
  have hcast : ((k.cond.toNat : Nat) : Int) = k.cond := by omega
  have hdl : k.fd.header.dataFieldLen
      = finParamLen k.fd.header.conf.crcFlag k.cond k.responses k.faultLoc + 1 := by
    rw [fin_plen _ _ _ _ h4 h6]; exact wb.len
  have hle : k.fd.header.dataFieldLen ≤ 65535 := by have := wb.1.2.2.2.2.2.2.2.1; omega
  obtain ⟨m1, m2⟩ := finParamLen_mono k.fd.header.conf.crcFlag k.cond k.responses k.faultLoc
  have hlen : (A ++ Spec.finParams k).length
      = k.fd.headerLen + 1 + (Spec.responses k.responses ++ Spec.fault k.faultLoc).length := by
    rw [List.length_append, hA, finParams_length, List.length_append]; omega
  have hi : idx (A ++ Spec.finParams k) k.fd.headerLen
      = .ok ((k.cond.toNat * 16 + k.delivery * 4 + k.status) % 256) := by
    rw [← hA, ← Nat.add_zero A.length, idx_after]
    simp [Spec.finParams, idx]
  have hd : (A ++ Spec.finParams k).drop (k.fd.headerLen + 1)
      = Spec.responses k.responses ++ Spec.fault k.faultLoc := by
    rw [← hA, drop_after]; simp [Spec.finParams]
  unfold Finished.parse
  dsimp only
  rw [if_neg (by omega), hi]
  simp only [bind_ok, o1, o2, o3, enumOf, h1, ↓reduceIte, hcast]
  rw [Finished.calcLen_eq', if_neg (by omega), bind_ok]
  by_cases hne : Spec.responses k.responses ++ Spec.fault k.faultLoc = []
  · obtain ⟨e1, e2⟩ := tail_nil _ _ h4 hne
    rw [if_neg (by rw [hlen, hne]; exact Nat.lt_irrefl _)]
    rw [e1, e2] at hdl
    rw [← hdl, fd_eta k.fd _ rfl]
    cases k; cases e1; cases e2; rfl
  · have hpos := List.length_pos_iff.mpr hne
    rw [if_pos (by omega), hd, unpackTlvs_spec _ _ _ h4 h5 h6 hne, bind_ok, Finished.finish_eq]
    dsimp only
    rw [if_neg (by omega), Finished.calcLen_setLen, Finished.calcLen_eq', if_neg (by omega), bind_ok, ← hdl,
      fd_eta k.fd _ rfl]
    rfl

/-- **round trip, whatever follows the PDU**: decoding the packed PDU followed by arbitrary octets
    returns the identical PDU — same header, condition / delivery / status codes, the same filestore
    responses in the same order and the same fault location; neither the CRC trailer nor trailing
    octets are read as TLVs -/
theorem C06_finished_roundtrip (k : Finished) (wf : WFFin k) (rest : Bytes) :
    Finished.unpack (Spec.finished k ++ rest) = .ok k := by
  rw [Finished.unpack_eq, Spec.finished, prelude_pdu _ k.fd 5 1 _ rest wf.base (by omega)]
  exact fin_parse_params k wf _ (specOctets_length k.fd wf.2.2.2.2.2.2.2.1)

/-- a well-formed list of filestore responses compares equal to itself (no element raises) -/
private theorem responsesBeqAux_refl : ∀ l : List FileStoreResponseTlv, WFResponses l → responsesBeqAux l l = .ok true := by
  intro l
  induction l with
  | nil => intro _; rfl
  | cons r l ih =>
    intro hl
    have hr := (resp_pack r (hl r List.mem_cons_self)).1
    have hv : r.value = .ok (C08.Spec.fsResponse r).tail.tail := value_of_pack hr
    have hl' := (List.forall_mem_cons.mp hl).2
    simp only [responsesBeqAux, AnyTlv.beq, AnyTlv.tlvType, AnyTlv.value, hv, ne_eq, not_true_eq_false,
      ↓reduceIte, bind, Except.bind, pure, Except.pure, BEq.rfl, ih hl']

/-- the decoded PDU **compares equal** to the original (both ways) and **re-packs to the same
    octets** (`==` needs a fault location whose entity ID has a width the library can compare) -/
theorem C06_finished_eq_repack (k : Finished) (wf : WFFin k) (hw : EqWidth k.faultLoc) (rest : Bytes) :
    ∃ k', (k.pack >>= fun b => Finished.unpack (b ++ rest)) = .ok k' ∧ k' = k ∧
      k.beq k' = .ok true ∧ k'.beq k = .ok true ∧ k'.pack = k.pack :=
  eq_repack_of (C06_finished_pack_exact k wf) (C06_finished_roundtrip k wf rest) (by
    simp [Finished.beq, responsesBeq, responsesBeqAux_refl _ wf.2.2.2.2.1, optEntityBeq_refl _ hw, beq_refl, bind,
      Except.bind, pure, Except.pure])

/-- counterpart of `C06_eof_eq_other_width`: with a fault location whose entity ID has any other
    width (`WFFault` allows 0..255 octets) **`==` raises `ValueError`** — on the object itself and on
    the decoded PDU against the original, in both directions (documented class; nothing is compared
    wrongly, but the statement's "compares equal" does not hold there; the structural round trip
    `C06_finished_roundtrip` and the identical re-pack do) -/
theorem C06_finished_eq_other_width (k : Finished) (wf : WFFin k) (t : EntityIdTlv) (hf : k.faultLoc = some t)
    (hw : t.value.length ∉ [1, 2, 4, 8]) (rest : Bytes) :
    k.beq k = .error .value ∧
    ∃ k', (k.pack >>= fun b => Finished.unpack (b ++ rest)) = .ok k' ∧
      k.beq k' = .error .value ∧ k'.beq k = .error .value ∧ k'.pack = k.pack := by
  have h : k.beq k = .error .value := by
    simp [Finished.beq, responsesBeq, responsesBeqAux_refl _ wf.2.2.2.2.1, hf, Eof.optEntityBeq, EntityIdTlv.beq,
      ubfValue, hw, bind, Except.bind]
  refine ⟨h, k, ?_, h, h, rfl⟩
  rw [C06_finished_pack_exact k wf, bind_ok]; exact C06_finished_roundtrip k wf rest

/-- **the three documented setters keep the length consistent**: afterwards the PDU is the one a
    fresh constructor call with the new value gives (or both are refused as too long) -/
theorem C06_finished_setters (c : PduConfig) (cond : Int) (dc fs : Nat) (rs : List FileStoreResponseTlv)
    (fl : Option EntityIdTlv) (hn : finParamLen c.crcFlag cond rs fl + 1 ≤ 65535) :
    (∀ cond', (Finished.new c cond dc fs rs fl >>= fun k => k.setCond cond') = Finished.new c cond' dc fs rs fl) ∧
    (∀ rs', (Finished.new c cond dc fs rs fl >>= fun k => k.setResponses rs')
      = Finished.new c cond dc fs (rs'.getD []) fl) ∧
    (∀ fl', (Finished.new c cond dc fs rs fl >>= fun k => k.setFaultLoc fl') = Finished.new c cond dc fs rs fl') := by
  by_cases g : c.source.width ≠ c.dest.width
  · refine ⟨fun _ => ?_, fun _ => ?_, fun _ => ?_⟩ <;>
      rw [Finished.new_eq, Finished.new_eq, if_pos (Or.inl g), if_pos (Or.inl g)] <;> rfl
  · have g0 : ¬ (c.source.width ≠ c.dest.width ∨ 65535 < finParamLen c.crcFlag cond rs fl + 1) := by omega
    refine ⟨fun cond' => ?_, fun rs' => ?_, fun fl' => ?_⟩ <;>
      rw [Finished.new_eq, Finished.new_eq, if_neg g0, bind_ok]
    · rw [Finished.setCond_eq]; simp only [g, false_or]
    · rw [Finished.setResponses_eq]; simp only [g, false_or]
    · rw [Finished.setFaultLoc_eq]; simp only [g, false_or]

/-- the decoder fails, for any octet string whatever, only with `ValueError`,
    `UnsupportedCfdpVersion`, `InvalidCrc` or `TlvTypeMissmatch`; its TLV loop terminates (it is
    defined by well-founded recursion) and never raises `IndexError` -/
theorem C06_finished_documented (d : Bytes) : Documented (Finished.unpack d) := Finished.unpack_documented d

/-- what acceptance means: the buffer holds the whole declared PDU, the CRC-16 over exactly the
    declared PDU is zero when the flag is set, and the result depends on the declared PDU only -/
theorem C06_finished_accept_sound (d : Bytes) (k : Finished) (h : Finished.unpack d = .ok k) :
    ∃ fd p, prelude d = .ok (fd, p) ∧ fd.packetLen ≤ d.length ∧
      (fd.header.conf.crcFlag = 1 → Crc.crc16 (d.take fd.packetLen) = 0) ∧
      ∀ rest, Finished.unpack (d.take fd.packetLen ++ rest) = .ok k := by
  obtain ⟨fd, p, hp, _, h3, h4, ht⟩ := Finished.unpack_inv d k h
  exact ⟨fd, p, hp, h3, h4, ht⟩

theorem C06_finished_truncated (x : Finished) (wf : WFFin x) (k : Nat) (hk : k < (Spec.finished x).length) :
    Finished.unpack ((Spec.finished x).take k) = .error .value := by
  rw [Finished.unpack_eq]
  exact pdu_truncated _ x.fd _ _ _ wf.base k hk

-- non-vacuity: FILESTORE_REJECTION, data incomplete, file retained, two responses (one with two names and a
-- non-ASCII name), 4-octet fault location, CRC
private def exFin : Finished :=
  ⟨⟨⟨0, 0, 26, ⟨⟨1, 7⟩, ⟨1, 8⟩, ⟨2, 0x0102⟩, 1, 0, 1, 1, 0⟩⟩, 5⟩, 4, 1, 2,
    [⟨0, 1, [0x61], [], ⟨[]⟩⟩, ⟨2, 33, [0xC3, 0xA4], [0x62], ⟨[9]⟩⟩], some ⟨⟨6, [1, 2, 3, 4]⟩⟩⟩
example : WFFin exFin := by decide
example : Finished.new ⟨⟨1, 7⟩, ⟨1, 8⟩, ⟨2, 0x0102⟩, 1, 0, 1, 0, 0⟩ 4 1 2
    [⟨0, 1, [0x61], [], ⟨[]⟩⟩, ⟨2, 33, [0xC3, 0xA4], [0x62], ⟨[9]⟩⟩] (some ⟨⟨6, [1, 2, 3, 4]⟩⟩) = .ok exFin := by rfl
example : C05.Spec.octets exFin.fd.header ++ [u8 exFin.fd.code] ++ Spec.finParams exFin
    = [0x2E, 0, 26, 0x01, 7, 1, 2, 8, 5, 0x46,
       1, 4, 0x01, 1, 0x61, 0,
       1, 8, 0x21, 2, 0xC3, 0xA4, 1, 0x62, 1, 9,
       6, 4, 1, 2, 3, 4] := by decide
example : WFFin ⟨⟨⟨0, 0, 2, ⟨⟨1, 0⟩, ⟨1, 0⟩, ⟨1, 0⟩, 0, 0, 0, 1, 0⟩⟩, 5⟩, 0, 0, 2, [], none⟩ := by decide
-- a well-formed Finished PDU whose fault location has a 3-octet entity ID: `==` raises (C06_finished_eq_other_width)
example : WFFin ⟨⟨⟨0, 0, 7, ⟨⟨1, 0⟩, ⟨1, 0⟩, ⟨1, 0⟩, 0, 0, 0, 1, 0⟩⟩, 5⟩, 4, 0, 2, [], some ⟨⟨6, [7, 8, 9]⟩⟩⟩ ∧
    ¬ EqWidth (some ⟨⟨6, [7, 8, 9]⟩⟩) ∧
    Finished.beq ⟨⟨⟨0, 0, 7, ⟨⟨1, 0⟩, ⟨1, 0⟩, ⟨1, 0⟩, 0, 0, 0, 1, 0⟩⟩, 5⟩, 4, 0, 2, [], some ⟨⟨6, [7, 8, 9]⟩⟩⟩
      ⟨⟨⟨0, 0, 7, ⟨⟨1, 0⟩, ⟨1, 0⟩, ⟨1, 0⟩, 0, 0, 0, 1, 0⟩⟩, 5⟩, 4, 0, 2, [], some ⟨⟨6, [7, 8, 9]⟩⟩⟩ = .error .value := by
  decide
-- a fault location with "no error" is outside the exact-layout domain
example : ¬ WFFin ⟨⟨⟨0, 0, 2, ⟨⟨1, 0⟩, ⟨1, 0⟩, ⟨1, 0⟩, 0, 0, 0, 1, 0⟩⟩, 5⟩, 0, 0, 2, [], some ⟨⟨6, [1]⟩⟩⟩ := by decide

/-- an `EntityIdTlv` *object* (not an option of the standard; its `__eq__` is `False` against the
    generic TLV the decoder yields) -/
def isEntityObj : AnyTlv → Bool
  | .entityId _ => true
  | _ => false

/-- the value octets of a TLV object (`[]` if `.value` raises) -/
def optValue (a : AnyTlv) : Bytes :=
  match a.value with
  | .ok v => v
  | .error _ => []

/-- a valid option: a TLV object of the library (generic, flow label, message to user,
    fault-handler override, filestore request / response) with a type of the standard whose value
    can be built, has 0..255 octets and which packs to type, length, value (C08) -/
def WFOpt (a : AnyTlv) : Prop :=
  isEntityObj a = false ∧ a.tlvType ∈ tlvTypes ∧ (optValue a).length ≤ 255 ∧
  a.value = .ok (optValue a) ∧ a.pack = .ok (C08.Spec.tlv a.tlvType (optValue a))

instance (a : AnyTlv) : Decidable (WFOpt a) := by unfold WFOpt; infer_instance

def WFOptions (l : List AnyTlv) : Prop := ∀ a ∈ l, WFOpt a

instance (l : List AnyTlv) : Decidable (WFOptions l) := by unfold WFOptions; infer_instance

/-- the options as the standard lays them out: type, length, value, in list order -/
def Spec.options : List AnyTlv → Bytes
  | [] => []
  | a :: l => C08.Spec.tlv a.tlvType (optValue a) ++ Spec.options l

/-- valid Metadata PDUs: closure requested or not, every `ChecksumType` member, a file size over
    the full range of the selected FSS width, names of 0..255 octets (any octets; the library
    produces UTF-8), no options / an empty list / any number of valid options that fits the 16-bit
    data-field length, towards the receiver, any header configuration -/
def WFMd (k : Metadata) : Prop :=
  k.checksumType ∈ checksumTypes ∧ fits (fssWidth k.fd.header.conf.fileFlag) k.fileSize ∧
  k.srcLv.value.length ≤ 255 ∧ k.dstLv.value.length ≤ 255 ∧ WFOptions (optList k.options) ∧
  WFBase k.fd 7 0 (1 + fssWidth k.fd.header.conf.fileFlag + (1 + k.srcLv.value.length)
    + (1 + k.dstLv.value.length) + (Spec.options (optList k.options)).length)

instance (k : Metadata) : Decidable (WFMd k) := by unfold WFMd; infer_instance

/-- the parameters of 727.0-B-5 §5.2.5 -/
def Spec.mdParams (k : Metadata) : Bytes :=
  [u8 ((if k.closure then 64 else 0) + k.checksumType)]
    ++ beBytes (fssWidth k.fd.header.conf.fileFlag) k.fileSize.toNat
    ++ C08.Spec.lv k.srcLv.value ++ C08.Spec.lv k.dstLv.value ++ Spec.options (optList k.options)

def Spec.metadata (k : Metadata) : Bytes := C06Fixed.Spec.pdu k.fd (Spec.mdParams k)

private theorem mdParams_length (k : Metadata) :
    (Spec.mdParams k).length = 1 + fssWidth k.fd.header.conf.fileFlag + (1 + k.srcLv.value.length)
      + (1 + k.dstLv.value.length) + (Spec.options (optList k.options)).length := by
  simp only [Spec.mdParams, C08.Spec.lv, List.length_append, List.length_cons, List.length_nil, beBytes_length]
  omega

theorem WFMd.base {k : Metadata} (wf : WFMd k) : WFBase k.fd 7 0 (Spec.mdParams k).length := by
  rw [mdParams_length]; exact wf.2.2.2.2.2

private theorem ct_lt (c : Nat) (h : c ∈ checksumTypes) : c < 16 := by
  simp only [checksumTypes, List.mem_cons, List.not_mem_nil, or_false] at h; omega

private theorem md_octet (cl : Bool) (c : Nat) (h : c ∈ checksumTypes) :
    byteOfN ((if cl then 64 else 0) ||| c) = .ok (u8 ((if cl then 64 else 0) + c)) := by
  simp only [checksumTypes, List.mem_cons, List.not_mem_nil, or_false] at h
  rcases h with rfl | rfl | rfl | rfl | rfl <;> cases cl <;> rfl

private theorem optionsLen_spec (l : List AnyTlv) (wf : WFOptions l) : optionsLen l = (Spec.options l).length := by
  induction l with
  | nil => rfl
  | cons a l ih =>
    have ha := (C08.C08_packet_len a _ (wf a List.mem_cons_self).2.2.2.2).symm
    have hl := (List.forall_mem_cons.mp wf).2
    simp only [optionsLen, Spec.options, List.length_append, ih hl, ha]

private theorem packOptions_spec (l : List AnyTlv) (wf : WFOptions l) : packOptions l = .ok (Spec.options l) := by
  induction l with
  | nil => rfl
  | cons a l ih =>
    have ha := (wf a List.mem_cons_self).2.2.2.2
    have hl := (List.forall_mem_cons.mp wf).2
    simp only [packOptions, ha, ih hl, bind, Except.bind, pure, Except.pure, Spec.options]

private theorem md_plen (f c : Nat) (s d : CfdpLv) (o : Option (List AnyTlv)) (wf : WFOptions (optList o)) :
    mdParamLen f c s d o + 1 = 1 + (1 + fssWidth f + (1 + s.value.length) + (1 + d.value.length)
      + (Spec.options (optList o)).length) + (if c = 1 then 2 else 0) := by
  unfold mdParamLen CfdpLv.packetLen
  rw [optionsLen_spec _ wf]
  omega

/-- the constructor accepts every configuration and every parameter set whose encoding fits the
    16-bit data-field length (names of at most 255 octets; `None` is the empty name), forces the
    direction "towards receiver" and yields a valid PDU -/
theorem C06_metadata_new (c : PduConfig) (wf : WFConf c) (cl : Bool) (ct : Nat) (size : Int)
    (src dst : Option Bytes) (opts : Option (List AnyTlv))
    (hs : (nameOctets src).length ≤ 255) (hd : (nameOctets dst).length ≤ 255)
    (hn : mdParamLen c.fileFlag c.crcFlag ⟨nameOctets src⟩ ⟨nameOctets dst⟩ opts + 1 ≤ 65535) :
    ∃ k, Metadata.new c cl ct size src dst opts = .ok k ∧ k.closure = cl ∧ k.checksumType = ct ∧
      k.fileSize = size ∧ k.srcLv = ⟨nameOctets src⟩ ∧ k.dstLv = ⟨nameOctets dst⟩ ∧ k.options = opts ∧
      k.fd.header.conf = { c with direction := 0 } ∧
      (ct ∈ checksumTypes → fits (fssWidth c.fileFlag) size → WFOptions (optList opts) → WFMd k) := by
  rw [Metadata.new_eq]
  have g0 : ¬ (255 < (nameOctets src).length ∨ 255 < (nameOctets dst).length) := by omega
  have g : ¬ (c.source.width ≠ c.dest.width ∨
      65535 < mdParamLen c.fileFlag c.crcFlag ⟨nameOctets src⟩ ⟨nameOctets dst⟩ opts + 1) := by
    have := wf.widths; omega
  rw [if_neg g0, if_neg g]
  refine ⟨_, rfl, rfl, rfl, rfl, rfl, rfl, rfl, rfl, ?_⟩
  intro h1 h2 h3
  exact ⟨h1, h2, hs, hd, h3, wfBase_new c wf _ _ _ _ (by omega) (by omega) (md_plen _ _ _ _ _ h3)⟩

/-- a name of more than 255 octets, or more options than the 16-bit data-field length can
    describe, are refused (`ValueError`) by the constructor -/
theorem C06_metadata_too_long (c : PduConfig) (cl : Bool) (ct : Nat) (size : Int) (src dst : Option Bytes)
    (opts : Option (List AnyTlv))
    (h : 255 < (nameOctets src).length ∨ 255 < (nameOctets dst).length ∨
      65535 < mdParamLen c.fileFlag c.crcFlag ⟨nameOctets src⟩ ⟨nameOctets dst⟩ opts + 1) :
    Metadata.new c cl ct size src dst opts = .error .value := by
  rw [Metadata.new_eq]
  by_cases g0 : 255 < (nameOctets src).length ∨ 255 < (nameOctets dst).length
  · rw [if_pos g0]
  · rw [if_neg g0, if_pos (Or.inr (by omega))]

private theorem verify_fits (fd : FileDirective) (size : Int)
    (h : fits (fssWidth fd.header.conf.fileFlag) size) : fd.verifyFileLen size = .ok () := by
  obtain ⟨h0, h1⟩ := h
  unfold fssWidth at h1
  rw [verifyFileLen_eq, if_neg]
  split at h1 <;> omega

/-- **pack = standard layout**, for every valid Metadata PDU (names as LVs, options in list order)
    in every header configuration -/
theorem C06_metadata_pack_exact (k : Metadata) (wf : WFMd k) : k.pack = .ok (Spec.metadata k) := by
  obtain ⟨h1, h2, h3, h4, h5, w1, _, _, w4, _, _⟩ := wf
  unfold Metadata.pack
  rw [verify_fits k.fd _ h2, pack_spec k.fd w1 (by omega), md_octet _ _ h1, width_of_large,
    Nak.packInt_fits _ _ h2, CfdpLv.pack_eq _ h3, CfdpLv.pack_eq _ h4, packOptions_spec _ h5]
  simp only [bind, Except.bind, pure, Except.pure, Spec.metadata, C06Fixed.Spec.pdu, Spec.mdParams, specOctets,
    C08.Spec.lv, List.append_assoc]

/-- **a file size that does not fit the selected width makes `pack` fail, never truncate**:
    `ValueError` from `_verify_file_len` above 2^32 / 2^64, `struct.error` from `struct.pack` for
    exactly 2^32 / 2^64 and for negative sizes -/
theorem C06_metadata_fss_overflow (k : Metadata) (wf : C05.WF k.fd.header) (hc : k.fd.code < 256)
    (hct : k.checksumType ∈ checksumTypes)
    (h : ¬ fits (fssWidth k.fd.header.conf.fileFlag) k.fileSize) :
    k.pack = .error .value ∨ k.pack = .error .struct := by
  unfold Metadata.pack
  rw [verifyFileLen_eq]
  split
  · left; rfl
  · right
    rw [bind_ok, pack_spec k.fd wf hc, md_octet _ _ hct, width_of_large, Nak.packInt_not_fits _ _ h]
    rfl

/-- **length clauses**: 1 + FSS octets + the two LVs + the options, plus 2 with CRC -/
theorem C06_metadata_len (k : Metadata) (wf : WFMd k) :
    (Spec.metadata k).length = k.packetLen ∧
    k.fd.header.dataFieldLen = (Spec.metadata k).length - k.fd.header.headerLen ∧
    k.fd.header.dataFieldLen = k.packetLen - k.fd.header.headerLen ∧
    (Spec.metadata k).length = k.fd.header.headerLen + 1
      + (1 + fssWidth k.fd.header.conf.fileFlag + (1 + k.srcLv.value.length) + (1 + k.dstLv.value.length)
          + (Spec.options (optList k.options)).length) + crcLen k.fd.header.conf := by
  have := pdu_len k.fd 7 0 (Spec.mdParams k) wf.base
  rwa [mdParams_length] at this

theorem C06_metadata_crc (k : Metadata) :
    (k.fd.header.conf.crcFlag = 1 →
      Spec.metadata k = (C05.Spec.octets k.fd.header ++ [u8 k.fd.code] ++ Spec.mdParams k)
        ++ Crc.crcTrailer (C05.Spec.octets k.fd.header ++ [u8 k.fd.code] ++ Spec.mdParams k) ∧
      Crc.crc16 (Spec.metadata k) = 0) ∧
    (k.fd.header.conf.crcFlag ≠ 1 →
      Spec.metadata k = C05.Spec.octets k.fd.header ++ [u8 k.fd.code] ++ Spec.mdParams k) :=
  pdu_crc k.fd (Spec.mdParams k)

/-- the generic TLV the decoder yields for an option -/
def toGeneric (a : AnyTlv) : AnyTlv := .generic ⟨a.tlvType, optValue a⟩

/-- the decoder's view of the option list: no options and an empty list are the same PDU, every
    option comes back as a generic TLV of the same type and value -/
def normOptions : Option (List AnyTlv) → Option (List AnyTlv)
  | none => none
  | some [] => none
  | some (a :: l) => some ((a :: l).map toGeneric)

/-- the PDU as the decoder returns it -/
def normMd (k : Metadata) : Metadata := { k with options := normOptions k.options }

private theorem tlv_spec_len (t : Nat) (v : Bytes) : (C08.Spec.tlv t v).length = 2 + v.length := by
  simp [C08.Spec.tlv]; omega

/-- **the loop reads laid-out options back**, in order, and stops exactly at the end of its input -/
private theorem parseOptions_spec (l : List AnyTlv) (wf : WFOptions l) (hne : l ≠ []) :
    parseOptions (Spec.options l) = .ok (l.map fun a => ⟨a.tlvType, optValue a⟩) := by
  induction l with
  | nil => exact absurd rfl hne
  | cons a l ih =>
    obtain ⟨_, ht, hv, _, _⟩ := wf a List.mem_cons_self
    have hu := CfdpTlv.unpack_pack_append a.tlvType (optValue a) (Spec.options l) ht hv
    have hT : (CfdpTlv.mk a.tlvType (optValue a)).packetLen = (C08.Spec.tlv a.tlvType (optValue a)).length :=
      (tlv_spec_len _ _).symm
    rw [show Spec.options (a :: l) = C08.Spec.tlv a.tlvType (optValue a) ++ Spec.options l from rfl, parseOptions,
      show CfdpTlv.unpack (C08.Spec.tlv a.tlvType (optValue a) ++ Spec.options l) = _ from hu, bind_ok, hT,
      List.length_append, if_neg (by omega)]
    cases l with
    | nil => exact dif_pos (Nat.add_zero _).symm
    | cons b l' =>
      have hb := tlv_spec_len b.tlvType (optValue b)
      rw [dif_neg (by simp only [Spec.options, List.length_append]; omega), List.drop_left,
        ih (List.forall_mem_cons.mp wf).2 (by simp), bind_ok]
      rfl

private theorem md_first (cl : Bool) (c : Nat) (h : c < 16) :
    ((if cl then 64 else 0) + c) % 256 % 16 = c ∧
    (decide (((if cl then 64 else 0) + c) % 256 / 64 % 2 = 1)) = cl := by
  cases cl <;>
    simp only [Bool.false_eq_true, ↓reduceIte, Nat.zero_add, decide_eq_false_iff_not, decide_eq_true_eq] <;> omega

/-- **parameter round trip**: the parser reads flags, file size, names and options back behind any
    `A` of the directive header's length; the options come back as generic TLVs (`normMd`) -/
theorem md_parse_params (k : Metadata) (wf : WFMd k) (A : Bytes) (hA : A.length = k.fd.headerLen) :
    Metadata.parse (k.fd, A ++ Spec.mdParams k) = .ok (normMd k) := by
  obtain ⟨h1, h2, h3, h4, h5, _⟩ := wf
  obtain ⟨o1, o2⟩ := md_first k.closure k.checksumType (ct_lt _ h1)
  have hL := Metadata.parse_layout k.fd A (C08.Spec.lv k.srcLv.value) (C08.Spec.lv k.dstLv.value)
    (Spec.options (optList k.options)) (u8 ((if k.closure then 64 else 0) + k.checksumType)) k.checksumType
    k.fileSize.toNat k.srcLv k.dstLv hA (by rw [u8_toNat, o1]; exact if_pos h1) h2.2
    (fun rest => CfdpLv.unpack_pack_append _ rest h3) (by simp [C08.Spec.lv, CfdpLv.packetLen])
    (fun rest => CfdpLv.unpack_pack_append _ rest h4) (by simp [C08.Spec.lv, CfdpLv.packetLen])
  unfold Spec.mdParams
  simp only [List.append_assoc] at hL ⊢
  rw [hL, u8_toNat, o2, Nak.toNat_cast_fits _ _ h2, normMd]
  cases ho : k.options with
  | none => exact if_pos rfl
  | some l =>
    cases l with
    | nil => exact if_pos rfl
    | cons a l =>
      rw [ho] at h5
      have hne : Spec.options (optList (some (a :: l))) ≠ [] := fun he => by
        have := congrArg List.length he
        have := tlv_spec_len a.tlvType (optValue a)
        simp only [optList, Spec.options, List.length_append, List.length_nil] at *
        omega
      rw [if_neg hne]
      show (parseOptions (Spec.options (a :: l)) >>= _) = _
      rw [parseOptions_spec (a :: l) h5 (by simp), bind_ok]
      simp only [normOptions, List.map_map]
      rfl

/-- **round trip, whatever follows the PDU**: decoding the packed PDU followed by arbitrary octets
    returns the PDU with identical header, closure flag, checksum type, file size and names, and the
    options as generic TLVs of the same types and values in the same order (`None` for no / an empty
    list) — neither the CRC trailer nor trailing octets are read as options -/
theorem C06_metadata_roundtrip (k : Metadata) (wf : WFMd k) (rest : Bytes) :
    Metadata.unpack (Spec.metadata k ++ rest) = .ok (normMd k) := by
  rw [Metadata.unpack_eq, Spec.metadata, prelude_pdu _ k.fd 7 0 _ rest wf.base (by omega)]
  exact md_parse_params k wf _ (specOctets_length k.fd wf.2.2.2.2.2.1)

private theorem norm_spec (o : Option (List AnyTlv)) (wf : WFOptions (optList o)) :
    WFOptions (optList (normOptions o)) ∧ Spec.options (optList (normOptions o)) = Spec.options (optList o) := by
  have key : ∀ l : List AnyTlv, WFOptions l →
      WFOptions (l.map toGeneric) ∧ Spec.options (l.map toGeneric) = Spec.options l := by
    intro l
    induction l with
    | nil => intro _; exact ⟨fun a ha => (by cases ha), rfl⟩
    | cons a l ih =>
      intro hl
      obtain ⟨_, ht, hv, _, _⟩ := hl a List.mem_cons_self
      obtain ⟨i1, i2⟩ := ih (List.forall_mem_cons.mp hl).2
      constructor
      · intro q hq
        rcases List.mem_cons.mp hq with rfl | hq
        · exact ⟨rfl, ht, hv, rfl, tlv_pack _ _ ht hv⟩
        · exact i1 q hq
      · exact congrArg (C08.Spec.tlv a.tlvType (optValue a) ++ ·) i2
  cases o with
  | none => exact ⟨wf, rfl⟩
  | some l =>
    cases l with
    | nil => exact ⟨fun a ha => (by cases ha), rfl⟩
    | cons a l => exact key (a :: l) wf

/-- the decoded PDU is again a valid PDU with **the same octets**: `pack` of the decoded PDU is
    `pack` of the original, and decoding it once more changes nothing -/
theorem C06_metadata_repack (k : Metadata) (wf : WFMd k) (rest : Bytes) :
    WFMd (normMd k) ∧ Spec.metadata (normMd k) = Spec.metadata k ∧ (normMd k).pack = k.pack ∧
    Metadata.unpack (Spec.metadata (normMd k) ++ rest) = .ok (normMd k) := by
  obtain ⟨n1, n2⟩ := norm_spec k.options wf.2.2.2.2.1
  have hwf : WFMd (normMd k) := by
    obtain ⟨h1, h2, h3, h4, _, wb⟩ := wf
    refine ⟨h1, h2, h3, h4, n1, ?_⟩
    show WFBase k.fd 7 0 _
    simp only [normMd, n2]
    exact wb
  have hs : Spec.metadata (normMd k) = Spec.metadata k := by
    show C06Fixed.Spec.pdu k.fd (Spec.mdParams (normMd k)) = C06Fixed.Spec.pdu k.fd (Spec.mdParams k)
    congr 1
    show _ ++ Spec.options (optList (normOptions k.options)) = _ ++ Spec.options (optList k.options)
    rw [n2]
    rfl
  have hnn : normMd (normMd k) = normMd k := by
    unfold normMd
    cases ho : k.options with
    | none => rfl
    | some l =>
      cases l with
      | nil => rfl
      | cons a l =>
        simp only [normOptions, List.map_cons, List.map_map]
        congr 2
  refine ⟨hwf, hs, ?_, ?_⟩
  · rw [C06_metadata_pack_exact _ hwf, C06_metadata_pack_exact _ wf, hs]
  · have := C06_metadata_roundtrip (normMd k) hwf rest
    rwa [hnn] at this

private theorem beq_toGeneric (a : AnyTlv) (wf : WFOpt a) :
    a.beq (toGeneric a) = .ok true ∧ (toGeneric a).beq a = .ok true := by
  obtain ⟨he, _, _, hv, _⟩ := wf
  cases a with
  | entityId t => cases he
  | _ => simp_all [AnyTlv.beq, toGeneric, AnyTlv.tlvType, AnyTlv.value, bind, Except.bind, pure, Except.pure]

/-- the decoded PDU **compares equal** to the original, both ways (an empty option list equals no
    options; options compare by type and value) -/
theorem C06_metadata_eq (k : Metadata) (wf : WFMd k) :
    k.beq (normMd k) = .ok true ∧ (normMd k).beq k = .ok true := by
  have key : ∀ l : List AnyTlv, WFOptions l →
      optionsBeqAux l (l.map toGeneric) = .ok true ∧ optionsBeqAux (l.map toGeneric) l = .ok true := by
    intro l
    induction l with
    | nil => intro _; exact ⟨rfl, rfl⟩
    | cons a l ih =>
      intro hl
      obtain ⟨b1, b2⟩ := beq_toGeneric a (hl a List.mem_cons_self)
      obtain ⟨i1, i2⟩ := ih (List.forall_mem_cons.mp hl).2
      simp only [List.map_cons, optionsBeqAux, b1, b2, i1, i2, bind, Except.bind, ↓reduceIte, and_self]
  have hopt : optionsBeq (optList k.options) (optList (normOptions k.options)) = .ok true ∧
      optionsBeq (optList (normOptions k.options)) (optList k.options) = .ok true := by
    cases ho : k.options with
    | none => exact ⟨rfl, rfl⟩
    | some l =>
      cases l with
      | nil => exact ⟨rfl, rfl⟩
      | cons a l =>
        simp only [normOptions, optList, optionsBeq, List.length_map, ne_eq, not_true_eq_false, ↓reduceIte]
        exact key (a :: l) (by have := wf.2.2.2.2.1; rwa [ho] at this)
  simp [Metadata.beq, normMd, beq_refl, hopt.1, hopt.2]

private theorem ite_or {α : Type} {p q : Prop} [Decidable p] [Decidable q] (a b : α) :
    (if p ∨ q then a else b) = if p then a else if q then a else b := by
  by_cases p <;> by_cases q <;> simp [*]

/-- **the three documented setters keep the length consistent**: afterwards the PDU is the one a
    fresh constructor call with the new value gives (or both are refused as too long) -/
theorem C06_metadata_setters (c : PduConfig) (cl : Bool) (ct : Nat) (size : Int) (src dst : Option Bytes)
    (opts : Option (List AnyTlv))
    (hs : (nameOctets src).length ≤ 255) (hd : (nameOctets dst).length ≤ 255)
    (hn : mdParamLen c.fileFlag c.crcFlag ⟨nameOctets src⟩ ⟨nameOctets dst⟩ opts + 1 ≤ 65535) :
    (∀ o', (Metadata.new c cl ct size src dst opts >>= fun k => k.setOptions o')
      = Metadata.new c cl ct size src dst o') ∧
    (∀ n, (Metadata.new c cl ct size src dst opts >>= fun k => k.setSrcName n)
      = Metadata.new c cl ct size n dst opts) ∧
    (∀ n, (Metadata.new c cl ct size src dst opts >>= fun k => k.setDstName n)
      = Metadata.new c cl ct size src n opts) := by
  have hs' : ¬ 255 < (nameOctets src).length := by omega
  have hd' : ¬ 255 < (nameOctets dst).length := by omega
  by_cases g : c.source.width ≠ c.dest.width
  · refine ⟨fun o' => ?_, fun n => ?_, fun n => ?_⟩
    · simp [Metadata.new_eq, hs', hd', g, bind, Except.bind]
    · by_cases g1 : 255 < (nameOctets n).length <;> simp [Metadata.new_eq, hs', hd', g, g1, bind, Except.bind]
    · by_cases g1 : 255 < (nameOctets n).length <;> simp [Metadata.new_eq, hs', hd', g, g1, bind, Except.bind]
  · have g0 : ¬ (255 < (nameOctets src).length ∨ 255 < (nameOctets dst).length) := by omega
    have g1 : ¬ (c.source.width ≠ c.dest.width ∨
        65535 < mdParamLen c.fileFlag c.crcFlag ⟨nameOctets src⟩ ⟨nameOctets dst⟩ opts + 1) := by omega
    rw [Metadata.new_eq c cl ct size src dst opts, if_neg g0, if_neg g1]
    refine ⟨fun o' => ?_, fun n => ?_, fun n => ?_⟩ <;> rw [bind_ok, Metadata.new_eq]
    · rw [Metadata.setOptions_eq, if_neg g0]
      simp only [g, false_or]
    · rw [Metadata.setSrcName_eq]
      simp only [g, hd', false_or, or_false, ite_or]
    · rw [Metadata.setDstName_eq]
      simp only [g, hs', false_or, ite_or]

/-- the option classes of the library are valid options: a generic TLV of a standard type, a flow
    label, a message to user, a fault-handler override and (through the C08 layout theorems) a valid
    filestore response / request -/
theorem C06_metadata_option_kinds :
    (∀ t : CfdpTlv, C08.WFType t.ttype → C08.WFValue t.value → WFOpt (.generic t)) ∧
    (∀ v : Bytes, C08.WFValue v → WFOpt (.flowLabel ⟨⟨5, v⟩⟩) ∧ WFOpt (.msgToUser ⟨⟨2, v⟩⟩)) ∧
    (∀ r : FileStoreResponseTlv, C08.WFResp r → WFOpt (.fsResponse r)) ∧
    (∀ r : FileStoreRequestTlv, C08.WFReq r → WFOpt (.fsRequest r)) ∧
    (∀ (cc hc : Nat) (b : UInt8), WFOpt (.faultHandler ⟨cc, hc, ⟨4, [b]⟩⟩)) := by
  have m : (0 : Nat) ∈ tlvTypes ∧ (1 : Nat) ∈ tlvTypes ∧ (2 : Nat) ∈ tlvTypes ∧ (4 : Nat) ∈ tlvTypes ∧
      (5 : Nat) ∈ tlvTypes := by decide
  refine ⟨fun t ht hv => ⟨rfl, ht, hv, rfl, tlv_pack _ _ ht hv⟩,
    fun v hv => ⟨⟨rfl, m.2.2.2.2, hv, rfl, tlv_pack 5 v m.2.2.2.2 hv⟩,
      ⟨rfl, m.2.2.1, hv, rfl, tlv_pack 2 v m.2.2.1 hv⟩⟩, fun r wf => ?_, fun r wf => ?_,
    fun cc hc b => ⟨rfl, m.2.2.2.1, Nat.le_of_ble_eq_true rfl, rfl,
      tlv_pack 4 [b] m.2.2.2.1 (Nat.le_of_ble_eq_true rfl)⟩⟩
  · have hp := C08.C08_fs_response_pack_exact r wf
    have hv : r.value = .ok (C08.Spec.fsResponse r).tail.tail := value_of_pack hp
    have hov : optValue (.fsResponse r) = (C08.Spec.fsResponse r).tail.tail := by
      simp [optValue, AnyTlv.value, hv]
    refine ⟨rfl, m.2.1, ?_, hov ▸ hv, hov ▸ hp⟩
    rw [hov]; have := wf.2.2.2.2.2.2.2; simpa [C08.Spec.fsResponse, C08.Spec.tlv] using this
  · have hp := C08.C08_fs_request_pack_exact r wf
    have hv : r.value = .ok (C08.Spec.fsRequest r).tail.tail := value_of_pack hp
    have hov : optValue (.fsRequest r) = (C08.Spec.fsRequest r).tail.tail := by
      simp [optValue, AnyTlv.value, hv]
    refine ⟨rfl, m.1, ?_, hov ▸ hv, hov ▸ hp⟩
    rw [hov]; have := wf.2.2.2.2; simpa [C08.Spec.fsRequest, C08.Spec.tlv] using this

/-- the decoder fails, for any octet string whatever, only with `ValueError`,
    `UnsupportedCfdpVersion` or `InvalidCrc`; its option loop terminates (well-founded recursion) -/
theorem C06_metadata_documented (d : Bytes) : Documented (Metadata.unpack d) := Metadata.unpack_documented d

/-- what acceptance means: the buffer holds the whole declared PDU, the CRC-16 over exactly the
    declared PDU is zero when the flag is set, the decoded header is the declared one, and the
    result depends on the declared PDU only (trailing octets are neither read nor required) -/
theorem C06_metadata_accept_sound (d : Bytes) (k : Metadata) (h : Metadata.unpack d = .ok k) (rest : Bytes) :
    k.packetLen ≤ d.length ∧ (k.fd.header.conf.crcFlag = 1 → Crc.crc16 (d.take k.packetLen) = 0) ∧
    Metadata.unpack (d.take k.packetLen ++ rest) = .ok k := by
  obtain ⟨_, _, _, h3, h4, ht⟩ := Metadata.unpack_inv d k h
  exact ⟨h3, h4, ht rest⟩

theorem C06_metadata_truncated (x : Metadata) (wf : WFMd x) (k : Nat) (hk : k < (Spec.metadata x).length) :
    Metadata.unpack ((Spec.metadata x).take k) = .error .value := by
  rw [Metadata.unpack_eq]
  exact pdu_truncated _ x.fd _ _ _ wf.base k hk

-- non-vacuity: closure requested, CRC-32, 64-bit size, a non-ASCII source name, two options, CRC
private def exMd : Metadata :=
  ⟨⟨⟨0, 0, 25, ⟨⟨1, 7⟩, ⟨1, 8⟩, ⟨1, 9⟩, 0, 1, 1, 0, 0⟩⟩, 7⟩, true, 3, 0x0102030405060708,
    ⟨[0xC3, 0xA4, 0x2E]⟩, ⟨[0x62]⟩, some [.msgToUser ⟨⟨2, [0xAA]⟩⟩, .generic ⟨5, [1, 2]⟩]⟩
example : WFMd exMd := by decide
example : Metadata.new ⟨⟨1, 7⟩, ⟨1, 8⟩, ⟨1, 9⟩, 0, 1, 1, 1, 0⟩ true 3 0x0102030405060708 (some [0xC3, 0xA4, 0x2E])
    (some [0x62]) (some [.msgToUser ⟨⟨2, [0xAA]⟩⟩, .generic ⟨5, [1, 2]⟩]) = .ok exMd := by rfl
example : C05.Spec.octets exMd.fd.header ++ [u8 exMd.fd.code] ++ Spec.mdParams exMd
    = [0x23, 0, 25, 0x00, 7, 9, 8, 7, 0x43, 1, 2, 3, 4, 5, 6, 7, 8, 3, 0xC3, 0xA4, 0x2E, 1, 0x62,
       2, 1, 0xAA, 5, 2, 1, 2] := by decide
example : (normMd exMd).options = some [.generic ⟨2, [0xAA]⟩, .generic ⟨5, [1, 2]⟩] := by decide
example : WFMd ⟨⟨⟨0, 0, 8, ⟨⟨1, 0⟩, ⟨1, 0⟩, ⟨1, 0⟩, 0, 0, 0, 0, 0⟩⟩, 7⟩, false, 0, 4294967295, ⟨[]⟩, ⟨[]⟩, some []⟩ := by
  decide
example : (normMd ⟨⟨⟨0, 0, 8, ⟨⟨1, 0⟩, ⟨1, 0⟩, ⟨1, 0⟩, 0, 0, 0, 0, 0⟩⟩, 7⟩, false, 0, 5, ⟨[]⟩, ⟨[]⟩, some []⟩).options = none := by
  decide

/-- **the Eof encoding is injective on the domain**: two valid PDUs with the same octets are the same
    PDU (corollary of `C06_eof_roundtrip`) -/
theorem C06_eof_pack_injective (a b : Eof) (wa : WFEof a) (wb : WFEof b)
    (h : Spec.eof a = Spec.eof b) : a = b :=
  ok_unique (C06_eof_roundtrip a wa []) (C06_eof_roundtrip b wb []) (congrArg (· ++ []) h)

/-- the same for the library's `pack()`, as an iff: valid Eof PDUs are equal exactly when they pack to
    the same octets -/
theorem C06_eof_pack_eq_iff (a b : Eof) (wa : WFEof a) (wb : WFEof b) : a.pack = b.pack ↔ a = b :=
  pack_eq_iff_of (C06_eof_pack_exact a wa) (C06_eof_pack_exact b wb) (C06_eof_pack_injective a b wa wb)

-- non-vacuity: two distinct valid Eof PDUs (they differ in the last octet of the fault location only) with different octets
example : WFEof exEof ∧ WFEof { exEof with faultLoc := some ⟨⟨6, [0x0A, 0x0C]⟩⟩ } ∧ Spec.eof exEof ≠ Spec.eof { exEof with faultLoc := some ⟨⟨6, [0x0A, 0x0C]⟩⟩ } := by
  have w1 : WFEof exEof := by decide
  have w2 : WFEof { exEof with faultLoc := some ⟨⟨6, [0x0A, 0x0C]⟩⟩ } := by decide
  exact ⟨w1, w2, fun h => absurd (C06_eof_pack_injective _ _ w1 w2 h) (by decide)⟩

theorem C06_finished_pack_injective (a b : Finished) (wa : WFFin a) (wb : WFFin b)
    (h : Spec.finished a = Spec.finished b) : a = b :=
  ok_unique (C06_finished_roundtrip a wa []) (C06_finished_roundtrip b wb []) (congrArg (· ++ []) h)

theorem C06_finished_pack_eq_iff (a b : Finished) (wa : WFFin a) (wb : WFFin b) : a.pack = b.pack ↔ a = b :=
  pack_eq_iff_of (C06_finished_pack_exact a wa) (C06_finished_pack_exact b wb) (C06_finished_pack_injective a b wa wb)

-- non-vacuity: two distinct valid Finished PDUs (they differ in the last octet of the last filestore message only) with different octets
example : WFFin exFin ∧ WFFin { exFin with responses := [⟨0, 1, [0x61], [], ⟨[]⟩⟩, ⟨2, 33, [0xC3, 0xA4], [0x62], ⟨[10]⟩⟩] } ∧ Spec.finished exFin ≠ Spec.finished { exFin with responses := [⟨0, 1, [0x61], [], ⟨[]⟩⟩, ⟨2, 33, [0xC3, 0xA4], [0x62], ⟨[10]⟩⟩] } := by
  have w1 : WFFin exFin := by decide
  have w2 : WFFin { exFin with responses := [⟨0, 1, [0x61], [], ⟨[]⟩⟩, ⟨2, 33, [0xC3, 0xA4], [0x62], ⟨[10]⟩⟩] } := by decide
  exact ⟨w1, w2, fun h => absurd (C06_finished_pack_injective _ _ w1 w2 h) (by decide)⟩

/-- **the Metadata encoding is injective on the domain, up to the decoder's view of the options**: the
    round trip returns `normMd k` (no options and an empty option list are one PDU, every option comes
    back as the generic TLV of the same type and value), so two valid PDUs with the same octets have the
    same normal form (corollary of `C06_metadata_roundtrip`) -/
theorem C06_metadata_pack_injective (a b : Metadata) (wa : WFMd a) (wb : WFMd b)
    (h : Spec.metadata a = Spec.metadata b) : normMd a = normMd b :=
  ok_unique (C06_metadata_roundtrip a wa []) (C06_metadata_roundtrip b wb []) (congrArg (· ++ []) h)

/-- spelled out, and for the library's `pack()`: valid Metadata PDUs that pack to the same octets agree
    in header, closure flag, checksum type, file size and both file names, and their option lists have
    the same normal form (same TLV types and values in the same order) -/
theorem C06_metadata_pack_injective_fields (a b : Metadata) (wa : WFMd a) (wb : WFMd b)
    (h : a.pack = b.pack) :
    a.fd = b.fd ∧ a.closure = b.closure ∧ a.checksumType = b.checksumType ∧ a.fileSize = b.fileSize ∧
    a.srcLv = b.srcLv ∧ a.dstLv = b.dstLv ∧ normOptions a.options = normOptions b.options := by
  rw [C06_metadata_pack_exact a wa, C06_metadata_pack_exact b wb] at h
  have e := C06_metadata_pack_injective a b wa wb (Except.ok.inj h)
  cases a; cases b
  simpa [normMd] using e

/-- for PDUs whose options are already in the decoder's form (`normMd k = k`, e.g. everything the
    decoder returns, or no options) the encoding is injective outright -/
theorem C06_metadata_pack_injective_normal (a b : Metadata) (wa : WFMd a) (wb : WFMd b)
    (na : normMd a = a) (nb : normMd b = b) (h : Spec.metadata a = Spec.metadata b) : a = b := by
  rw [← na, ← nb]; exact C06_metadata_pack_injective a b wa wb h

-- non-vacuity: two valid Metadata PDUs in normal form (they differ in the last octet of the last option
-- only) with different octets
private def exMdN : Metadata := { exMd with options := some [.generic ⟨2, [0xAA]⟩, .generic ⟨5, [1, 2]⟩] }
private def exMdN' : Metadata := { exMd with options := some [.generic ⟨2, [0xAA]⟩, .generic ⟨5, [1, 3]⟩] }
example : WFMd exMdN ∧ WFMd exMdN' ∧ normMd exMdN = exMdN ∧ normMd exMdN' = exMdN' ∧
    Spec.metadata exMdN ≠ Spec.metadata exMdN' := by
  have w1 : WFMd exMdN := by decide
  have w2 : WFMd exMdN' := by decide
  have n1 : normMd exMdN = exMdN := by decide
  have n2 : normMd exMdN' = exMdN' := by decide
  exact ⟨w1, w2, n1, n2, fun h => absurd (C06_metadata_pack_injective_normal _ _ w1 w2 n1 n2 h) (by decide)⟩
-- the normalisation is really there: `exMd` (first option a Message-to-User TLV) and `exMdN` (the same
-- option as a generic TLV) are different valid PDUs with the same octets
example : WFMd exMd ∧ WFMd exMdN ∧ exMd ≠ exMdN ∧ Spec.metadata exMd = Spec.metadata exMdN := by
  have hp : Spec.mdParams exMd = Spec.mdParams exMdN := by decide
  have hf : exMdN.fd = exMd.fd := rfl
  refine ⟨by decide, by decide, by decide, ?_⟩
  rw [Spec.metadata, Spec.metadata, hp, hf]

end SpVerif.Props.C06Var
