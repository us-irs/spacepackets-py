import SpVerif.Props.C19
/-!
# C19 — histories in which the width is changed (and `count` is assigned)

`Props/C19.lean` proves the statement for a provider whose width never changes. Here the width is part
of the state: the in-memory provider is `MemS` driven by any list of `MemOp` (`call`,
`setWidth w` = the documented `max_bit_width` setter, `setCount c` = assignment to the public `count`
attribute, any integer), with `get_and_increment` as it is at /repo HEAD (reduce, hand out, store the
successor reduced). The file-backed provider is `wstep` over `(width in force, file)` with the
alphabet `WStep` (`op` call / current / restart / delete, `setWidth w`, `createNew`).

All theorems are for every history, every width, every count; nothing is bounded.
-/
namespace SpVerif.Props.C19
open SpVerif SpVerif.SeqCount

private theorem mod_pos (w : Nat) : (0 : Int) < ((2 ^ w : Nat) : Int) := by
  have := Nat.two_pow_pos w; omega

private theorem call_val_cast (m : MemS) : ((m.call.1 : Nat) : Int) = m.count % ((2 ^ m.width : Nat) : Int) := by
  have h := Int.emod_nonneg m.count (Int.ne_of_gt (mod_pos m.width))
  simp only [MemS.call, MemS.modulus] at *
  omega

private theorem call_val_lt (m : MemS) : m.call.1 < 2 ^ m.width := by
  have h := Int.emod_lt_of_pos m.count (mod_pos m.width)
  have h2 := call_val_cast m
  omega

private theorem call_nat (c w : Nat) :
    MemS.call ⟨(c : Int), w⟩ = (c % 2 ^ w, ⟨(((c % 2 ^ w + 1) % 2 ^ w : Nat) : Int), w⟩) := by
  simp only [MemS.call, MemS.modulus]
  norm_cast

private theorem call_state (m : MemS) :
    m.call.2 = ⟨(((m.call.1 + 1) % 2 ^ m.width : Nat) : Int), m.width⟩ := by
  have h := call_val_cast m
  have e : m.call.2 = ⟨(((m.call.1 : Nat) : Int) + 1) % ((2 ^ m.width : Nat) : Int), m.width⟩ := by
    rw [h]; rfl
  rw [e]; norm_cast

/-- **one call, any state** (any integer in `count`, any width): the value handed out is
    `count mod 2^width` (the toNat in the model loses nothing), it is `< 2^width`, and the provider
    then stands at `(value + 1) mod 2^width` with the same width -/
theorem C19_mem_switch_call (m : MemS) :
    ((m.call.1 : Nat) : Int) = m.count % ((2 ^ m.width : Nat) : Int)
    ∧ m.call.1 < 2 ^ m.width
    ∧ m.call.2 = ⟨(((m.call.1 + 1) % 2 ^ m.width : Nat) : Int), m.width⟩ :=
  ⟨call_val_cast m, call_val_lt m, call_state m⟩

example : (MemS.call ⟨-1, 3⟩).1 = 7 := by decide            -- Python: (-1) % 8 == 7
example : (MemS.call ⟨5, 2⟩).1 = 1 := by decide
example : (MemS.call ⟨20000, 14⟩) = (3616, ⟨3617, 14⟩) := by decide

/-- a count that fits the width (`0 ≤ count < 2^width`) is handed out as it is -/
private theorem call_fit (m : MemS) (h0 : 0 ≤ m.count) (h1 : m.count < ((2 ^ m.width : Nat) : Int)) :
    m.call.1 = m.count.toNat := by
  have h := call_val_cast m
  rw [Int.emod_eq_of_lt h0 h1] at h
  omega

/-- the output at position `i` is the output of the step taken from the state reached after the first
    `i` operations -/
private theorem memTrace_getElem (m : MemS) (ops : List MemOp) (i : Nat) :
    (memTrace m ops)[i]? = ops[i]?.map (fun op => (memStep (memFinal m (ops.take i)) op).1) := by
  induction ops generalizing m i with
  | nil => simp [memTrace]
  | cons op ops ih =>
    cases i with
    | zero => simp [memTrace, memFinal]
    | succ i => simp [memTrace, memFinal, ih]

private theorem memFinal_take_succ (m : MemS) (ops : List MemOp) (i : Nat) (op : MemOp) (h : ops[i]? = some op) :
    memFinal m (ops.take (i + 1)) = (memStep (memFinal m (ops.take i)) op).2 := by
  induction ops generalizing m i with
  | nil => cases h
  | cons o ops ih =>
    cases i with
    | zero => cases h; rfl
    | succ i => exact ih _ i h

/-- **the width in force** at any point of a history is the argument of the last `setWidth` before it
    (the initial width if there is none): calls and `count` assignments never change it -/
theorem C19_mem_switch_width (m : MemS) (ops : List MemOp) :
    (memFinal m ops).width = widthAfter m.width ops := by
  induction ops generalizing m with
  | nil => rfl
  | cons op ops ih => rw [memFinal, ih]; cases op <;> rfl

example : widthAfter 3 [.call, .setWidth 2, .setCount 99, .call] = 2 := by decide

/-- **every value returned by a call, in every history, from every state, is in the range of the width
    in force at that call** — `< 2^w` where `w` is the last width set before the call — and, when that
    width is at most 14, it is accepted as packet sequence count by the `PacketSeqCtrl` model.
    (`ops` is any list of calls, width changes and `count` assignments, with any integers.) -/
theorem C19_mem_switch_range (m : MemS) (ops : List MemOp) (i : Nat) (h : ops[i]? = some .call) :
    ∃ v, (memTrace m ops)[i]? = some (some v)
      ∧ v < 2 ^ widthAfter m.width (ops.take i)
      ∧ (widthAfter m.width (ops.take i) ≤ 14 →
          ∀ flags, SpacePacket.Psc.new flags (v : Int) = .ok ⟨flags, v⟩) := by
  refine ⟨(memFinal m (ops.take i)).call.1, ?_, ?_, ?_⟩
  · rw [memTrace_getElem, h]; rfl
  · rw [← C19_mem_switch_width]; exact call_val_lt _
  · intro hw flags
    rw [← C19_mem_switch_width] at hw
    exact C19_acceptable _ _ flags hw (call_val_lt _)

/-- the same from a new provider -/
theorem C19_mem_switch_range_fresh (w : Nat) (ops : List MemOp) (i : Nat) (h : ops[i]? = some .call) :
    ∃ v, (memTrace (MemS.new w) ops)[i]? = some (some v) ∧ v < 2 ^ widthAfter w (ops.take i) := by
  obtain ⟨v, h1, h2, _⟩ := C19_mem_switch_range (MemS.new w) ops i h
  exact ⟨v, h1, h2⟩

-- width 3, five calls, width 2, a call; `count = 2^64 + 3` assigned, a call; `count = -1`, width 14, a call
example : memTrace (MemS.new 3) [.call, .call, .call, .call, .call, .setWidth 2, .call, .setCount 18446744073709551619,
      .call, .setCount (-1), .setWidth 14, .call]
    = [some 0, some 1, some 2, some 3, some 4, none, some 1, none, some 3, none, none, some 16383] := by decide

/-- **two consecutive calls (no `setWidth`, no `count` assignment between them) return `v` and
    `(v + 1) mod 2^w`**, `w` the width in force — at any position of any history from any state -/
theorem C19_mem_switch_succ (m : MemS) (ops : List MemOp) (i : Nat)
    (h0 : ops[i]? = some .call) (h1 : ops[i + 1]? = some .call) :
    ∃ v, (memTrace m ops)[i]? = some (some v)
      ∧ (memTrace m ops)[i + 1]? = some (some ((v + 1) % 2 ^ widthAfter m.width (ops.take i))) := by
  refine ⟨(memFinal m (ops.take i)).call.1, ?_, ?_⟩
  · rw [memTrace_getElem, h0]; rfl
  · rw [memTrace_getElem, h1, memFinal_take_succ m ops i _ h0, ← C19_mem_switch_width]
    simp only [memStep, Option.map_some]
    rw [call_state, call_nat, Nat.mod_mod]

/-- `n` calls in a row from any state: `v, v+1, v+2, …` modulo `2^w`, `v = count mod 2^w` -/
theorem C19_mem_switch_calls (m : MemS) (n : Nat) :
    memTrace m (List.replicate n .call) = (List.range n).map (fun i => some ((m.call.1 + i) % 2 ^ m.width)) := by
  induction n generalizing m with
  | zero => rfl
  | succ n ih =>
    have hv := call_val_lt m
    rw [List.replicate_succ, memTrace, ih, List.range_succ_eq_map, List.map_cons, List.map_map]
    simp only [memStep]
    congr 1
    · simp [Nat.mod_eq_of_lt hv]
    · apply List.map_congr_left
      intro i _
      rw [call_state m, call_nat]
      simp only [Function.comp, Nat.mod_mod, Nat.mod_add_mod]
      congr 2; omega

/-- on a new provider whose width is never changed, the model of HEAD and the model of `Props/C19.lean`
    (which hands out the stored count as it is) return the same values -/
theorem C19_mem_switch_agrees (w n : Nat) :
    memTrace (MemS.new w) (List.replicate n .call) = (memRun (Mem.new w) n).map some := by
  rw [C19_mem_switch_calls, C19_mem]
  have h0 : (MemS.call ⟨0, w⟩).1 = 0 := call_fit ⟨0, w⟩ (Int.le_refl 0) (mod_pos w)
  simp only [MemS.new, h0, Nat.zero_add, List.map_map]
  rfl

/-- **the count fits the new width: the counter continues where it stood** — the call after
    `max_bit_width = w'` returns exactly the count -/
theorem C19_mem_switch_fits (m : MemS) (w' : Nat) (h0 : 0 ≤ m.count) (h1 : m.count < ((2 ^ w' : Nat) : Int)) :
    memTrace m [.setWidth w', .call] = [none, some m.count.toNat] := by
  simp only [memTrace, memStep]
  rw [call_fit { m with width := w' } h0 h1]

/-- **the count does not fit (or anything else): the call returns `count mod 2^w'`**, in range -/
theorem C19_mem_switch_nofit (m : MemS) (w' : Nat) :
    ∃ v, memTrace m [.setWidth w', .call] = [none, some v]
      ∧ (v : Int) = m.count % ((2 ^ w' : Nat) : Int) ∧ v < 2 ^ w' := by
  refine ⟨(MemS.call { m with width := w' }).1, rfl, ?_, ?_⟩
  · exact call_val_cast { m with width := w' }
  · exact call_val_lt { m with width := w' }

example : memTrace ⟨5, 3⟩ [.setWidth 4, .call] = [none, some 5] := by decide      -- fits: continues with 5
example : memTrace ⟨5, 3⟩ [.setWidth 2, .call] = [none, some 1] := by decide      -- does not fit: 5 mod 4

/-- inside a history: a call returns `v` under width `w`, the width is set to `w'`, the next call returns
    `((v + 1) mod 2^w) mod 2^w'` — which **is** `(v + 1) mod 2^w`, the value the counter stood at, whenever
    that fits `w'` (always when `w' ≥ w`) -/
theorem C19_mem_switch_continue (m : MemS) (ops : List MemOp) (i w' : Nat)
    (h0 : ops[i]? = some .call) (h1 : ops[i + 1]? = some (.setWidth w')) (h2 : ops[i + 2]? = some .call) :
    ∃ v, (memTrace m ops)[i]? = some (some v)
      ∧ (memTrace m ops)[i + 2]? = some (some ((v + 1) % 2 ^ widthAfter m.width (ops.take i) % 2 ^ w'))
      ∧ ((v + 1) % 2 ^ widthAfter m.width (ops.take i) < 2 ^ w' →
          (memTrace m ops)[i + 2]? = some (some ((v + 1) % 2 ^ widthAfter m.width (ops.take i)))) := by
  have key : (memTrace m ops)[i + 2]?
      = some (some (((memFinal m (ops.take i)).call.1 + 1) % 2 ^ widthAfter m.width (ops.take i) % 2 ^ w')) := by
    rw [memTrace_getElem, h2, memFinal_take_succ m ops (i + 1) _ h1, memFinal_take_succ m ops i _ h0,
      ← C19_mem_switch_width]
    simp only [memStep, Option.map_some]
    rw [call_state, call_nat]
  refine ⟨(memFinal m (ops.take i)).call.1, ?_, key, ?_⟩
  · rw [memTrace_getElem, h0]; rfl
  · intro hlt
    rw [key, Nat.mod_eq_of_lt hlt]

/-- widening never disturbs the sequence: `v`, `max_bit_width = w' ≥ w`, then `(v + 1) mod 2^w` -/
theorem C19_mem_switch_wider (m : MemS) (ops : List MemOp) (i w' : Nat)
    (h0 : ops[i]? = some .call) (h1 : ops[i + 1]? = some (.setWidth w')) (h2 : ops[i + 2]? = some .call)
    (hw : widthAfter m.width (ops.take i) ≤ w') :
    ∃ v, (memTrace m ops)[i]? = some (some v)
      ∧ (memTrace m ops)[i + 2]? = some (some ((v + 1) % 2 ^ widthAfter m.width (ops.take i))) := by
  obtain ⟨v, a, _, c⟩ := C19_mem_switch_continue m ops i w' h0 h1 h2
  refine ⟨v, a, c ?_⟩
  have := Nat.mod_lt (v + 1) (Nat.two_pow_pos (widthAfter m.width (ops.take i)))
  have := Nat.pow_le_pow_right (show 2 > 0 by decide) hw
  omega

/-- the abstract counter: an integer and a width; **at each call the current value is the value modulo
    `2^w`**, it is the output, and the counter moves to its successor modulo `2^w`; the two assignments
    assign -/
def Spec.switch (c : Int) (w : Nat) : List MemOp → List Int
  | [] => []
  | .call :: ops => c % 2 ^ w :: Spec.switch ((c % 2 ^ w + 1) % 2 ^ w) w ops
  | .setWidth w' :: ops => Spec.switch c w' ops
  | .setCount c' :: ops => Spec.switch c' w ops

/-- the values of the calls of a history, in order -/
def callValues (t : List (Option Nat)) : List Nat := t.filterMap id

/-- **trace refinement**: for every history from every state, the values returned by the calls are those of
    the abstract counter -/
theorem C19_mem_switch_trace (m : MemS) (ops : List MemOp) :
    (callValues (memTrace m ops)).map (fun v : Nat => (v : Int)) = Spec.switch m.count m.width ops := by
  induction ops generalizing m with
  | nil => rfl
  | cons op ops ih =>
    cases op with
    | call =>
      have e : (2 : Int) ^ m.width = ((2 ^ m.width : Nat) : Int) := by norm_cast
      rw [Spec.switch, e]
      exact List.cons_eq_cons.2 ⟨call_val_cast m, ih m.call.2⟩
    | setWidth w' => exact ih _
    | setCount c' => exact ih _

example : Spec.switch 0 3 [.call, .call, .call, .call, .call, .setWidth 2, .call, .call, .call, .setWidth 4, .call]
    = [0, 1, 2, 3, 4, 1, 2, 3, 0] := by decide

/-- **before the fix** (`get_and_increment` handed out the stored count unreduced, `MemS.callPre`): width 3,
    five calls, `max_bit_width = 2`, one call — the provider returns 5, outside `[0, 2^2 - 1]`. The range
    theorem above is false for that step function. -/
theorem C19_mem_switch_prefix_counterexample :
    memTracePre (MemS.new 3) [.call, .call, .call, .call, .call, .setWidth 2, .call]
      = [some 0, some 1, some 2, some 3, some 4, none, some 5] ∧ ¬ 5 < 2 ^ 2 := by decide

-- the same history at HEAD
example : memTrace (MemS.new 3) [.call, .call, .call, .call, .call, .setWidth 2, .call]
    = [some 0, some 1, some 2, some 3, some 4, none, some 1] := by decide

/-- **the file holds the count `v`**: a reader of any width `w` obtains `v` when `v < 2^w` and
    `ValueError` otherwise (the first line is the decimal number `v`; the width enters `check_count`
    through the range comparison only) -/
def Holds (f : File) (v : Nat) : Prop := ∀ w, current w f = if v < 2 ^ w then .ok v else .error .value

/-- a file that is valid for one width holds a count: what it is read as under every other width -/
theorem C19_file_switch_holds (w : Nat) (f : File) (_ha : AsciiFile f) (v : Nat) (h : current w f = .ok v) :
    Holds f v := fun w' => by
  cases f with
  | none => cases h
  | some s => exact checkCount_width w w' _ v h

/-- `create_new()` leaves a file that holds 0 -/
theorem C19_file_switch_holds_create : Holds create 0 := by
  intro w
  simp [current_create, Nat.two_pow_pos]

/-- for a file that holds `v`: valid for the width in force iff `v` fits it -/
theorem C19_file_switch_valid_iff (f : File) (v w : Nat) (h : Holds f v) : Valid w f ↔ v < 2 ^ w := by
  constructor
  · rintro ⟨u, hu, _⟩
    by_cases hv : v < 2 ^ w
    · exact hv
    · rw [h w, if_neg hv] at hu; cases hu
  · intro hv
    exact ⟨v, by rw [h w, if_pos hv], hv⟩

example : Holds (some ['5', '\n', '9']) 5 :=
  C19_file_switch_holds 3 _ (by decide) 5 ((C19_accept_iff 3 _ (by decide) 5).2 (by decide))

private theorem holds_some (f : File) (v : Nat) (h : Holds f v) : ∃ s, f = some s := by
  cases f with
  | some s => exact ⟨s, rfl⟩
  | none =>
    have := h 0
    split at this <;> simp [current] at this

/-- every step keeps the file ASCII (or absent) -/
theorem C19_file_switch_ascii (st : WState) (s : WStep) (ha : AsciiFile st.2) : AsciiFile (wstep st s).2.2 := by
  cases s with
  | op o => exact C19_ascii_step st.1 st.2 o ha
  | setWidth w => exact ha
  | createNew => intro t h; cases h; decide

/-- with no width change in it, a history is a history of `Props/C19.lean` for the width in force: every
    single-width theorem applies to every stretch between two width changes -/
theorem C19_file_switch_same_width (w : Nat) (f : File) (steps : List Step) :
    wtrace (w, f) (steps.map .op) = (trace w f steps).map (fun p => (p.1, (w, p.2))) := by
  induction steps generalizing f with
  | nil => rfl
  | cons s ss ih => simp [wtrace, trace, wstep, ih]

/-- the abstract file-backed counter: the width in force and the stored count. A call hands out the stored
    count and stores its successor modulo `2^w` **when the count fits the width in force**; otherwise it
    fails with `ValueError` and nothing changes. `current()` shows the same without consuming; a restart
    is invisible; `max_bit_width = w'` changes the width only; `create_new()` stores 0. -/
def Spec.fileStep (st : Nat × Nat) : WStep → Out × (Nat × Nat)
  | .op .call => if st.2 < 2 ^ st.1 then (.val st.2, (st.1, (st.2 + 1) % 2 ^ st.1)) else (.err .value, st)
  | .op .current => (if st.2 < 2 ^ st.1 then .val st.2 else .err .value, st)
  | .op _ => (.none, st)
  | .setWidth w' => (.none, (w', st.2))
  | .createNew => (.none, (st.1, 0))

def Spec.fileOuts (st : Nat × Nat) : List WStep → List Out
  | [] => []
  | s :: ss => (Spec.fileStep st s).1 :: Spec.fileOuts (Spec.fileStep st s).2 ss

private theorem wstep_refines (w : Nat) (f : File) (v : Nat) (s : WStep) (ha : AsciiFile f) (hh : Holds f v)
    (hs : s ≠ .op .delete) :
    (wstep (w, f) s).1 = (Spec.fileStep (w, v) s).1
    ∧ (wstep (w, f) s).2.1 = (Spec.fileStep (w, v) s).2.1
    ∧ Holds (wstep (w, f) s).2.2 (Spec.fileStep (w, v) s).2.2 := by
  cases s with
  | setWidth w' => exact ⟨rfl, rfl, hh⟩
  | createNew => exact ⟨rfl, rfl, C19_file_switch_holds_create⟩
  | op o =>
    cases o with
    | delete => exact absurd rfl hs
    | restart =>
      obtain ⟨t, rfl⟩ := holds_some f v hh
      exact ⟨rfl, rfl, hh⟩
    | current =>
      refine ⟨?_, rfl, hh⟩
      simp only [wstep, step, Spec.fileStep, hh w]
      split <;> rfl
    | call =>
      by_cases hv : v < 2 ^ w
      · obtain ⟨f', hg, ha', hn⟩ := call_step w f ha v (by rw [hh w, if_pos hv])
        simp only [wstep, step, hg, Spec.fileStep, hv, if_true, Out.ofPy, true_and]
        exact C19_file_switch_holds w f' ha' _ hn
      · have hg := call_err w f .value (by rw [hh w, if_neg hv])
        simp only [wstep, step, hg, Spec.fileStep, hv, if_false, Out.ofPy, true_and]
        exact hh

/-- **trace refinement with width changes**: from a file that holds `v`, every history of calls,
    `current()`s, restarts, width changes and `create_new()`s produces the outputs of the abstract
    counter — values where the stored count fits the width in force at that call, `ValueError`
    where it does not -/
theorem C19_file_switch_trace (w : Nat) (f : File) (v : Nat) (steps : List WStep) (ha : AsciiFile f)
    (hh : Holds f v) (hd : WStep.op .delete ∉ steps) :
    (wtrace (w, f) steps).map (·.1) = Spec.fileOuts (w, v) steps := by
  induction steps generalizing w f v with
  | nil => rfl
  | cons s ss ih =>
    rw [List.mem_cons, not_or] at hd
    obtain ⟨h1, h2, h3⟩ := wstep_refines w f v s ha hh (Ne.symm hd.1)
    have ha' := C19_file_switch_ascii (w, f) s ha
    simp only [wtrace, List.map_cons, Spec.fileOuts]
    rw [h1]
    have e : (wstep (w, f) s).2 = ((Spec.fileStep (w, v) s).2.1, (wstep (w, f) s).2.2) := by
      rw [← h2]
    rw [e, ih _ _ _ ha' h3 hd.2]

/-- the same from scratch: a new provider on a missing file -/
theorem C19_file_switch_trace_fresh (w : Nat) (steps : List WStep) (hd : WStep.op .delete ∉ steps) :
    (wtrace (w, init none) steps).map (·.1) = Spec.fileOuts (w, 0) steps :=
  C19_file_switch_trace w _ 0 steps (by decide) C19_file_switch_holds_create hd

-- width 3: three calls, then width 1 (the stored 3 does not fit): refused, also after a restart, until
-- create_new(); width back to 3 instead would have continued with 3
example : Spec.fileOuts (3, 0) [.op .call, .op .call, .op .call, .setWidth 1, .op .call, .op .restart, .op .current,
      .op .call, .createNew, .op .call, .op .call, .op .call]
    = [.val 0, .val 1, .val 2, .none, .err .value, .none, .err .value, .err .value, .none, .val 0, .val 1, .val 0] := by
  decide
example : Spec.fileOuts (3, 0) [.op .call, .op .call, .op .call, .setWidth 1, .op .call, .setWidth 3, .op .call]
    = [.val 0, .val 1, .val 2, .none, .err .value, .none, .val 3] := by decide

/-- **validity across histories with width changes, stated truthfully**: after every step of any history
    the file holds a count; it is a valid count *for the width in force* exactly when it fits, and when
    it does not, the next call fails with `ValueError` and leaves the file as it is. (A width change can
    make a valid file invalid: "the file holds a valid count at every point" is true only relative to
    the width that wrote it.) -/
theorem C19_file_switch_valid (w : Nat) (f : File) (v : Nat) (steps : List WStep) (ha : AsciiFile f)
    (hh : Holds f v) (hd : WStep.op .delete ∉ steps) :
    ∀ p ∈ wtrace (w, f) steps, ∃ v', Holds p.2.2 v'
      ∧ (v' < 2 ^ p.2.1 → Valid p.2.1 p.2.2)
      ∧ (2 ^ p.2.1 ≤ v' → getAndIncrement p.2.1 p.2.2 = (.error .value, p.2.2)) := by
  induction steps generalizing w f v with
  | nil => simp [wtrace]
  | cons s ss ih =>
    rw [List.mem_cons, not_or] at hd
    obtain ⟨_, _, h3⟩ := wstep_refines w f v s ha hh (Ne.symm hd.1)
    have ha' := C19_file_switch_ascii (w, f) s ha
    intro p hp
    simp only [wtrace, List.mem_cons] at hp
    rcases hp with rfl | hp
    · exact ⟨_, h3, (C19_file_switch_valid_iff _ _ _ h3).2,
        fun hge => call_err _ _ _ (by rw [h3 _, if_neg (by omega)])⟩
    · exact ih (wstep (w, f) s).2.1 (wstep (w, f) s).2.2 _ ha' h3 hd.2 p hp

/-- **a successful call always leaves a file that is valid for the width in force** (whatever the widths before) -/
theorem C19_file_switch_valid_after_call (st : WState) (ha : AsciiFile st.2) (v : Nat)
    (h : (wstep st (.op .call)).1 = .val v) :
    v < 2 ^ st.1 ∧ current st.1 (wstep st (.op .call)).2.2 = .ok ((v + 1) % 2 ^ st.1)
      ∧ Valid st.1 (wstep st (.op .call)).2.2 := by
  have hg : getAndIncrement st.1 st.2 = (.ok v, (getAndIncrement st.1 st.2).2) := by
    refine Prod.ext ?_ rfl
    simp only [wstep, step] at h
    cases hr : (getAndIncrement st.1 st.2).1 <;> rw [hr] at h <;> cases h
    rfl
  have := C19_file_valid_call st.1 st.2 _ ha v hg
  exact ⟨C19_file_range st.1 st.2 _ ha v hg, this.1, this.2⟩

/-- **(e) the stored value fits the new width**: the file was valid for the old width with value `v`, the
    width is set to `w'` with `v < 2^w'`: the next call returns `v` and leaves a file that is valid for `w'`
    and reads `(v + 1) mod 2^w'` — what the single-width theorems say for `w'` -/
theorem C19_file_switch_fits (w w' : Nat) (f : File) (ha : AsciiFile f) (v : Nat) (hc : current w f = .ok v)
    (hv : v < 2 ^ w') :
    ∃ f', wtrace (w, f) [.setWidth w', .op .call] = [(.none, (w', f)), (.val v, (w', f'))]
      ∧ current w' f' = .ok ((v + 1) % 2 ^ w') ∧ Valid w' f' := by
  have hc' : current w' f = .ok v := by rw [C19_file_switch_holds w f ha v hc w', if_pos hv]
  obtain ⟨t, _, hg⟩ := call_of_current w' f v hc'
  refine ⟨_, ?_, C19_file_valid_call w' f _ ha v hg⟩
  simp [wtrace, wstep, step, hg, Out.ofPy]

/-- **(e) the stored value does not fit the new width**: the call fails with `ValueError`, the file is
    unchanged — and so does every later call, `current()` and call on a new instance, in any number and
    order, until `create_new()` (or another width change): nothing is ever written -/
theorem C19_file_switch_stuck (w' : Nat) (f : File) (v : Nat) (hh : Holds f v) (hv : 2 ^ w' ≤ v)
    (steps : List Step) (hd : Step.delete ∉ steps) :
    ∀ p ∈ wtrace (w', f) (steps.map .op), p.2 = (w', f) ∧ (p.1 = .err .value ∨ p.1 = .none) := by
  obtain ⟨t, rfl⟩ := holds_some f v hh
  have hc : current w' (some t) = .error .value := by rw [hh w', if_neg (by omega)]
  have hg := call_err w' _ _ hc
  induction steps with
  | nil => simp [wtrace]
  | cons s ss ih =>
    rw [List.mem_cons, not_or] at hd
    have h1 : wstep (w', some t) (.op s) = ((step w' (some t) s).1, (w', some t))
        ∧ ((step w' (some t) s).1 = .err .value ∨ (step w' (some t) s).1 = .none) := by
      cases s with
      | delete => exact absurd rfl hd.1
      | restart => exact ⟨rfl, Or.inr rfl⟩
      | current => exact ⟨rfl, Or.inl (by simp [step, hc, Out.ofPy])⟩
      | call => exact ⟨by simp [wstep, step, hg], Or.inl (by simp [step, hg, Out.ofPy])⟩
    intro p hp
    simp only [List.map_cons, wtrace, List.mem_cons] at hp
    rcases hp with rfl | hp
    · rw [h1.1]; exact ⟨rfl, h1.2⟩
    · rw [h1.1] at hp; exact ih hd.2 p hp

/-- the way out: `create_new()` stores 0, which every width reads -/
theorem C19_file_switch_create (st : WState) :
    (wstep st .createNew).2 = (st.1, create) ∧ current st.1 create = .ok 0 ∧ Valid st.1 create :=
  ⟨rfl, current_create st.1, 0, current_create st.1, Nat.two_pow_pos st.1⟩

/-- (e) both cases in one: the file held `v` under the old width; under the new one the call returns `v`
    iff `v` fits, and `ValueError` (file unchanged) otherwise -/
theorem C19_file_switch_nofit (w w' : Nat) (f : File) (ha : AsciiFile f) (v : Nat) (hc : current w f = .ok v)
    (hv : 2 ^ w' ≤ v) :
    wtrace (w, f) [.setWidth w', .op .call] = [(.none, (w', f)), (.err .value, (w', f))] := by
  have hc' : current w' f = .error .value := by
    rw [C19_file_switch_holds w f ha v hc w', if_neg (by omega)]
  simp [wtrace, wstep, step, call_err w' f _ hc', Out.ofPy]

-- width 3, file "5\n": switched to 2 bits the call is refused and the file stays; switched to 4 bits it returns 5
example : (wtrace (3, some ['5', '\n']) [.setWidth 2, .op .call]).map (·.1) = [.none, .err .value] := by
  have := C19_file_switch_nofit 3 2 (some ['5', '\n']) (by decide) 5
    ((C19_accept_iff 3 _ (by decide) 5).2 (by decide)) (by decide)
  rw [this]; rfl

private theorem memRebase_nil (m : MemS) (o : Bool) : memRebase m o [] = m := by cases o <;> rfl

private theorem memRebase_false (m : MemS) (rebase : List Int) : memRebase m false rebase = m := rfl

private theorem memRebase_width (m : MemS) (o : Bool) (rebase : List Int) : (memRebase m o rebase).width = m.width := by
  cases o <;> cases rebase <;> simp [memRebase] <;> split <;> rfl

/-- with nothing to re-base on, the run is the model -/
theorem C19_mem_switch_open_exact (m : MemS) (o : Bool) (ops : List MemOp) :
    (memRunOpen m o [] ops).map (·.1) = callValues (memTrace m ops) := by
  induction ops generalizing m o with
  | nil => rfl
  | cons op ops ih =>
    cases op with
    | call =>
      rw [memRunOpen, memRebase_nil]
      cases o <;> exact congrArg (m.call.1 :: ·) (ih m.call.2 false)
    | setWidth w' => exact ih _ _
    | setCount c' => exact ih _ _

/-- **whatever values are offered for re-basing: if the run declares no call open, it returns exactly the
    values of the model** (a history without `count` assignments in which the count fits every width it is
    switched to has no open call: the tie then compares the whole trace exactly) -/
theorem C19_mem_switch_open_closed (m : MemS) (o : Bool) (rebase : List Int) (ops : List MemOp)
    (h : ∀ p ∈ memRunOpen m o rebase ops, p.2 = false) :
    (memRunOpen m o rebase ops).map (·.1) = callValues (memTrace m ops) := by
  induction ops generalizing m o rebase with
  | nil => rfl
  | cons op ops ih =>
    cases op with
    | call =>
      obtain rfl : o = false := h _ (by rw [memRunOpen]; exact List.mem_cons_self)
      rw [memRunOpen] at h ⊢
      exact congrArg (m.call.1 :: ·) (ih m.call.2 false rebase fun p hp => h p (List.mem_cons_of_mem _ hp))
    | setWidth w' => exact ih _ _ _ h
    | setCount c' => exact ih _ _ _ h

/-- every value of the comparison run is in range of the width in force, whatever is offered for re-basing
    (the value of the call at position `i` is the last output of the run of the first `i + 1` operations) -/
theorem C19_mem_switch_open_range (m : MemS) (o : Bool) (rebase : List Int) (ops : List MemOp) (i : Nat)
    (h : ops[i]? = some .call) :
    ∃ p, (memRunOpen m o rebase (ops.take (i + 1))).getLast? = some p ∧ p.1 < 2 ^ widthAfter m.width (ops.take i) := by
  induction ops generalizing m o rebase i with
  | nil => simp at h
  | cons op ops ih =>
    cases i with
    | zero =>
      cases h
      exact ⟨_, rfl, memRebase_width m o rebase ▸ call_val_lt (memRebase m o rebase)⟩
    | succ i =>
      cases op with
      | call =>
        have hw : (memRebase m o rebase).call.2.width = m.width := memRebase_width m o rebase
        obtain ⟨p, hp, hlt⟩ := ih (memRebase m o rebase).call.2 false (if o then rebase.tail else rebase) i h
        refine ⟨p, ?_, hw ▸ hlt⟩
        rw [List.take_succ_cons, memRunOpen, List.getLast?_cons, hp]; rfl
      | setWidth w' => exact ih { m with width := w' } _ rebase i h
      | setCount c' => exact ih { m with count := c' } true rebase i h

-- width 3, five calls, width 2 (5 does not fit: open), the implementation answered 0 there: re-based
example : memRunOpen (MemS.new 3) false [0] [.call, .call, .call, .call, .call, .setWidth 2, .call, .call]
    = [(0, false), (1, false), (2, false), (3, false), (4, false), (0, true), (1, false)] := by decide
-- an out-of-range offer (5) is not taken: the model's own value (5 mod 4) stands
example : memRunOpen (MemS.new 3) false [5] [.call, .call, .call, .call, .call, .setWidth 2, .call, .call]
    = [(0, false), (1, false), (2, false), (3, false), (4, false), (1, true), (2, false)] := by decide

end SpVerif.Props.C19
