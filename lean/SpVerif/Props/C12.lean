import SpVerif.Proofs.Factory
import SpVerif.Props.C06Fixed
import SpVerif.Props.C06Var
import SpVerif.Props.C07
/-!
# C12 — the PDU factory returns the right PDU kind, equal to what was packed

Everything is stated over the decoder models of C05 / C06 / C07 (the
definitions the driver executes) and the factory model `Model/Factory.lean`.

What the standard fixes and the factory relies on (CCSDS 727.0-B-5 §5.1, table 5-1): bit 3 of the
first octet is the PDU type (0 file directive, 1 file data); a file directive carries its directive
code in the first octet of the data field, i.e. at offset `4 + 2·idw + seqw` where `idw − 1` and
`seqw − 1` are the two 3-bit width codes of the fourth octet — 16 positions for the 16 width
combinations (`C12_directive_octet_position`).

Two clauses need a word. *Identical*: for seven kinds the object the factory returns is the packed
object itself; a Metadata PDU comes back with its options as generic TLVs of the same types and
values (`[]` as `None`) — `norm` — which compares equal under the library's `==` both ways and
re-packs to the same octets (C06). *Equal*: `==` of an EOF / Finished PDU compares the fault-location
entity IDs numerically and raises `ValueError` for an ID width other than 1, 2, 4, 8 (`EqOk`).
-/
namespace SpVerif.Props.C12
open SpVerif SpVerif.CfdpHeader SpVerif.FileDirective SpVerif.Factory
open SpVerif.Props

/-- valid PDUs (the domains of the C06 / C07 round-trip theorems: every header configuration —
    CRC × large file × mode × 16 width combinations × segmentation control — and every parameter
    value; a File Data PDU carries the File Data type bit, as every constructed one does) -/
def WFPdu : AnyPdu → Prop
  | .fileData x => C07.WF x ∧ x.header.pduType = 1
  | .ack x => C06Fixed.WFAck x
  | .nak x => C06Fixed.WFNak x
  | .prompt x => C06Fixed.WFPrompt x
  | .keepAlive x => C06Fixed.WFKeepAlive x
  | .eof x => C06Var.WFEof x
  | .finished x => C06Var.WFFin x
  | .metadata x => C06Var.WFMd x

instance (p : AnyPdu) : Decidable (WFPdu p) := by
  cases p <;> (unfold WFPdu; infer_instance)

/-- the octets the standard prescribes for a PDU (the `Spec` layouts of C06 / C07) -/
def Spec.octets : AnyPdu → Bytes
  | .fileData x => C07.Spec.octets x
  | .ack x => C06Fixed.Spec.ack x
  | .nak x => C06Fixed.Spec.nak x
  | .prompt x => C06Fixed.Spec.prompt x
  | .keepAlive x => C06Fixed.Spec.keepAlive x
  | .eof x => C06Var.Spec.eof x
  | .finished x => C06Var.Spec.finished x
  | .metadata x => C06Var.Spec.metadata x

/-- kinds whose decoder refuses octets after the declared PDU (documented `ValueError`, by design:
    NAK); the others decode the PDU alone — the two behaviours the statement allows (C09 clause) -/
def refusesTrailing : AnyPdu → Bool
  | .nak _ => true
  | _ => false

/-- the fixed header of a PDU object -/
def headerOf : AnyPdu → PduHeader
  | .fileData x => x.header
  | .ack x => x.fd.header
  | .nak x => x.fd.header
  | .prompt x => x.fd.header
  | .keepAlive x => x.fd.header
  | .eof x => x.fd.header
  | .finished x => x.fd.header
  | .metadata x => x.fd.header

/-- what a decoder hands back for a packed object: the object itself, except that Metadata options
    come back as generic TLVs (C06 `normMd`) -/
def norm : AnyPdu → AnyPdu
  | .metadata x => .metadata (C06Var.normMd x)
  | p => p

/-- PDUs the library's `==` can compare: a fault location (EOF, Finished) needs an entity ID of a
    width `UnsignedByteField` supports -/
def EqOk : AnyPdu → Prop
  | .eof x => C06Var.EqWidth x.faultLoc
  | .finished x => C06Var.EqWidth x.faultLoc
  | _ => True

instance (p : AnyPdu) : Decidable (EqOk p) := by
  cases p <;> (unfold EqOk; infer_instance)

theorem C12_directive_octet_position (h : PduHeader) (wf : C05.WF h) (rest : Bytes) :
    headerLenFromRaw (C05.Spec.octets h ++ rest) = .ok (4 + 2 * h.conf.source.width + h.conf.seqNum.width) ∧
    (C05.Spec.octets h).length = 4 + 2 * h.conf.source.width + h.conf.seqNum.width := by
  rw [C05.C05_header_len_from_raw_pack h wf rest, (C05.C05_len h wf).1]
  exact ⟨rfl, rfl⟩

/-- a laid-out directive PDU, whatever follows it: the header decodes, it says file directive, and the
    octet right behind it is the directive code -/
private theorem pdu_header {fd : FileDirective} {code dir plen : Nat} (wb : C06Fixed.WFBase fd code dir plen)
    (hc : code < 256) (P rest : Bytes)
    (hl : fd.header.dataFieldLen = (C06Fixed.Spec.pdu fd P).length - fd.header.headerLen) :
    PduHeader.unpack (C06Fixed.Spec.pdu fd P ++ rest) = .ok fd.header ∧
    idx (C06Fixed.Spec.pdu fd P ++ rest) fd.header.headerLen = .ok code ∧ fd.header.pduType = 0 := by
  obtain ⟨wf, hty, _, hcode, _⟩ := wb
  suffices hp : prelude (C06Fixed.Spec.pdu fd P ++ rest) = .ok (fd, specOctets fd ++ P) by
    obtain ⟨hu, hi, _⟩ := (prelude_ok_iff _ _ _).mp hp
    exact ⟨hu, hcode ▸ hi, hty⟩
  refine (prelude_spec fd wf (by omega) P rest ?_).1
  have hs := specOctets_length fd wf
  have hh : fd.headerLen = fd.header.headerLen + 1 := rfl
  have e : C06Fixed.Spec.pdu fd P = withCrc fd.header.conf.crcFlag (specOctets fd ++ P) := rfl
  rw [e, withCrc_length, List.length_append] at hl
  omega

private theorem spec_header (p : AnyPdu) (wf : WFPdu p) (c : Nat) (hk : p.kind.code = some c) (rest : Bytes) :
    PduHeader.unpack (Spec.octets p ++ rest) = .ok (headerOf p) ∧
    idx (Spec.octets p ++ rest) (headerOf p).headerLen = .ok c ∧ (headerOf p).pduType = 0 := by
  cases p <;> cases hk
  case ack x => exact pdu_header wf.2.2.2.2.2 (by decide) _ rest (C06Fixed.C06_ack_len x wf).2.1
  case nak x => exact pdu_header wf.2.2.2 (by decide) _ rest (C06Fixed.C06_nak_len x wf).2.1
  case prompt x => exact pdu_header wf.2 (by decide) _ rest (C06Fixed.C06_prompt_len x wf).2.1
  case keepAlive x => exact pdu_header wf.2.2 (by decide) _ rest (C06Fixed.C06_keepalive_len x wf).2.1
  case eof x => exact pdu_header wf.2.2.2.2.2 (by decide) _ rest (C06Var.C06_eof_len x wf).2.1
  case finished x => exact pdu_header wf.2.2.2.2.2.2.2 (by decide) _ rest (C06Var.C06_finished_len x wf).2.1
  case metadata x => exact pdu_header wf.2.2.2.2.2 (by decide) _ rest (C06Var.C06_metadata_len x wf).2.1

private theorem dispatch_directive (p : AnyPdu) (wf : WFPdu p) (c : Nat) (hk : p.kind.code = some c) (rest : Bytes) :
    fromRaw (Spec.octets p ++ rest) = decodeAs p.kind (Spec.octets p ++ rest) ∧
    pduType (Spec.octets p ++ rest) = .ok 0 ∧ isFileDirective (Spec.octets p ++ rest) = .ok true ∧
    pduDirectiveType (Spec.octets p ++ rest) = .ok (some c) := by
  obtain ⟨hu, hi, hty⟩ := spec_header p wf c hk rest
  have h1 := pduType_of_header _ _ hu
  rw [hty] at h1
  obtain ⟨h3, h4⟩ := fromRaw_directive _ _ hu hty c hi
  obtain ⟨hm, hd⟩ := dispatch_code p.kind c hk (Spec.octets p ++ rest)
  exact ⟨h4.trans hd, h1, by rw [isFileDirective_eq, h1]; rfl, h3.trans hm⟩

theorem C12_dispatch_filedata (x : FileData.Pdu) (wf : C07.WF x) (ht : x.header.pduType = 1) (rest : Bytes) :
    fromRaw (C07.Spec.octets x ++ rest) = .ok (some (.fileData x)) ∧
    pduType (C07.Spec.octets x ++ rest) = .ok 1 ∧
    isFileDirective (C07.Spec.octets x ++ rest) = .ok false ∧
    pduDirectiveType (C07.Spec.octets x ++ rest) = .ok none := by
  have hr := C07.C07_roundtrip x wf rest
  obtain ⟨_, _, _, hu⟩ := C07.C07_decode_encode _ x hr
  have h1 := pduType_of_header _ _ hu
  rw [ht] at h1
  refine ⟨?_, h1, ?_, ?_⟩
  · rw [fromRaw_fileData _ _ hu (by omega), hr]; rfl
  · rw [isFileDirective_eq, h1]; rfl
  · rw [pduDirectiveType_of_header _ _ hu, if_pos (by omega)]

theorem C12_dispatch_ack (x : Ack.Ack) (wf : C06Fixed.WFAck x) (rest : Bytes) :
    fromRaw (C06Fixed.Spec.ack x ++ rest) = .ok (some (.ack x)) ∧
    pduType (C06Fixed.Spec.ack x ++ rest) = .ok 0 ∧
    isFileDirective (C06Fixed.Spec.ack x ++ rest) = .ok true ∧
    pduDirectiveType (C06Fixed.Spec.ack x ++ rest) = .ok (some 6) := by
  obtain ⟨h0, h⟩ := dispatch_directive (.ack x) wf 6 rfl rest
  exact ⟨h0.trans (congrArg (some <$> AnyPdu.ack <$> ·) (C06Fixed.C06_ack_roundtrip x wf rest)), h⟩

theorem C12_dispatch_prompt (x : Prompt.Prompt) (wf : C06Fixed.WFPrompt x) (rest : Bytes) :
    fromRaw (C06Fixed.Spec.prompt x ++ rest) = .ok (some (.prompt x)) ∧
    pduType (C06Fixed.Spec.prompt x ++ rest) = .ok 0 ∧
    isFileDirective (C06Fixed.Spec.prompt x ++ rest) = .ok true ∧
    pduDirectiveType (C06Fixed.Spec.prompt x ++ rest) = .ok (some 9) := by
  obtain ⟨h0, h⟩ := dispatch_directive (.prompt x) wf 9 rfl rest
  exact ⟨h0.trans (congrArg (some <$> AnyPdu.prompt <$> ·) (C06Fixed.C06_prompt_roundtrip x wf rest)), h⟩

theorem C12_dispatch_keepalive (x : KeepAlive.KeepAlive) (wf : C06Fixed.WFKeepAlive x) (rest : Bytes) :
    fromRaw (C06Fixed.Spec.keepAlive x ++ rest) = .ok (some (.keepAlive x)) ∧
    pduType (C06Fixed.Spec.keepAlive x ++ rest) = .ok 0 ∧
    isFileDirective (C06Fixed.Spec.keepAlive x ++ rest) = .ok true ∧
    pduDirectiveType (C06Fixed.Spec.keepAlive x ++ rest) = .ok (some 12) := by
  obtain ⟨h0, h⟩ := dispatch_directive (.keepAlive x) wf 12 rfl rest
  exact ⟨h0.trans (congrArg (some <$> AnyPdu.keepAlive <$> ·) (C06Fixed.C06_keepalive_roundtrip x wf rest)), h⟩

/-- **NAK** followed by further octets is refused with the documented `ValueError` (they are never
    folded into segment requests), while the inspectors still report type and directive code -/
theorem C12_dispatch_nak (x : Nak.Nak) (wf : C06Fixed.WFNak x) (rest : Bytes) :
    fromRaw (C06Fixed.Spec.nak x ++ rest) = (if rest = [] then .ok (some (.nak x)) else .error .value) ∧
    pduType (C06Fixed.Spec.nak x ++ rest) = .ok 0 ∧
    isFileDirective (C06Fixed.Spec.nak x ++ rest) = .ok true ∧
    pduDirectiveType (C06Fixed.Spec.nak x ++ rest) = .ok (some 8) := by
  obtain ⟨h0, h⟩ := dispatch_directive (.nak x) wf 8 rfl rest
  refine ⟨h0.trans ?_, h⟩
  by_cases hrest : rest = []
  · subst hrest
    rw [if_pos rfl, List.append_nil]
    exact congrArg (some <$> AnyPdu.nak <$> ·) (C06Fixed.C06_nak_roundtrip x wf)
  · rw [if_neg hrest]
    exact congrArg (some <$> AnyPdu.nak <$> ·) (C06Fixed.C06_nak_trailing_refused x wf rest hrest)

/-- **EOF**: neither the CRC trailer nor trailing octets are read as a fault location -/
theorem C12_dispatch_eof (x : Eof.Eof) (wf : C06Var.WFEof x) (rest : Bytes) :
    fromRaw (C06Var.Spec.eof x ++ rest) = .ok (some (.eof x)) ∧
    pduType (C06Var.Spec.eof x ++ rest) = .ok 0 ∧
    isFileDirective (C06Var.Spec.eof x ++ rest) = .ok true ∧
    pduDirectiveType (C06Var.Spec.eof x ++ rest) = .ok (some 4) := by
  obtain ⟨h0, h⟩ := dispatch_directive (.eof x) wf 4 rfl rest
  exact ⟨h0.trans (congrArg (some <$> AnyPdu.eof <$> ·) (C06Var.C06_eof_roundtrip x wf rest)), h⟩

theorem C12_dispatch_finished (x : Finished.Finished) (wf : C06Var.WFFin x) (rest : Bytes) :
    fromRaw (C06Var.Spec.finished x ++ rest) = .ok (some (.finished x)) ∧
    pduType (C06Var.Spec.finished x ++ rest) = .ok 0 ∧
    isFileDirective (C06Var.Spec.finished x ++ rest) = .ok true ∧
    pduDirectiveType (C06Var.Spec.finished x ++ rest) = .ok (some 5) := by
  obtain ⟨h0, h⟩ := dispatch_directive (.finished x) wf 5 rfl rest
  exact ⟨h0.trans (congrArg (some <$> AnyPdu.finished <$> ·) (C06Var.C06_finished_roundtrip x wf rest)), h⟩

/-- **Metadata** comes back with its options as generic TLVs of the same types and values
    (`normMd`, C06) -/
theorem C12_dispatch_metadata (x : Metadata.Metadata) (wf : C06Var.WFMd x) (rest : Bytes) :
    fromRaw (C06Var.Spec.metadata x ++ rest) = .ok (some (.metadata (C06Var.normMd x))) ∧
    pduType (C06Var.Spec.metadata x ++ rest) = .ok 0 ∧
    isFileDirective (C06Var.Spec.metadata x ++ rest) = .ok true ∧
    pduDirectiveType (C06Var.Spec.metadata x ++ rest) = .ok (some 7) := by
  obtain ⟨h0, h⟩ := dispatch_directive (.metadata x) wf 7 rfl rest
  exact ⟨h0.trans (congrArg (some <$> AnyPdu.metadata <$> ·) (C06Var.C06_metadata_roundtrip x wf rest)), h⟩

theorem C12_pack_exact (p : AnyPdu) (wf : WFPdu p) : p.pack = .ok (Spec.octets p) := by
  cases p with
  | fileData x => exact C07.C07_pack_exact x wf.1
  | ack x => exact C06Fixed.C06_ack_pack_exact x wf
  | nak x => exact C06Fixed.C06_nak_pack_exact x wf
  | prompt x => exact C06Fixed.C06_prompt_pack_exact x wf
  | keepAlive x => exact C06Fixed.C06_keepalive_pack_exact x wf
  | eof x => exact C06Var.C06_eof_pack_exact x wf
  | finished x => exact C06Var.C06_finished_pack_exact x wf
  | metadata x => exact C06Var.C06_metadata_pack_exact x wf

/-- **equal under the library's `==`, both ways**: the packed object and the object the factory
    returns for it (`norm p`) compare equal (for EOF / Finished: when the fault-location entity ID has a
    width the library can compare, otherwise `==` itself raises `ValueError`) -/
theorem C12_beq (p : AnyPdu) (wf : WFPdu p) (hw : EqOk p) :
    p.beq (norm p) = .ok true ∧ (norm p).beq p = .ok true := by
  cases p with
  | eof x =>
    obtain ⟨k', _, rfl, h1, h2, _⟩ := C06Var.C06_eof_eq_repack x wf hw []
    exact ⟨h1, h2⟩
  | finished x =>
    obtain ⟨k', _, rfl, h1, h2, _⟩ := C06Var.C06_finished_eq_repack x wf hw []
    exact ⟨h1, h2⟩
  | metadata x => exact C06Var.C06_metadata_eq x wf
  | _ =>
    simp [norm, AnyPdu.beq, FileData.Pdu.beq, FileData.hdrBeq, Ack.Ack.beq, Nak.Nak.beq, Prompt.Prompt.beq,
      KeepAlive.KeepAlive.beq, FileDirective.beq_refl, pure, Except.pure]

theorem C12_norm (p : AnyPdu) (wf : WFPdu p) :
    (norm p).kind = p.kind ∧ WFPdu (norm p) ∧ Spec.octets (norm p) = Spec.octets p ∧
    (norm p).pack = p.pack ∧ norm (norm p) = norm p := by
  cases p with
  | metadata x =>
    obtain ⟨h1, h2, h3, _⟩ := C06Var.C06_metadata_repack x wf []
    refine ⟨rfl, h1, h2, h3, ?_⟩
    have h4 := C06Var.C06_metadata_roundtrip x wf []
    have h5 := C06Var.C06_metadata_roundtrip (C06Var.normMd x) h1 []
    rw [h2, h4] at h5
    simp only [norm]
    exact congrArg AnyPdu.metadata (Except.ok.inj h5).symm
  | _ => exact ⟨rfl, wf, rfl, rfl, rfl⟩

/-- **the factory's generic decode returns an instance of exactly the packed kind, equal to the
    original** (`norm p`), except that a kind which refuses trailing octets answers a non-empty
    `rest` with `ValueError` -/
theorem C12_dispatch (p : AnyPdu) (wf : WFPdu p) (rest : Bytes) :
    fromRaw (Spec.octets p ++ rest) =
      if refusesTrailing p = true ∧ rest ≠ [] then .error .value else .ok (some (norm p)) := by
  cases p with
  | fileData x => exact (C12_dispatch_filedata x wf.1 wf.2 rest).1
  | ack x => exact (C12_dispatch_ack x wf rest).1
  | prompt x => exact (C12_dispatch_prompt x wf rest).1
  | keepAlive x => exact (C12_dispatch_keepalive x wf rest).1
  | eof x => exact (C12_dispatch_eof x wf rest).1
  | finished x => exact (C12_dispatch_finished x wf rest).1
  | metadata x => exact (C12_dispatch_metadata x wf rest).1
  | nak x =>
    refine (C12_dispatch_nak x wf rest).1.trans ?_
    by_cases hr : rest = []
    · rw [if_pos hr, if_neg (fun h => h.2 hr)]; rfl
    · rw [if_neg hr, if_pos ⟨rfl, hr⟩]

private theorem dispatch_alone (p : AnyPdu) (wf : WFPdu p) : fromRaw (Spec.octets p) = .ok (some (norm p)) := by
  have h := C12_dispatch p wf []
  rwa [List.append_nil, if_neg (fun g => g.2 rfl)] at h

/-- the statement's form: pack, hand the octets to the factory, get back an object `p'` of the same
    kind that is equal to the original under `==` (both ways) and re-packs to the same octets; for
    seven of the eight kinds it is the original itself -/
theorem C12_dispatch_eq_repack (p : AnyPdu) (wf : WFPdu p) :
    ∃ p', (p.pack >>= fromRaw) = .ok (some p') ∧ p'.kind = p.kind ∧ p' = norm p ∧
      (p.kind ≠ .metadata → p' = p) ∧ p'.pack = p.pack ∧
      (EqOk p → p.beq p' = .ok true ∧ p'.beq p = .ok true) := by
  obtain ⟨hk, _, _, hp, _⟩ := C12_norm p wf
  refine ⟨norm p, ?_, hk, rfl, ?_, hp, C12_beq p wf⟩
  · rw [C12_pack_exact p wf, bind_ok, dispatch_alone p wf]
  · intro hm
    cases p <;> first | rfl | exact absurd rfl hm

/-- **trailing octets (C09 clause)**: a packed PDU followed by further octets is either decoded
    exactly as the PDU alone or refused with a documented error — never anything else -/
theorem C12_dispatch_trailing (p : AnyPdu) (wf : WFPdu p) (rest : Bytes) :
    fromRaw (Spec.octets p ++ rest) = fromRaw (Spec.octets p) ∨
    ∃ e, fromRaw (Spec.octets p ++ rest) = .error e ∧ e.documented = true := by
  rw [C12_dispatch p wf rest, dispatch_alone p wf]
  split
  · exact Or.inr ⟨_, rfl, rfl⟩
  · exact Or.inl rfl

/-- **the inspectors report what the packed octets carry**: `pdu_type` is bit 4 of the first packed
    octet; `pdu_directive_type` is the packed octet at `header_len`, for each of the 16 width
    combinations -/
theorem C12_inspectors (p : AnyPdu) (wf : WFPdu p) (rest : Bytes) :
    pduType (Spec.octets p ++ rest) = .ok (if p.kind = .fileData then 1 else 0) ∧
    isFileDirective (Spec.octets p ++ rest) = .ok (decide (p.kind ≠ .fileData)) ∧
    pduDirectiveType (Spec.octets p ++ rest) = .ok p.kind.code ∧
    (∀ c, p.kind.code = some c → idx (Spec.octets p ++ rest) (headerOf p).headerLen = .ok c) ∧
    (∃ x r, Spec.octets p ++ rest = x :: r ∧ x.toNat / 16 % 2 = (if p.kind = .fileData then 1 else 0)) := by
  obtain ⟨k1, k2, k3⟩ : pduType (Spec.octets p ++ rest) = .ok (if p.kind = .fileData then 1 else 0) ∧
      isFileDirective (Spec.octets p ++ rest) = .ok (decide (p.kind ≠ .fileData)) ∧
      pduDirectiveType (Spec.octets p ++ rest) = .ok p.kind.code := by
    cases hc : p.kind.code with
    | none => cases p <;> cases hc; exact (C12_dispatch_filedata _ wf.1 wf.2 rest).2
    | some c => cases p <;> cases hc <;> exact (dispatch_directive _ wf _ rfl rest).2
  refine ⟨k1, k2, k3, ?_, ?_⟩
  · exact fun c hc => (spec_header p wf c hc rest).2.1
  · cases hd : Spec.octets p ++ rest with
    | nil => rw [hd] at k1; cases k1
    | cons x r =>
      rw [hd, pduType_cons] at k1
      exact ⟨x, r, rfl, Except.ok.inj k1⟩

theorem C12_pdu_type_bit (d : Bytes) :
    (d = [] → pduType d = .error .value ∧ isFileDirective d = .error .value ∧
      pduDirectiveType d = .error .value ∧ fromRaw d = .error .value) ∧
    (∀ x r, d = x :: r → pduType d = .ok (x.toNat / 16 % 2) ∧
      isFileDirective d = .ok (x.toNat / 16 % 2 == 0)) := by
  constructor
  · rintro rfl; exact ⟨rfl, rfl, rfl, rfl⟩
  · rintro x r rfl; exact ⟨pduType_cons x r, isFileDirective_cons x r⟩

theorem C12_directive_octet (d : Bytes) (h : PduHeader) (hu : PduHeader.unpack d = .ok h) :
    pduType d = .ok h.pduType ∧
    pduDirectiveType d =
      (if h.pduType ≠ 0 then .ok none
       else if d.length ≤ h.headerLen then .error .value
       else idx d h.headerLen >>= directiveOf) :=
  ⟨pduType_of_header d h hu, pduDirectiveType_of_header d h hu⟩

/-- **unknown directive code → documented failure**: a file directive whose directive octet is not
    a member of `DirectiveType` makes `pdu_directive_type` and `from_raw` raise `ValueError`;
    `DirectiveType.NONE` (0x0A) *is* a member: the inspector returns it and `from_raw` returns
    `None`, no object -/
theorem C12_unknown_directive (d : Bytes) (h : PduHeader) (hu : PduHeader.unpack d = .ok h)
    (ht : h.pduType = 0) (c : Nat) (hc : idx d h.headerLen = .ok c) :
    (c ∉ directiveTypes → pduDirectiveType d = .error .value ∧ fromRaw d = .error .value) ∧
    (c = 10 → pduDirectiveType d = .ok (some 10) ∧ fromRaw d = .ok none) ∧
    (c ∈ directiveTypes → pduDirectiveType d = .ok (some c)) := by
  obtain ⟨h1, h2⟩ := fromRaw_directive d h hu ht c hc
  refine ⟨?_, ?_, ?_⟩
  · intro hn
    rw [h1, h2, directiveOf_unknown c hn]; exact ⟨rfl, rfl⟩
  · rintro rfl
    rw [h1, h2]; exact ⟨rfl, rfl⟩
  · intro hm
    rw [h1, directiveOf_member c hm]

theorem C12_directive_members :
    directiveTypes = [4, 5, 6, 7, 8, 9, 12, 10] ∧
    Kind.all.filterMap Kind.code = [4, 5, 6, 7, 8, 9, 12] := by decide

/-- a file directive that ends before its directive octet: `ValueError` from the inspector and the
    factory (`BytesTooShortError`), for every width combination -/
theorem C12_no_directive_octet (d : Bytes) (h : PduHeader) (hu : PduHeader.unpack d = .ok h)
    (ht : h.pduType = 0) (hl : d.length ≤ h.headerLen) :
    pduDirectiveType d = .error .value ∧ fromRaw d = .error .value := by
  constructor
  · rw [pduDirectiveType_of_header d h hu, if_neg (by omega), if_pos hl]
  · rw [fromRaw_of_header d h hu, if_neg (by omega), if_pos hl]

/-- the decoder of the PDU's own kind refuses every proper prefix of its octets (C06 / C07) -/
private theorem decoder_truncated (p : AnyPdu) (wf : WFPdu p) (k : Nat) (hk : k < (Spec.octets p).length) :
    decoderOf p.kind ((Spec.octets p).take k) = .error .value := by
  cases p with
  | fileData x =>
    exact congrArg (Functor.map AnyPdu.fileData) (C07.C07_truncated x wf.1 k ((C07.C07_len x wf.1).1 ▸ hk))
  | ack x => exact congrArg (Functor.map AnyPdu.ack) (C06Fixed.C06_ack_truncated x wf k hk)
  | prompt x => exact congrArg (Functor.map AnyPdu.prompt) (C06Fixed.C06_prompt_truncated x wf k hk)
  | keepAlive x => exact congrArg (Functor.map AnyPdu.keepAlive) (C06Fixed.C06_keepalive_truncated x wf k hk)
  | nak x => exact congrArg (Functor.map AnyPdu.nak) (C06Fixed.C06_nak_truncated x wf k hk)
  | eof x => exact congrArg (Functor.map AnyPdu.eof) (C06Var.C06_eof_truncated x wf k hk)
  | finished x => exact congrArg (Functor.map AnyPdu.finished) (C06Var.C06_finished_truncated x wf k hk)
  | metadata x => exact congrArg (Functor.map AnyPdu.metadata) (C06Var.C06_metadata_truncated x wf k hk)

theorem C12_truncated (p : AnyPdu) (wf : WFPdu p) (k : Nat) (hk : k < (Spec.octets p).length) :
    fromRaw ((Spec.octets p).take k) = .error .value := by
  have hf := congrArg (Functor.map some) (decoder_truncated p wf k hk)
  cases hc : p.kind.code with
  | some c =>
    obtain ⟨hu, hi, ht⟩ := spec_header p wf c hc []
    rw [List.append_nil] at hu hi
    rw [fromRaw_take_directive _ _ hu ht c hi k (by omega)]
    split
    · rfl
    · rw [(dispatch_code p.kind c hc _).2]; exact hf
  | none =>
    cases p <;> cases hc
    rename_i x
    obtain ⟨_, h1, _, _⟩ := C12_dispatch_filedata x wf.1 wf.2 []
    rw [List.append_nil] at h1
    change decodeAs .fileData ((C07.Spec.octets x).take k) = _ at hf
    show fromRaw ((C07.Spec.octets x).take k) = _
    cases hd : C07.Spec.octets x with
    | nil => rw [hd] at h1; cases h1
    | cons x0 r =>
      rw [hd, pduType_cons] at h1
      have e1 : x0.toNat / 16 % 2 = 1 := Except.ok.inj h1
      rw [hd] at hf
      match k with
      | 0 => rfl
      | k + 1 =>
        rw [List.take_succ_cons] at hf ⊢
        rw [fromRaw_cons, if_pos (by omega)]
        exact hf

/-- **whatever `from_raw` returns, for whatever octet string, is an object of the kind the octets
    name**: its class is the File Data class iff the type bit is set, otherwise the class of the
    directive octet; and the holder's accessor for that kind returns it -/
theorem C12_from_raw_sound (d : Bytes) (p : AnyPdu) (h : fromRaw d = .ok (some p)) :
    pduType d = .ok (if p.kind = .fileData then 1 else 0) ∧
    pduDirectiveType d = .ok p.kind.code ∧
    p.Canonical ∧
    (∀ k, Holder.castTo k (some p) = if p.kind = k then .ok p else .error .type) := by
  obtain ⟨hc, h1, h2⟩ := fromRaw_sound d p h
  refine ⟨?_, h2, hc, castTo_canonical p hc⟩
  rw [h1]
  cases p <;> first | rfl | (simp only [AnyPdu.Canonical] at hc; simp [AnyPdu.pduType, AnyPdu.view, AnyPdu.kind, hc, FILE_DATA])

/-- valid PDUs are canonical (so are all objects the factory returns, `C12_from_raw_sound`) -/
theorem C12_wf_canonical (p : AnyPdu) (wf : WFPdu p) : p.Canonical := by
  cases p with
  | fileData x => exact wf.2
  | prompt x => exact wf.2.2.2.2.1
  | eof x => exact wf.2.2.2.2.2.2.2.2.1
  | _ => trivial

/-- **the (held kind or none) × (requested kind) table**: for an empty holder every one of the eight
    typed accessors raises `TypeError`; for a held PDU the accessor of its own kind succeeds and
    returns the held object itself, each of the seven others raises `TypeError` -/
theorem C12_holder (held : Holder) (k : Kind) (hc : ∀ p, held = some p → p.Canonical) :
    Holder.castTo k held =
      match held with
      | none => .error .type
      | some p => if p.kind = k then .ok p else .error .type := by
  cases held with
  | none => rfl
  | some p => exact castTo_canonical p (hc p rfl) k

theorem C12_holder_valid (p : AnyPdu) (wf : WFPdu p) (k : Kind) :
    (k = p.kind → Holder.castTo k (some p) = .ok p) ∧
    (k ≠ p.kind → Holder.castTo k (some p) = .error .type) ∧
    Holder.castTo k none = .error .type := by
  have := castTo_canonical p (C12_wf_canonical p wf) k
  refine ⟨?_, ?_, rfl⟩
  · rintro rfl; rw [this, if_pos rfl]
  · intro hk; rw [this, if_neg (fun h => hk h.symm)]

theorem C12_holder_from_raw (p : AnyPdu) (wf : WFPdu p) (k : Kind) :
    (p.pack >>= fromRawToHolder >>= Holder.castTo k) = if p.kind = k then .ok (norm p) else .error .type := by
  rw [C12_pack_exact p wf, bind_ok, fromRawToHolder, dispatch_alone p wf, bind_ok]
  obtain ⟨hk, hwf, _⟩ := C12_norm p wf
  rw [← hk]
  exact castTo_canonical (norm p) (C12_wf_canonical _ hwf) k

private theorem castTo_some (p : AnyPdu) (k : Kind) :
    Holder.castTo k (some p) = .ok p ∨ Holder.castTo k (some p) = .error .type := by
  unfold Holder.castTo
  simp only
  split
  · split
    · exact Or.inl rfl
    · exact Or.inr rfl
  · split
    · rename_i hd
      cases hdt : p.directiveType with
      | error e' =>
        -- only a File Data object has no `directive_type`, and it is not a directive class
        cases p <;> simp [AnyPdu.directiveType, AnyPdu.view, AnyPdu.isDirectiveClass, AnyPdu.kind] at hdt hd
      | ok t =>
        rw [bind_ok]
        split
        · exact Or.inl rfl
        · exact Or.inr rfl
    · exact Or.inr rfl

theorem C12_holder_errors (held : Holder) (k : Kind) (e : Err) (h : Holder.castTo k held = .error e) :
    e = .type := by
  cases held with
  | none => cases h; rfl
  | some p => rcases castTo_some p k with h' | h' <;> rw [h'] at h <;> cases h; rfl

/-- an accessor never converts: what it returns is the held object -/
theorem C12_holder_returns_held (held : Holder) (k : Kind) (q : AnyPdu) (h : Holder.castTo k held = .ok q) :
    held = some q := by
  cases held with
  | none => cases h
  | some p => rcases castTo_some p k with h' | h' <;> rw [h'] at h <;> cases h; rfl

/-- the other views of the holder: empty → `pack` gives no octets, `packet_len` 0, and the three
    type views raise `AssertionError`; a held valid PDU → the views of that PDU -/
theorem C12_holder_views (p : AnyPdu) (wf : WFPdu p) :
    Holder.pack none = .ok [] ∧ Holder.packetLen none = 0 ∧
    Holder.pduType none = .error .assertion ∧ Holder.isFileDirective none = .error .assertion ∧
    Holder.pduDirectiveType none = .error .assertion ∧
    Holder.pack (some p) = .ok (Spec.octets p) ∧ Holder.packetLen (some p) = (Spec.octets p).length ∧
    Holder.pduType (some p) = .ok (if p.kind = .fileData then 1 else 0) ∧
    Holder.isFileDirective (some p) = .ok (decide (p.kind ≠ .fileData)) ∧
    Holder.pduDirectiveType (some p) = .ok p.kind.code := by
  refine ⟨rfl, rfl, rfl, rfl, rfl, C12_pack_exact p wf, ?_, ?_, ?_, ?_⟩
  · cases p with
    | fileData x => exact (C07.C07_len x wf.1).1.symm
    | ack x => exact (C06Fixed.C06_ack_len x wf).1.symm
    | nak x => exact (C06Fixed.C06_nak_len x wf).1.symm
    | prompt x => exact (C06Fixed.C06_prompt_len x wf).1.symm
    | keepAlive x => exact (C06Fixed.C06_keepalive_len x wf).1.symm
    | eof x => exact (C06Var.C06_eof_len x wf).1.symm
    | finished x => exact (C06Var.C06_finished_len x wf).1.symm
    | metadata x => exact (C06Var.C06_metadata_len x wf).1.symm
  all_goals
    have hc := C12_wf_canonical p wf
    cases p <;>
      simp_all [Holder.pduType, Holder.isFileDirective, Holder.pduDirectiveType, AnyPdu.Canonical, AnyPdu.kind,
        AnyPdu.pduType, AnyPdu.directiveType, AnyPdu.view, Kind.code, FILE_DATA, FILE_DIRECTIVE, DIR_ACK, DIR_NAK,
        DIR_PROMPT, DIR_KEEP_ALIVE, DIR_EOF, DIR_FINISHED, DIR_METADATA, bind, Except.bind, pure, Except.pure,
        Functor.map, Except.map]

theorem C12_holder_setter (h : Holder) (q : Option AnyPdu) (k : Kind) :
    (h.setPdu q).castTo k = Holder.castTo k q ∧ (h.setPdu q).base = q := ⟨rfl, rfl⟩

/-- the three inspectors fail, for any octet string whatever, only with `ValueError`; `from_raw`
    only with `ValueError` / `UnsupportedCfdpVersion` / `InvalidCrc` / `TlvTypeMissmatch` (what the
    eight decoders document); the typed accessors fail only with the `TypeError` the statement names
    (`C12_holder_errors`) -/
theorem C12_documented (d : Bytes) :
    Documented (pduType d) ∧ Documented (isFileDirective d) ∧ Documented (pduDirectiveType d) ∧
    Documented (fromRaw d) :=
  ⟨pduType_documented d, isFileDirective_documented d, pduDirectiveType_documented d, fromRaw_documented d⟩

private instance instDecEqExcept {ε α : Type} [DecidableEq ε] [DecidableEq α] : DecidableEq (Except ε α)
  | .ok a, .ok b => if h : a = b then isTrue (by rw [h]) else isFalse (by intro h'; cases h'; exact h rfl)
  | .error a, .error b => if h : a = b then isTrue (by rw [h]) else isFalse (by intro h'; cases h'; exact h rfl)
  | .ok _, .error _ => isFalse (by intro h; cases h)
  | .error _, .ok _ => isFalse (by intro h; cases h)

-- one valid PDU per modelled kind (the non-vacuity examples of C06 / C07)
private def exFd : AnyPdu := .fileData C07.exA
private def exAck : AnyPdu :=
  .ack ⟨⟨⟨0, 0, 5, ⟨⟨2, 0x0102⟩, ⟨2, 0x0304⟩, ⟨1, 0x77⟩, 1, 1, 1, 0, 0⟩⟩, 6⟩, 5, 1, 5, 2⟩
private def exPrompt : AnyPdu :=
  .prompt ⟨⟨⟨0, 0, 4, ⟨⟨8, 0x0102030405060708⟩, ⟨8, 0x1112131415161718⟩, ⟨4, 0xA1A2A3A4⟩, 0, 0, 1, 0, 1⟩⟩, 9⟩, 1⟩
private def exKa : AnyPdu :=
  .keepAlive ⟨⟨⟨0, 0, 11, ⟨⟨1, 0x21⟩, ⟨1, 0x43⟩, ⟨2, 0x6587⟩, 1, 1, 1, 1, 0⟩⟩, 12⟩, 0x0102030405060708⟩
private def exNak : AnyPdu :=
  .nak ⟨⟨⟨0, 0, 51, ⟨⟨2, 0x0102⟩, ⟨2, 0x0304⟩, ⟨1, 9⟩, 0, 1, 1, 1, 0⟩⟩, 8⟩, 0x0102030405060708, 0xFFFFFFFFFFFFFFFF,
    [(0, 0), (0x1112131415161718, 0x2122232425262728)]⟩
private def exEof : AnyPdu :=
  .eof ⟨⟨⟨0, 0, 20, ⟨⟨2, 0x0102⟩, ⟨2, 0x0304⟩, ⟨1, 9⟩, 0, 1, 1, 0, 0⟩⟩, 4⟩, 5, [0xA1, 0xA2, 0xA3, 0xA4],
    0x0102030405060708, some ⟨⟨6, [0x0A, 0x0B]⟩⟩⟩
private def exFin : AnyPdu :=
  .finished ⟨⟨⟨0, 0, 26, ⟨⟨1, 7⟩, ⟨1, 8⟩, ⟨2, 0x0102⟩, 1, 0, 1, 1, 0⟩⟩, 5⟩, 4, 1, 2,
    [⟨0, 1, [0x61], [], ⟨[]⟩⟩, ⟨2, 33, [0xC3, 0xA4], [0x62], ⟨[9]⟩⟩], some ⟨⟨6, [1, 2, 3, 4]⟩⟩⟩
private def exMd : AnyPdu :=
  .metadata ⟨⟨⟨0, 0, 25, ⟨⟨1, 7⟩, ⟨1, 8⟩, ⟨1, 9⟩, 0, 1, 1, 0, 0⟩⟩, 7⟩, true, 3, 0x0102030405060708,
    ⟨[0xC3, 0xA4, 0x2E]⟩, ⟨[0x62]⟩, some [.msgToUser ⟨⟨2, [0xAA]⟩⟩, .generic ⟨5, [1, 2]⟩]⟩
private def exHeld : List Holder :=
  [none, some exFd, some exEof, some exFin, some exAck, some exMd, some exNak, some exPrompt, some exKa]

example : ∀ p ∈ [exFd, exEof, exFin, exAck, exMd, exPrompt, exKa, exNak], WFPdu p ∧ EqOk p := by decide
example : norm exMd ≠ exMd ∧ (norm exMd).kind = .metadata := by decide
-- the directive octet sits at offset 9, 24, 8 and 9 in these four configurations
example : [exAck, exPrompt, exKa, exNak].map (fun p => (headerOf p).headerLen) = [9, 24, 8, 9] := by decide
-- the accessor table on concrete objects, all (held or none) × (requested kind) pairs, evaluated
example : ∀ h ∈ exHeld, ∀ k ∈ Kind.all,
    Holder.castTo k h = (match h with
      | none => .error .type
      | some p => if p.kind = k then .ok p else .error .type) := by decide
-- the factory on concrete packed octets (CRC-flagged ACK in a 2-octet-ID configuration)
example : (exAck.pack >>= fromRaw) = .ok (some exAck) := by decide +kernel
example : (exFd.pack >>= fromRaw) = .ok (some exFd) := by decide +kernel
-- directive octet 0x0A (`DirectiveType.NONE`) → no object; 0x0B → ValueError; header only → ValueError
example : fromRaw [0x20, 0, 1, 0x00, 1, 2, 3, 0x0A] = .ok none := by decide
example : fromRaw [0x20, 0, 1, 0x00, 1, 2, 3, 0x0B] = .error .value := by decide
example : pduDirectiveType [0x20, 0, 1, 0x00, 1, 2, 3, 0x0B] = .error .value := by decide
example : fromRaw [0x20, 0, 1, 0x00, 1, 2, 3] = .error .value := by decide
example : pduDirectiveType [0x20, 0, 1, 0x13, 1, 2, 3, 4, 5, 6, 7, 8, 9] = .ok (some 9) := by decide
-- a non-canonical held object (the Prompt decoder applied to ACK octets keeps directive code 6):
-- the Prompt accessor refuses it — the hypothesis of `C12_holder` is needed
example : Holder.castTo .prompt (some (.prompt ⟨⟨⟨0, 0, 3, PduConfig.default⟩, 6⟩, 0⟩)) = .error .type := by decide

end SpVerif.Props.C12
