import SpVerif.Model.PusTm
import SpVerif.Props.C01
import SpVerif.Proofs.PusFrame
/-!
# C03 — PUS-C telemetry encode/decode is exact and inverse for any timestamp length

`Spec.octets t`: CCSDS primary header ‖ [0x20 + time ref, service, subservice, message counter
(16 bit BE), destination id (16 bit BE)] ‖ timestamp (any length) ‖ source data ‖ CRC-16/CCITT-FALSE.
-/
namespace SpVerif.Props.C03
open SpVerif SpVerif.SpacePacket SpVerif.PusTm

def WFSec (s : TmSec) : Prop :=
  s.timeRef < 16 ∧ s.service < 256 ∧ s.subservice < 256 ∧ s.msgCounter < 65536 ∧ s.destId < 65536

/-- in-range fields, and the length field matches timestamp and source data -/
def WF (t : Tm) : Prop :=
  C01.WF t.sph ∧ WFSec t.sec ∧ t.sph.dlen = 7 + t.sec.timestamp.length + t.sourceData.length + 1

def Spec.secFixed (s : TmSec) : Bytes :=
  [u8 (32 + s.timeRef), u8 s.service, u8 s.subservice, u8 (s.msgCounter / 256), u8 (s.msgCounter % 256),
   u8 (s.destId / 256), u8 (s.destId % 256)]

def Spec.sec (s : TmSec) : Bytes := Spec.secFixed s ++ s.timestamp
def Spec.body (t : Tm) : Bytes := C01.Spec.octets t.sph ++ Spec.sec t.sec ++ t.sourceData
def Spec.octets (t : Tm) : Bytes := Spec.body t ++ Crc.crcTrailer (Spec.body t)

instance (s : TmSec) : Decidable (WFSec s) := by unfold WFSec; infer_instance
instance (t : Tm) : Decidable (WF t) := by unfold WF; infer_instance

theorem sec_pack (s : TmSec) (wf : WFSec s) : s.pack = .ok (Spec.sec s) := by
  obtain ⟨ha, hs, hb, hc, hd⟩ := wf
  unfold TmSec.pack
  rw [byteOfN_ok (show 32 + s.timeRef < 256 by omega), byteOfN_ok hs, byteOfN_ok hb, packBE2_ok hc, packBE2_ok hd]
  rfl

theorem TmSec.new_nat (svc sub cnt dst ref : Nat) (ts : Bytes) :
    TmSec.new (svc : Int) (sub : Int) ts (cnt : Int) dst ref =
      if 255 < svc ∨ 255 < sub ∨ 65535 < cnt then .error .value else .ok ⟨ref, svc, sub, cnt, dst, ts⟩ := by
  unfold TmSec.new
  split
  · rw [if_pos (by omega)]
  · split
    · rw [if_pos (by omega)]
    · split
      · rw [if_pos (by omega)]
      · rw [if_neg (by omega)]; rfl

/-- constructor: valid arguments give a TM header (type TM, secondary-header flag, unsegmented,
    data length = 7 + |timestamp| + |source data| + 1), for every packet version -/
theorem C03_new (svc sub apid count cnt ref dst ver : Nat) (ts src : Bytes)
    (ha : apid < 2048) (hc : count < 16384) (hs : svc < 256) (hb : sub < 256) (hm : cnt < 65536)
    (hl : ts.length + src.length ≤ 65527) :
    Tm.new (svc : Int) (sub : Int) ts src (apid : Int) (count : Int) (cnt : Int) ref dst ver =
      .ok ⟨⟨ver, 0, 1, apid, 3, count, 7 + ts.length + src.length + 1⟩, ⟨ref, svc, sub, cnt, dst, ts⟩, src⟩ := by
  unfold Tm.new
  rw [C01.C01_accept _ _ _ _ _ _ _ ha hc (show dataLen ts.length src.length < 65536 by unfold dataLen; omega),
    TmSec.new_nat, if_neg (by omega)]
  rfl

/-- timestamp + source data beyond what the 16-bit length field can describe are refused -/
theorem C03_too_long (svc sub apid count cnt : Int) (ref dst ver : Nat) (ts src : Bytes)
    (hl : 65527 < ts.length + src.length) :
    Tm.new svc sub ts src apid count cnt ref dst ver = .error .value := by
  unfold Tm.new
  rw [C01.C01_refuse _ _ _ _ _ _ _ (by unfold dataLen; omega)]
  rfl

/-- out-of-range service, subservice or message counter are refused with ValueError -/
theorem C03_refuse_sec (svc sub cnt : Int) (ts : Bytes) (dst ref : Nat)
    (h : svc < 0 ∨ 255 < svc ∨ sub < 0 ∨ 255 < sub ∨ cnt < 0 ∨ 65535 < cnt) :
    TmSec.new svc sub ts cnt dst ref = .error .value := by
  unfold TmSec.new
  split
  · rfl
  · split
    · rfl
    · split
      · rfl
      · omega

/-- **pack = prescribed octets**, for every timestamp (any length) -/
theorem C03_pack_exact (t : Tm) (wf : WF t) : t.pack = .ok (Spec.octets t) := by
  unfold Tm.pack Tm.packNoCrc
  rw [C01.C01_pack_exact t.sph wf.1, sec_pack t.sec wf.2.1]
  rfl

theorem sec_length (s : TmSec) : (Spec.sec s).length = 7 + s.timestamp.length := by
  rw [Spec.sec, List.length_append]; rfl

theorem C03_len (t : Tm) (wf : WF t) : (Spec.octets t).length = t.packetLen ∧ t.packetLen = t.sph.dlen + 7 := by
  have := (PusFrame.cut (hdr := C01.Spec.octets t.sph) (body := Spec.body t) rfl rfl (sec_length t.sec) []).2.2.1
  rw [List.append_nil, List.length_nil] at this
  refine ⟨this.trans ?_, C01.C01_len _⟩
  rw [Tm.packetLen, C01.C01_len, wf.2.2]; omega

theorem C03_crc_valid (t : Tm) : Crc.crc16 (Spec.octets t) = 0 := Crc.crc16_residue _

/-- the timestamp starts at `PUS_TM_TIMESTAMP_OFFSET` = 13 -/
theorem C03_offset (t : Tm) : timestampOffset = 13 ∧
    ((Spec.octets t).drop 13).take t.sec.timestamp.length = t.sec.timestamp := by
  refine ⟨rfl, ?_⟩
  rw [show Spec.octets t = (C01.Spec.octets t.sph ++ Spec.secFixed t.sec) ++
      (t.sec.timestamp ++ (t.sourceData ++ Crc.crcTrailer (Spec.body t))) by
    simp only [Spec.octets, Spec.body, Spec.sec, List.append_assoc]]
  rw [List.drop_left' (show (C01.Spec.octets t.sph ++ Spec.secFixed t.sec).length = 13 from rfl), List.take_left' rfl]

theorem sec_unpack_cons {d : Bytes} {x0 x1 x2 x3 x4 x5 x6 : UInt8} {r : Bytes}
    (hd : d = x0 :: x1 :: x2 :: x3 :: x4 :: x5 :: x6 :: r) (n : Nat) :
    TmSec.unpack d n = if x0.toNat / 16 ≠ 2 then .error .value else
      .ok ⟨x0.toNat % 16, x1.toNat, x2.toNat, beNat [x3, x4], beNat [x5, x6], slice d 7 (7 + n)⟩ := by
  subst hd
  unfold TmSec.unpack
  rw [if_neg (c := (x0 :: x1 :: x2 :: x3 :: x4 :: x5 :: x6 :: r).length < 7) (Nat.not_lt.mpr (Nat.le_add_left 7 _))]
  rfl

theorem sec_unpack_documented (d : Bytes) (n : Nat) : Documented (TmSec.unpack d n) := by
  by_cases h : d.length < 7
  · unfold TmSec.unpack; rw [guard_pos h]; exact .err rfl
  · match d, Nat.le_of_not_lt h with
    | x0 :: x1 :: x2 :: x3 :: x4 :: x5 :: x6 :: r, _ => rw [sec_unpack_cons rfl]; exact .ite (.err rfl) (.ok _)

/-- the decoder takes as many timestamp octets as it is told (if the buffer has them) -/
theorem sec_unpack_timestamp {d : Bytes} {n : Nat} {s : TmSec} (h : TmSec.unpack d n = .ok s) :
    s.timestamp = slice d 7 (7 + n) := by
  unfold TmSec.unpack at h
  dsimp only at h
  obtain ⟨_, h⟩ := guard_ok_inv h
  obtain ⟨_, _, h⟩ := bind_ok_inv h
  obtain ⟨_, h⟩ := guard_ok_inv h
  obtain ⟨_, _, h⟩ := bind_ok_inv h
  obtain ⟨_, _, h⟩ := bind_ok_inv h
  obtain ⟨_, _, h⟩ := bind_ok_inv h
  obtain ⟨_, _, h⟩ := bind_ok_inv h
  cases h; rfl

theorem sec_unpack_spec (s : TmSec) (wf : WFSec s) (rest : Bytes) :
    TmSec.unpack (Spec.sec s ++ rest) s.timestamp.length = .ok s := by
  obtain ⟨ha, hs, hb, hc, hd⟩ := wf
  obtain ⟨e1, e2⟩ := PusFrame.octet0 s.timeRef ha
  rw [sec_unpack_cons (show Spec.sec s ++ rest = u8 _ :: u8 _ :: u8 _ :: u8 _ :: u8 _ :: u8 _ :: u8 _ :: _ from rfl),
    beNat_two, beNat_two, show slice (Spec.sec s ++ rest) 7 (7 + s.timestamp.length) = _ from
      slice_eq_of_append (Spec.secFixed s) s.timestamp rest]
  simp only [u8_toNat]
  rw [e1, e2, if_neg (by decide), Nat.mod_eq_of_lt hs, Nat.mod_eq_of_lt hb, PusFrame.be16_join _ hc, PusFrame.be16_join _ hd]

/-- **decode ∘ encode = id** when decoding with the packed timestamp length, whatever follows -/
theorem C03_roundtrip (t : Tm) (wf : WF t) (rest : Bytes) :
    Tm.unpack (Spec.octets t ++ rest) t.sec.timestamp.length = .ok t := by
  obtain ⟨wh, ws, hd⟩ := wf
  obtain ⟨e1, e2, e3, e4, e5⟩ :=
    PusFrame.cut (hdr := C01.Spec.octets t.sph) (body := Spec.body t) rfl rfl (sec_length t.sec) rest
  have hn : totalLenFromLenField t.sph.dlen = t.sourceData.length + (7 + t.sec.timestamp.length + 8) := by
    rw [C01.C01_total_len, hd]; omega
  unfold Tm.unpack Spec.octets
  rw [e1, C01.C01_unpack_pack t.sph wh, bind_ok, ← e1]
  dsimp only
  rw [hn, e3, if_neg (by omega), if_neg (by omega), e2, sec_unpack_spec t.sec ws, bind_ok]
  unfold TmSec.headerSize
  rw [if_neg (by omega), e4, e5, if_neg fun h => h (Crc.crc16_residue _)]
  rfl

theorem C03_repack (t : Tm) (wf : WF t) (rest : Bytes) :
    (Tm.unpack (Spec.octets t ++ rest) t.sec.timestamp.length >>= Tm.pack) = .ok (Spec.octets t) := by
  rw [C03_roundtrip t wf rest, bind_ok]; exact C03_pack_exact t wf

/-- the generic space-packet view packs to the same octets -/
theorem C03_space_packet_view (t : Tm) (wf : WF t) (hs : t.sph.shf = 1) : t.spacePacketPack = t.pack := by
  rw [C03_pack_exact t wf]
  unfold Tm.spacePacketPack
  rw [C01.C01_pack_exact t.sph wf.1, sec_pack t.sec wf.2.1, bind_ok, bind_ok, C01.C01_sp_pack t.sph wf.1 _ _ hs]
  simp only [Spec.octets, Spec.body, List.append_assoc]

theorem beq_self (t : Tm) (wh : C01.WF t.sph) (ws : WFSec t.sec) : t.beq t = true := by
  unfold Tm.beq
  rw [C01.C01_pack_exact t.sph wh, sec_pack t.sec ws]
  simp only [pyEq, decide_true, Bool.and_self]

theorem C03_eq_refl (t : Tm) (wf : WF t) : t.beq t = true := beq_self t wf.1 wf.2.1

/-- **`==` is exactly equality of the compared fields**: for in-range telemetry `a == b` holds iff
    space packet header, secondary header (timestamp included) and source data are all equal, i.e.
    iff the two objects are equal field by field (so `==` distinguishes any two different packets) -/
theorem C03_eq_iff (a b : Tm) (ha : C01.WF a.sph) (hb : C01.WF b.sph) (sa : WFSec a.sec) (sb : WFSec b.sec) :
    a.beq b = true ↔ a = b := by
  refine ⟨fun h => ?_, fun h => h ▸ beq_self a ha sa⟩
  unfold Tm.beq at h
  rw [C01.C01_pack_exact a.sph ha, C01.C01_pack_exact b.sph hb, sec_pack a.sec sa, sec_pack b.sec sb] at h
  simp only [pyEq, Bool.and_eq_true, decide_eq_true_eq] at h
  have hl : a.sec.timestamp.length = b.sec.timestamp.length := by
    have := congrArg List.length h.1.2
    rw [sec_length, sec_length] at this; omega
  obtain ⟨x1, x2, x3⟩ := a
  obtain ⟨y1, y2, y3⟩ := b
  cases C01.C01_octets_injective _ _ ha hb h.1.1
  cases ok_unique (f := fun d => TmSec.unpack d x2.timestamp.length) (sec_unpack_spec _ sa [])
    (hl ▸ sec_unpack_spec _ sb []) (by rw [h.1.2])
  cases h.2
  rfl

/-- the service-17 wrapper builds service-17 telemetry and decodes/packs exactly like the generic class -/
theorem C03_srv17 (sub apid ssc ref dst ver : Nat) (ts src : Bytes)
    (ha : apid < 2048) (hc : ssc < 16384) (hb : sub < 256) (hl : ts.length + src.length ≤ 65527) :
    srv17New (apid : Int) (sub : Int) ts (ssc : Int) src ver ref dst =
      .ok ⟨⟨ver, 0, 1, apid, 3, ssc, 7 + ts.length + src.length + 1⟩, ⟨ref, 17, sub, 0, dst, ts⟩, src⟩ ∧
    ∀ d n, srv17Unpack d n = Tm.unpack d n := by
  refine ⟨?_, fun _ _ => rfl⟩
  have := C03_new 17 sub apid ssc 0 ref dst ver ts src ha hc (by omega) hb (by omega) hl
  simpa [srv17New] using this

/-- everything returned telemetry says about the buffer -/
theorem unpack_ok {d : Bytes} {n : Nat} {t : Tm} (h : Tm.unpack d n = .ok t) :
    Sph.unpack d = .ok t.sph ∧ ¬ totalLenFromLenField t.sph.dlen > d.length ∧
    ¬ totalLenFromLenField t.sph.dlen < 6 + 7 + n + 2 ∧ TmSec.unpack (d.drop 6) n = .ok t.sec ∧
    Crc.crc16 (d.take (totalLenFromLenField t.sph.dlen)) = 0 ∧
    t.sourceData = slice d (t.sec.headerSize + 6) (totalLenFromLenField t.sph.dlen - 2) := by
  unfold Tm.unpack at h
  obtain ⟨sph, h1, h⟩ := bind_ok_inv h
  dsimp only at h
  obtain ⟨g1, h⟩ := guard_ok_inv h
  obtain ⟨g2, h⟩ := guard_ok_inv h
  obtain ⟨sec, h2, h⟩ := bind_ok_inv h
  obtain ⟨_, h⟩ := guard_ok_inv h
  obtain ⟨g4, h⟩ := guard_ok_inv h
  cases h
  exact ⟨h1, g1, g2, h2, Decidable.of_not_not g4, rfl⟩

/-- what a successful decode guarantees, for ANY timestamp length handed to the decoder -/
theorem C03_accept_sound (d : Bytes) (n : Nat) (t : Tm) (h : Tm.unpack d n = .ok t) :
    13 + n + 2 ≤ t.packetLen ∧ t.packetLen ≤ d.length ∧ Crc.crc16 (d.take t.packetLen) = 0 ∧
    t.sec.timestamp.length = n ∧ t.sourceData = slice d (13 + n) (t.packetLen - 2) := by
  obtain ⟨_, g1, g2, h2, g4, h5⟩ := unpack_ok h
  rw [C01.C01_total_len] at g1 g2 g4 h5
  have hts : t.sec.timestamp.length = n := by
    rw [sec_unpack_timestamp h2, slice_length, List.length_drop]; omega
  unfold Tm.packetLen
  rw [C01.C01_len, h5, TmSec.headerSize, hts, show 7 + n + 6 = 13 + n by omega]
  exact ⟨by omega, by omega, g4, rfl, rfl⟩

/-- **a declared length too small for header, timestamp and CRC is rejected** (documented error),
    for every timestamp length handed to the decoder -/
theorem C03_reject_small_len (d : Bytes) (n : Nat) (sph : Sph) (h : Sph.unpack d = .ok sph)
    (hsmall : sph.packetLen < 13 + n + 2) : Tm.unpack d n = .error .value := by
  rw [C01.C01_len] at hsmall
  unfold Tm.unpack
  rw [h, bind_ok]
  dsimp only
  by_cases g1 : totalLenFromLenField sph.dlen > d.length
  · exact guard_pos g1
  · rw [if_neg g1]; exact guard_pos (by rw [C01.C01_total_len]; omega)

/-- any octet string, any timestamp length: only documented errors (C10) -/
theorem C03_documented (d : Bytes) (n : Nat) : Documented (Tm.unpack d n) := by
  unfold Tm.unpack
  refine .bind (C01.C01_unpack_documented d) fun _ _ => ?_
  dsimp only
  refine .guard rfl fun _ => .guard rfl fun _ => .bind (sec_unpack_documented _ _) fun _ _ => ?_
  exact .guard rfl fun _ => .guard rfl fun _ => .ok _

/-- `service_from_bytes`, completely: on every buffer of at least 8 octets it returns octet 7 (the
    service octet of the secondary header), below 8 octets it raises `ValueError`; no other outcome -/
theorem C03_service_from_bytes (d : Bytes) :
    (∀ h : 8 ≤ d.length, serviceFromBytes d = .ok (d[7]'(by omega)).toNat) ∧
    (d.length < 8 → serviceFromBytes d = .error .value) ∧ Documented (serviceFromBytes d) := by
  unfold serviceFromBytes
  by_cases h : d.length < 8
  · rw [guard_pos h]; exact ⟨fun h8 => absurd h (by omega), fun _ => rfl, .err rfl⟩
  · rw [if_neg h, idx_ok (show 7 < d.length by omega)]; exact ⟨fun _ => rfl, fun h' => absurd h' h, .ok _⟩

/-- on a packed telemetry packet (whatever follows it in the buffer) `service_from_bytes` returns the
    service the packet was built with -/
theorem C03_service_from_bytes_packed (t : Tm) (wf : WF t) (rest : Bytes) :
    serviceFromBytes (Spec.octets t ++ rest) = .ok t.sec.service := by
  obtain ⟨_, ⟨_, hs, _⟩, _⟩ := wf
  have h8 : 8 ≤ (Spec.octets t ++ rest).length := by
    simp [Spec.octets, Spec.body, Spec.sec, Spec.secFixed, C01.Spec.octets]
  rw [(C03_service_from_bytes _).1 h8]
  simp [Spec.octets, Spec.body, Spec.sec, Spec.secFixed, C01.Spec.octets, Nat.mod_eq_of_lt hs]

-- non-vacuity: a 3-octet timestamp, packet version 5
example : WF ⟨⟨5, 0, 1, 0x7FF, 3, 16383, 13⟩, ⟨9, 17, 2, 0xABCD, 0xBEEF, [1, 2, 3]⟩, [7, 8]⟩ := by decide

/-- **the encoding is injective for a fixed timestamp length**: two valid telemetry packets whose
    timestamps have the same length and whose octets are equal are the same packet (corollary of
    `C03_roundtrip`). The packet does not carry the timestamp length (the decoder is told it), so the
    hypothesis `hl` is needed: see the `example` below for two different valid packets with
    timestamps of different length and identical octets. -/
theorem C03_pack_injective (a b : Tm) (wa : WF a) (wb : WF b)
    (hl : a.sec.timestamp.length = b.sec.timestamp.length)
    (h : Spec.octets a = Spec.octets b) : a = b :=
  ok_unique (f := fun d => Tm.unpack d a.sec.timestamp.length) (C03_roundtrip a wa []) (hl ▸ C03_roundtrip b wb [])
    (by rw [h])

/-- the same for the library's `pack()` and as an iff: valid telemetry packets with timestamps of one
    length are equal exactly when they pack to the same octets -/
theorem C03_pack_eq_iff (a b : Tm) (wa : WF a) (wb : WF b)
    (hl : a.sec.timestamp.length = b.sec.timestamp.length) : a.pack = b.pack ↔ a = b := by
  rw [C03_pack_exact a wa, C03_pack_exact b wb]
  exact ⟨fun h => C03_pack_injective a b wa wb hl (Except.ok.inj h), fun h => by rw [h]⟩

-- non-vacuity of the injectivity hypotheses: two distinct valid packets with 3-octet timestamps
-- (they differ in the last timestamp octet only), whose encodings differ
example : WF ⟨⟨5, 0, 1, 0x7FF, 3, 16383, 13⟩, ⟨9, 17, 2, 0xABCD, 0xBEEF, [1, 2, 3]⟩, [7, 8]⟩ ∧
    WF ⟨⟨5, 0, 1, 0x7FF, 3, 16383, 13⟩, ⟨9, 17, 2, 0xABCD, 0xBEEF, [1, 2, 4]⟩, [7, 8]⟩ ∧
    Spec.octets ⟨⟨5, 0, 1, 0x7FF, 3, 16383, 13⟩, ⟨9, 17, 2, 0xABCD, 0xBEEF, [1, 2, 3]⟩, [7, 8]⟩ ≠
      Spec.octets ⟨⟨5, 0, 1, 0x7FF, 3, 16383, 13⟩, ⟨9, 17, 2, 0xABCD, 0xBEEF, [1, 2, 4]⟩, [7, 8]⟩ := by
  refine ⟨by decide, by decide, fun h => ?_⟩
  exact absurd (C03_pack_injective _ _ (by decide) (by decide) (by decide) h) (by decide)

-- the equal-length hypothesis cannot be dropped: these two valid packets differ (3-octet timestamp
-- and 2 source data octets versus 2-octet timestamp and 3 source data octets) and have the same octets
example : WF ⟨⟨5, 0, 1, 0x7FF, 3, 16383, 13⟩, ⟨9, 17, 2, 0xABCD, 0xBEEF, [1, 2, 3]⟩, [7, 8]⟩ ∧
    WF ⟨⟨5, 0, 1, 0x7FF, 3, 16383, 13⟩, ⟨9, 17, 2, 0xABCD, 0xBEEF, [1, 2]⟩, [3, 7, 8]⟩ ∧
    ⟨⟨5, 0, 1, 0x7FF, 3, 16383, 13⟩, ⟨9, 17, 2, 0xABCD, 0xBEEF, [1, 2, 3]⟩, [7, 8]⟩ ≠ (⟨⟨5, 0, 1, 0x7FF, 3, 16383, 13⟩, ⟨9, 17, 2, 0xABCD, 0xBEEF, [1, 2]⟩, [3, 7, 8]⟩ : Tm) ∧
    Spec.octets ⟨⟨5, 0, 1, 0x7FF, 3, 16383, 13⟩, ⟨9, 17, 2, 0xABCD, 0xBEEF, [1, 2, 3]⟩, [7, 8]⟩ =
      Spec.octets ⟨⟨5, 0, 1, 0x7FF, 3, 16383, 13⟩, ⟨9, 17, 2, 0xABCD, 0xBEEF, [1, 2]⟩, [3, 7, 8]⟩ := by
  refine ⟨by decide, by decide, by decide, ?_⟩
  unfold Spec.octets
  congr 1 <;> decide

end SpVerif.Props.C03
