import SpVerif.Model.SpacePacket
/-!
# C01 — Space Packet primary header is encoded exactly per CCSDS 133.0-B-2, bijectively

Property theorems only. `Spec.octets` is the layout of CCSDS 133.0-B-2 §4.1.3 as arithmetic:
octet 0 = version(3) | type(1) | sec-hdr flag(1) | APID[10:8], octet 1 = APID[7:0],
octet 2 = seq flags(2) | count[13:8], octet 3 = count[7:0], octets 4,5 = data length big-endian.
-/
namespace SpVerif.Props.C01
open SpVerif SpVerif.SpacePacket

/-- in-range header values: the domain the statement quantifies over -/
def WF (h : Sph) : Prop :=
  h.version < 8 ∧ h.ptype < 2 ∧ h.shf < 2 ∧ h.apid < 2048 ∧ h.flags < 4 ∧ h.count < 16384 ∧ h.dlen < 65536

instance (h : Sph) : Decidable (WF h) := by unfold WF; infer_instance

/-- what the standard prescribes -/
def Spec.octets (h : Sph) : Bytes :=
  [u8 (h.version * 32 + h.ptype * 16 + h.shf * 8 + h.apid / 256), u8 (h.apid % 256),
   u8 (h.flags * 64 + h.count / 256), u8 (h.count % 256),
   u8 (h.dlen / 256), u8 (h.dlen % 256)]

/-- the three 16-bit words `Sph.pack` writes -/
def word0 (h : Sph) : Nat := h.version * 8192 + pidRaw h.ptype h.shf h.apid
def word1 (h : Sph) : Nat := pscRaw h.flags h.count

/-- the header three 16-bit words spell: what `Sph.unpack` reads -/
def ofWords (w0 w1 w2 : Nat) : Sph :=
  ⟨w0 / 8192, w0 / 4096 % 2, w0 / 2048 % 2, w0 % 2048, w1 / 16384, w1 % 16384, w2⟩

theorem words_lt (h : Sph) (wf : WF h) : word0 h < 65536 ∧ word1 h < 65536 := by
  obtain ⟨hv, ht, hs, ha, hf, hc, hd⟩ := wf
  unfold word0 word1 pidRaw pscRaw; omega

theorem ofWords_words (h : Sph) (wf : WF h) : ofWords (word0 h) (word1 h) h.dlen = h := by
  obtain ⟨hv, ht, hs, ha, hf, hc, hd⟩ := wf
  obtain ⟨v, t, s, a, f, c, dl⟩ := h
  simp only [ofWords, word0, word1, pidRaw, pscRaw, Sph.mk.injEq] at *
  refine ⟨?_, ?_, ?_, ?_, ?_, ?_, trivial⟩ <;> omega

theorem words_ofWords (w0 w1 w2 : Nat) : word0 (ofWords w0 w1 w2) = w0 ∧ word1 (ofWords w0 w1 w2) = w1 := by
  simp only [word0, word1, ofWords, pidRaw, pscRaw]; omega

theorem wf_ofWords (w0 w1 w2 : Nat) (h0 : w0 < 65536) (h1 : w1 < 65536) (h2 : w2 < 65536) : WF (ofWords w0 w1 w2) := by
  simp only [WF, ofWords]; omega

-- octets of a word: the high octet `x`, the low octet `y`
private theorem word_octets (x y : Nat) (_ : x < 256) (_ : y < 256) :
    (x * 256 + y) / 8192 = x / 32 ∧ (x * 256 + y) / 4096 % 2 = x / 16 % 2 ∧ (x * 256 + y) / 2048 % 2 = x / 8 % 2 ∧
    (x * 256 + y) % 2048 = x % 8 * 256 + y ∧ (x * 256 + y) / 16384 = x / 64 ∧
    (x * 256 + y) % 16384 = x % 64 * 256 + y := by omega

/-- in-range constructor arguments are accepted and stored unchanged -/
theorem C01_accept (v t s f a c d : Nat) (ha : a < 2048) (hc : c < 16384) (hd : d < 65536) :
    Sph.new v t s (a : Int) f (c : Int) (d : Int) = .ok ⟨v, t, s, a, f, c, d⟩ := by
  rw [Sph.new_nat, if_neg (by omega)]

/-- **pack writes the three words big-endian** -/
theorem pack_words (h : Sph) (wf : WF h) :
    h.pack = .ok (beBytes 2 (word0 h) ++ beBytes 2 (word1 h) ++ beBytes 2 h.dlen) := by
  obtain ⟨h0, h1⟩ := words_lt h wf
  unfold word0 word1 at *
  unfold Sph.pack
  rw [packBE_ok (show _ < 256 ^ 2 from h0), packBE_ok (show _ < 256 ^ 2 from h1), packBE_ok (show _ < 256 ^ 2 from wf.2.2.2.2.2.2)]
  rfl

/-- **pack = standard layout**, for every in-range header (all 2^48). -/
theorem C01_pack_exact (h : Sph) (wf : WF h) : h.pack = .ok (Spec.octets h) := by
  have e : word0 h / 256 % 256 = h.version * 32 + h.ptype * 16 + h.shf * 8 + h.apid / 256 ∧ word0 h % 256 = h.apid % 256 ∧
      word1 h / 256 % 256 = h.flags * 64 + h.count / 256 ∧ word1 h % 256 = h.count % 256 ∧ h.dlen / 256 % 256 = h.dlen / 256 := by
    obtain ⟨hv, ht, hs, ha, hf, hc, hd⟩ := wf
    unfold word0 word1 pidRaw pscRaw; omega
  rw [pack_words h wf, beBytes_2, beBytes_2, beBytes_2, e.1, e.2.1, e.2.2.1, e.2.2.2.1, e.2.2.2.2]
  rfl

theorem C01_pack_len (h : Sph) (wf : WF h) : ∃ b, h.pack = .ok b ∧ b.length = 6 :=
  ⟨_, C01_pack_exact h wf, rfl⟩

theorem octets_words (h : Sph) (wf : WF h) :
    Spec.octets h = beBytes 2 (word0 h) ++ beBytes 2 (word1 h) ++ beBytes 2 h.dlen :=
  Except.ok.inj ((C01_pack_exact h wf).symm.trans (pack_words h wf))

/-- **the decoder reads three big-endian words** -/
theorem unpack_words (x0 x1 x2 x3 x4 x5 : UInt8) (r : Bytes) :
    Sph.unpack (x0 :: x1 :: x2 :: x3 :: x4 :: x5 :: r) =
      .ok (ofWords (beNat [x0, x1]) (beNat [x2, x3]) (beNat [x4, x5])) := by
  have b0 := toNat_lt x0
  obtain ⟨a0, a1, a2, a3, -, -⟩ := word_octets _ _ b0 (toNat_lt x1)
  unfold Sph.unpack
  rw [if_neg (c := (x0 :: x1 :: x2 :: x3 :: x4 :: x5 :: r).length < 6) (Nat.not_lt.mpr (Nat.le_add_left 6 _))]
  show Sph.new (x0.toNat / 32 % 8) (x0.toNat / 16 % 2) (x0.toNat / 8 % 2) ((x0.toNat % 8 * 256 + x1.toNat : Nat) : Int)
    (beNat [x2, x3] / 16384) ((beNat [x2, x3] % 16384 : Nat) : Int) ((beNat [x4, x5] : Nat) : Int) = _
  rw [C01_accept _ _ _ _ _ _ _ (by omega) (Nat.mod_lt _ (by decide)) (beNat_two_lt x4 x5), ofWords, beNat_two x0 x1,
    a0, a1, a2, a3, Nat.mod_eq_of_lt (show x0.toNat / 32 < 8 by omega)]

/-- equational characterisation of the decoder -/
theorem unpack_eq (d : Bytes) (h6 : 6 ≤ d.length) :
    Sph.unpack d = .ok ⟨d[0].toNat / 32, d[0].toNat / 16 % 2, d[0].toNat / 8 % 2,
      d[0].toNat % 8 * 256 + d[1].toNat, d[2].toNat / 64, d[2].toNat % 64 * 256 + d[3].toNat,
      d[4].toNat * 256 + d[5].toNat⟩ := by
  match d, h6 with
  | x0 :: x1 :: x2 :: x3 :: x4 :: x5 :: r, _ =>
    obtain ⟨a0, a1, a2, a3, -, -⟩ := word_octets _ _ (toNat_lt x0) (toNat_lt x1)
    obtain ⟨-, -, -, -, a4, a5⟩ := word_octets _ _ (toNat_lt x2) (toNat_lt x3)
    rw [unpack_words, ofWords, beNat_two, beNat_two, beNat_two, a0, a1, a2, a3, a4, a5]
    rfl

theorem unpack_beBytes (w0 w1 w2 : Nat) (h0 : w0 < 65536) (h1 : w1 < 65536) (h2 : w2 < 65536) (rest : Bytes) :
    Sph.unpack (beBytes 2 w0 ++ beBytes 2 w1 ++ beBytes 2 w2 ++ rest) = .ok (ofWords w0 w1 w2) := by
  rw [beBytes_2, beBytes_2, beBytes_2]
  refine (unpack_words _ _ _ _ _ _ rest).trans ?_
  rw [← beBytes_2, ← beBytes_2, ← beBytes_2, beNat_beBytes 2 _ h0, beNat_beBytes 2 _ h1, beNat_beBytes 2 _ h2]

/-- **decode ∘ encode = id**, with any octets following the header (also C09 for this unit). -/
theorem C01_unpack_pack (h : Sph) (wf : WF h) (rest : Bytes) :
    Sph.unpack (Spec.octets h ++ rest) = .ok h := by
  obtain ⟨h0, h1⟩ := words_lt h wf
  rw [octets_words h wf, unpack_beBytes _ _ _ h0 h1 wf.2.2.2.2.2.2, ofWords_words h wf]

/-- **encode ∘ decode = b[:6]**: the decoder is total on ≥ 6 octets, its result is in range and
    re-encodes to the first six octets. Together with `C01_unpack_pack`: a bijection between
    in-range headers and 6-octet strings. -/
theorem C01_pack_unpack (b : Bytes) (h6 : 6 ≤ b.length) :
    ∃ h, Sph.unpack b = .ok h ∧ WF h ∧ h.pack = .ok (b.take 6) := by
  match b, h6 with
  | x0 :: x1 :: x2 :: x3 :: x4 :: x5 :: r, _ =>
    have wf := wf_ofWords _ _ _ (beNat_two_lt x0 x1) (beNat_two_lt x2 x3) (beNat_two_lt x4 x5)
    refine ⟨_, unpack_words x0 x1 x2 x3 x4 x5 r, wf, ?_⟩
    rw [pack_words _ wf, (words_ofWords _ _ _).1, (words_ofWords _ _ _).2]
    simp only [ofWords, beBytes_beNat_two]
    rfl

/-- fewer than six octets are refused with the documented too-short error (a ValueError) -/
theorem C01_short (b : Bytes) (h : b.length < 6) : Sph.unpack b = .error .value := by
  unfold Sph.unpack; exact guard_pos h

/-- the decoder never fails on ≥ 6 octets and only with ValueError otherwise (C10 for this unit) -/
theorem C01_unpack_documented (b : Bytes) : Documented (Sph.unpack b) := by
  by_cases h : b.length < 6
  · rw [C01_short b h]; exact Documented.err rfl
  · rw [unpack_eq b (by omega)]; exact Documented.ok _

/-- reported total packet length = data-length field + 7 -/
theorem C01_len (h : Sph) : h.packetLen = h.dlen + 7 := by
  unfold Sph.packetLen; omega

theorem C01_total_len (n : Nat) : totalLenFromLenField n = n + 7 := by
  unfold totalLenFromLenField; omega

/-- the first packed 16-bit word is `version * 2^13 + PacketId.raw`, the second is `Psc.raw` -/
theorem C01_words (h : Sph) (wf : WF h) :
    beNat ((Spec.octets h).take 2) = h.version * 8192 + (PacketId.raw ⟨h.ptype, h.shf, h.apid⟩) ∧
    beNat (((Spec.octets h).drop 2).take 2) = Psc.raw ⟨h.flags, h.count⟩ := by
  obtain ⟨h0, h1⟩ := words_lt h wf
  rw [octets_words h wf, List.append_assoc, List.take_left' (beBytes_length 2 _), List.drop_left' (beBytes_length 2 _),
    List.take_left' (beBytes_length 2 _), beNat_beBytes 2 _ h0, beNat_beBytes 2 _ h1]
  exact ⟨rfl, rfl⟩

/-- packet-identification word: `from_raw (raw x) = x` on in-range values, `raw (from_raw w) = w mod 2^13` -/
theorem C01_pid_roundtrip (p : PacketId) (ht : p.ptype < 2) (hs : p.shf < 2) (ha : p.apid < 2048) :
    PacketId.fromRaw p.raw = p := by
  cases p with
  | mk t s a =>
    simp only at ht hs ha
    simp only [PacketId.fromRaw, PacketId.raw, pidRaw, PacketId.mk.injEq]
    refine ⟨?_, ?_, ?_⟩ <;> omega

theorem C01_pid_raw_fromRaw (w : Nat) : (PacketId.fromRaw w).raw = w % 8192 := by
  simp only [PacketId.fromRaw, PacketId.raw, pidRaw]; omega

/-- sequence-control word -/
theorem C01_psc_roundtrip (p : Psc) (hf : p.flags < 4) (hc : p.count < 16384) :
    Psc.fromRaw p.raw = .ok p := by
  cases p with
  | mk f c =>
    simp only at hf hc
    have e1 : (f * 16384 + c) / 16384 % 4 = f := by omega
    have e2 : (f * 16384 + c) / 65536 * 65536 + (f * 16384 + c) % 16384 = c := by omega
    have g : ¬ 16383 < c := by omega
    simp only [Psc.fromRaw, Psc.raw, pscRaw, Psc.new_nat, e1, e2, g, ↓reduceIte]

theorem C01_psc_raw_fromRaw (w : Nat) (hw : w < 65536) :
    ∃ p, Psc.fromRaw w = .ok p ∧ p.raw = w := by
  refine ⟨⟨w / 16384 % 4, w % 16384⟩, ?_, ?_⟩
  · rw [Psc.fromRaw, show w / 65536 * 65536 + w % 16384 = w % 16384 by omega, Psc.new_nat,
      if_neg (show ¬ 16383 < w % 16384 by omega)]
  · simp only [Psc.raw, pscRaw]; omega

/-- out-of-range APID, sequence count or data length are refused with ValueError, never encoded -/
theorem C01_refuse (v t s f : Nat) (apid count dlen : Int)
    (h : apid < 0 ∨ 2047 < apid ∨ count < 0 ∨ 16383 < count ∨ dlen < 0 ∨ 65535 < dlen) :
    Sph.new v t s apid f count dlen = .error .value := by
  unfold Sph.new
  split
  · rfl
  · split
    · rfl
    · split
      · rfl
      · omega

theorem C01_refuse_pid (t s : Nat) (apid : Int) (h : apid < 0 ∨ 2047 < apid) :
    PacketId.new t s apid = .error .value := by
  unfold PacketId.new; split
  · rfl
  · omega

theorem C01_refuse_psc (f : Nat) (count : Int) (h : count < 0 ∨ 16383 < count) :
    Psc.new f count = .error .value := by
  unfold Psc.new; split
  · rfl
  · omega

/-- generic space packet: header ‖ secondary header ‖ user data -/
theorem C01_sp_pack (h : Sph) (wf : WF h) (sec user : Bytes) (hs : h.shf = 1) :
    spPack h (some sec) (some user) = .ok (Spec.octets h ++ sec ++ user) := by
  unfold spPack; rw [C01_pack_exact h wf, hs]; rfl

/-- generic space packet, the other branches of `SpacePacket.pack()`: without the secondary header
    flag the secondary header argument is ignored and the packet is header ‖ user data; with the
    flag and no user data it is header ‖ secondary header; a missing mandatory part is `ValueError` -/
theorem C01_sp_pack_branches (h : Sph) (wf : WF h) :
    (h.shf = 0 → ∀ (sec : Option Bytes) (user : Bytes),
      spPack h sec (some user) = .ok (Spec.octets h ++ user)) ∧
    (h.shf = 1 → ∀ sec : Bytes, spPack h (some sec) none = .ok (Spec.octets h ++ sec)) ∧
    (h.shf = 1 → ∀ user : Option Bytes, spPack h none user = .error .value) ∧
    (h.shf = 0 → ∀ sec : Option Bytes, spPack h sec none = .error .value) := by
  refine ⟨fun hs sec user => ?_, fun hs sec => ?_, fun hs user => ?_, fun hs sec => ?_⟩ <;>
    (unfold spPack; rw [C01_pack_exact h wf, hs]; rfl)

/-- `get_space_packet_id_bytes(packet_type, sec_header_flag, apid, version)` returns octets 0 and 1
    of the standard layout, for every in-range header -/
theorem C01_id_bytes (h : Sph) (wf : WF h) :
    ((Spec.octets h).take 2).map (·.toNat) =
      [(idBytes h.version h.ptype h.shf h.apid).1, (idBytes h.version h.ptype h.shf h.apid).2] := by
  obtain ⟨hv, ht, hs, ha, _, _, _⟩ := wf
  simp only [idBytes, Spec.octets, List.take_succ_cons, List.take_zero, List.map_cons, List.map_nil, u8_toNat]
  rw [Nat.mod_eq_of_lt (show _ < 256 by omega), Nat.mod_eq_of_lt hv, Nat.mod_eq_of_lt ht, Nat.mod_eq_of_lt hs,
    Nat.mod_eq_of_lt (show h.apid / 256 < 8 by omega), Nat.mod_mod]

/-- out-of-range arguments are masked, never widened: both results are octets -/
theorem C01_id_bytes_range (v t s a : Nat) : (idBytes v t s a).1 < 256 ∧ (idBytes v t s a).2 < 256 := by
  simp only [idBytes]; omega

/-- `get_apid_from_raw_space_packet`, completely: on every buffer of at least 6 octets it returns the
    11 bits `(raw[0] & 7) << 8 | raw[1]`, below 6 octets it raises `ValueError` -/
theorem C01_apid_from_raw (d : Bytes) :
    (∀ h : 6 ≤ d.length, apidFromRaw d = .ok ((d[0]'(by omega)).toNat % 8 * 256 + (d[1]'(by omega)).toNat)) ∧
    (d.length < 6 → apidFromRaw d = .error .value) := by
  unfold apidFromRaw
  refine ⟨fun h => ?_, fun h => ?_⟩
  · have hl : ¬ d.length < 6 := by omega
    simp [hl, bind, Except.bind, pure, Except.pure, idx_ok (show 0 < d.length by omega),
      idx_ok (show 1 < d.length by omega)]
  · simp [h, throw, throwThe, MonadExceptOf.throw, bind, Except.bind]

/-- it agrees with the header decoder on every buffer the decoder accepts … -/
theorem C01_apid_from_raw_unpack (d : Bytes) (h : Sph) (hu : Sph.unpack d = .ok h) :
    apidFromRaw d = .ok h.apid := by
  by_cases h6 : 6 ≤ d.length
  · rw [unpack_eq d h6] at hu
    rw [(C01_apid_from_raw d).1 h6, ← Except.ok.inj hu]
  · rw [C01_short d (by omega)] at hu; cases hu

/-- … hence returns the APID of every packed header, whatever follows it -/
theorem C01_apid_from_raw_packed (h : Sph) (wf : WF h) (rest : Bytes) :
    apidFromRaw (Spec.octets h ++ rest) = .ok h.apid :=
  C01_apid_from_raw_unpack _ h (C01_unpack_pack h wf rest)

-- non-vacuity: a concrete non-trivial header meets the hypotheses
example : WF ⟨5, 1, 1, 0x7AB, 2, 0x2BCD, 0xFEDC⟩ := by decide
example : Spec.octets ⟨5, 1, 1, 0x7AB, 2, 0x2BCD, 0xFEDC⟩ = [0xBF, 0xAB, 0xAB, 0xCD, 0xFE, 0xDC] := by decide

/-- the encoding is injective on the domain: two in-range headers with the same six octets are the
    same header (consequence of `C01_unpack_pack`) -/
theorem C01_octets_injective (h k : Sph) (wh : WF h) (wk : WF k)
    (he : Spec.octets h = Spec.octets k) : h = k :=
  ok_unique (f := Sph.unpack) (C01_unpack_pack h wh []) (C01_unpack_pack k wk []) (by rw [he])

/-- the same for `pack()` itself, as an iff: in-range headers are equal iff they pack to the same octets -/
theorem C01_pack_injective (h k : Sph) (wh : WF h) (wk : WF k) : h.pack = k.pack ↔ h = k := by
  refine ⟨fun he => ?_, fun he => by rw [he]⟩
  rw [C01_pack_exact h wh, C01_pack_exact k wk] at he
  exact C01_octets_injective h k wh wk (Except.ok.inj he)

/-- packet-identification word: in-range `PacketId`s are equal iff their 13-bit raw values are equal -/
theorem C01_pid_raw_injective (p q : PacketId) (hp : p.ptype < 2 ∧ p.shf < 2 ∧ p.apid < 2048)
    (hq : q.ptype < 2 ∧ q.shf < 2 ∧ q.apid < 2048) : p.raw = q.raw ↔ p = q := by
  refine ⟨fun he => ?_, fun he => by rw [he]⟩
  rw [← C01_pid_roundtrip p hp.1 hp.2.1 hp.2.2, he, C01_pid_roundtrip q hq.1 hq.2.1 hq.2.2]

/-- sequence-control word: in-range `PacketSeqCtrl`s are equal iff their 16-bit raw values are equal -/
theorem C01_psc_raw_injective (p q : Psc) (hp : p.flags < 4 ∧ p.count < 16384)
    (hq : q.flags < 4 ∧ q.count < 16384) : p.raw = q.raw ↔ p = q := by
  exact ⟨ok_unique (C01_psc_roundtrip p hp.1 hp.2) (C01_psc_roundtrip q hq.1 hq.2), fun he => by rw [he]⟩

-- non-vacuity of the injectivity statements: two distinct in-range values, distinct encodings
example : WF ⟨0, 0, 0, 1, 3, 0, 0⟩ ∧ WF ⟨0, 0, 0, 2, 3, 0, 0⟩ ∧
    Spec.octets ⟨0, 0, 0, 1, 3, 0, 0⟩ ≠ Spec.octets ⟨0, 0, 0, 2, 3, 0, 0⟩ := by decide
example : PacketId.raw ⟨1, 0, 5⟩ ≠ PacketId.raw ⟨0, 1, 5⟩ := by decide
example : Psc.raw ⟨3, 7⟩ ≠ Psc.raw ⟨2, 7⟩ := by decide

end SpVerif.Props.C01
