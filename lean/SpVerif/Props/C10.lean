import SpVerif.Proofs.Robust
import SpVerif.Props.C09
import SpVerif.Proofs.ErrSets
import SpVerif.Proofs.PusCrcAccept
import SpVerif.Props.C02
import SpVerif.Props.C03
import SpVerif.Props.C05
import SpVerif.Props.C08
import SpVerif.Props.C13
import SpVerif.Props.C14
import SpVerif.Props.C15
import SpVerif.Props.C16
import SpVerif.Props.C17
import SpVerif.Props.C20
import SpVerif.Props.C06Fixed
import SpVerif.Props.C06Var
import SpVerif.Props.C07
import SpVerif.Props.C12
import SpVerif.Props.C18
/-!
# C10 — decoding arbitrary or truncated input fails only in documented ways

The theorems are stated over the decoder models of the owning properties (the definitions the driver
executes and the correspondence checks of C01–C20 tie to /repo). For every public decoder `D`:

* `C10_<D> : Documented (D d cfg)` — on ANY octet string and ANY configuration the decoder returns a
  value or fails with a documented class (`Err.documented`); never `IndexError`, `struct.error`,
  `TypeError`, `AttributeError`, `KeyError`, `AssertionError`. The models can express all of those
  (`idx`, `unpackBE`, `Header.opCtrlFlag` …): the theorems say the guards exclude them.
* `C10_<D>_prefix : Rejected (D ((pack x).take k) cfg)` for valid `x` and `k < |pack x|` — every
  strict prefix of a valid *self-delimiting* unit fails with a documented class. Units that delimit
  themselves only together with a parameter are stated with the matching one (TM / service 17 /
  service 1: timestamp length; `PacketFieldEnum`: `pfc`; byte field generator: width; USLP frames:
  managed parameters). Entry points whose unit is not self-delimiting have the clause for what they do
  delimit (`header_len_from_raw`: four octets; `service_from_bytes`: eight; `UnsignedByteField.from_bytes`:
  the admissible lengths; the USLP data field, whose length is an argument: its header).
* never loops: every model function is a total Lean function (structural recursion, or well-founded
  recursion on the remaining length for `Parser.scanPy` / `scan`); no fuel is used, `Documented`
  excludes `Err.fuel`, and `C13_total` (`scanPy = ok ∘ scan`) shows the stream parser returns.
-/
namespace SpVerif.Props.C10
open SpVerif SpVerif.Robust

section SpacePacket
open SpVerif.SpacePacket SpVerif.Parser

theorem C10_sph (d : Bytes) : Documented (Sph.unpack d) := C01.C01_unpack_documented d

theorem C10_sph_prefix (h : Sph) (_wf : C01.WF h) (k : Nat) (hk : k < (C01.Spec.octets h).length) :
    Rejected (Sph.unpack ((C01.Spec.octets h).take k)) :=
  .of_err (C01.C01_short _ (take_length_lt rfl hk)) rfl

theorem C10_apid (d : Bytes) : Documented (apidFromRaw d) := by
  by_cases h : d.length < 6
  · rw [(C01.C01_apid_from_raw d).2 h]; exact Documented.err rfl
  · rw [(C01.C01_apid_from_raw d).1 (by omega)]; exact Documented.ok _

theorem C10_apid_prefix (h : Sph) (_wf : C01.WF h) (k : Nat) (hk : k < (C01.Spec.octets h).length) :
    Rejected (apidFromRaw ((C01.Spec.octets h).take k)) :=
  .of_err ((C01.C01_apid_from_raw _).2 (take_length_lt rfl hk)) rfl

/-- `parse_space_packets` never raises and always returns (`C13_total*`): the Python-faithful scan
    with its `struct.unpack` calls equals the total pure scan, for every deque and ID list -/
theorem C10_parser (ids : List Nat) (q : List Bytes) :
    parseCall ids q = .ok (call ids q) ∧ Documented (parseCall ids q) := by
  have := C13.C13_total_call ids q
  exact ⟨this, by rw [this]; exact Documented.ok _⟩

theorem C10_parser_scan (ids : List Nat) (buf : Bytes) : scanPy ids buf = .ok (scan ids buf) :=
  C13.C13_total ids buf

/-- whole schedules of appends and parser calls never raise either -/
theorem C10_parser_run (ids : List Nat) (q : List Bytes) (s : List Step) :
    Documented (runPy ids q s) := by
  rw [C13.C13_total_run ids q s]; exact Documented.ok _

/-- a strict prefix of a complete registered packet is never returned as a packet: the scan
    returns nothing and keeps the prefix whole for the next call -/
theorem C10_parser_prefix (ids : List Nat) (p : Bytes) (wf : C13.WFPacket ids p) (k : Nat) (hk : k < p.length) :
    scan ids (p.take k) = ([], p.take k) := by
  apply C13.C13_incomplete
  apply C13.C13_prefix_incomplete ids (p.take k) (p.drop k)
  · intro h
    have := congrArg List.length h
    simp only [List.length_drop, List.length_nil] at this
    omega
  · rw [List.take_append_drop]; exact wf

end SpacePacket

section Pus
open SpVerif.SpacePacket SpVerif.PusTc SpVerif.PusTm

theorem C10_tc (d : Bytes) : Documented (Tc.unpack d) := C02.C02_documented d

/-- the secondary-header decoders are public classes of their own (`PusTcDataFieldHeader.unpack`,
    `PusTmSecondaryHeader.unpack`) -/
theorem C10_tc_sec (d : Bytes) : Documented (TcSec.unpack d) := C02.sec_unpack_documented d

theorem C10_tm_sec (d : Bytes) (tsLen : Nat) : Documented (TmSec.unpack d tsLen) := C03.sec_unpack_documented d tsLen

theorem C10_tc_sec_prefix (d : Bytes) (h : d.length < 5) : Rejected (TcSec.unpack d) :=
  .of_err (by unfold TcSec.unpack; exact guard_pos h) rfl

/-- fewer than seven octets (fixed part of the TM secondary header) are rejected; the timestamp
    behind them is a clamped slice (`data[7 : 7 + timestamp_len]`), so the header with its
    timestamp is not self-delimiting on its own — inside `PusTm.unpack` the packet length guards it -/
theorem C10_tm_sec_prefix (d : Bytes) (tsLen : Nat) (h : d.length < 7) : Rejected (TmSec.unpack d tsLen) :=
  .of_err (by unfold TmSec.unpack; exact guard_pos h) rfl

theorem C10_tc_prefix (t : Tc) (wf : C02.WF t) (k : Nat) (hk : k < (C02.Spec.octets t).length) :
    Rejected (Tc.unpack ((C02.Spec.octets t).take k)) := by
  have hp := C09.C09_pack_tc t wf []
  exact Prefix.tc_local.prefix_rejected C10_tc hp.2.1 hp.2.2.symm hk

theorem C10_tm (d : Bytes) (tsLen : Nat) : Documented (Tm.unpack d tsLen) := C03.C03_documented d tsLen

/-- a strict prefix of a TM packet is rejected whatever timestamp length the caller configures: the
    packet is delimited by its space packet header -/
theorem C10_tm_prefix_any_ts (t : Tm) (wf : C03.WF t) (n k : Nat) (hk : k < (C03.Spec.octets t).length) :
    Rejected (Tm.unpack ((C03.Spec.octets t).take k) n) :=
  prefix_rejected (fun d => Tm.unpack d n) Sph.unpack Sph.packetLen (fun d => C10_tm d n)
    (fun d a ha => ⟨a.sph, PusCrc.tm_unpack_sph ha, (C03.C03_accept_sound d n a ha).2.1⟩)
    (fun d r b h => Prefix.sph_local.extends d b r h)
    (C03.Spec.octets t) t.sph
    (PusCrc.tm_unpack_sph (Prefix.suffix_irrelevant (dec := fun d => Tm.unpack d _) (C03.C03_roundtrip t wf) []).2)
    (C03.C03_len t wf).1.symm k hk

theorem C10_tm_prefix (t : Tm) (wf : C03.WF t) (k : Nat) (hk : k < (C03.Spec.octets t).length) :
    Rejected (Tm.unpack ((C03.Spec.octets t).take k) t.sec.timestamp.length) :=
  C10_tm_prefix_any_ts t wf _ k hk

theorem C10_srv17 (d : Bytes) (tsLen : Nat) : Documented (srv17Unpack d tsLen) := C03.C03_documented d tsLen

theorem C10_srv17_prefix (t : Tm) (wf : C03.WF t) (n k : Nat) (hk : k < (C03.Spec.octets t).length) :
    Rejected (srv17Unpack ((C03.Spec.octets t).take k) n) := C10_tm_prefix_any_ts t wf n k hk

theorem C10_tm_service (d : Bytes) : Documented (serviceFromBytes d) := (C03.C03_service_from_bytes d).2.2

theorem C10_tm_service_prefix (d : Bytes) (h : d.length < 8) : Rejected (serviceFromBytes d) :=
  .of_err (by unfold serviceFromBytes; exact guard_pos h) rfl

end Pus

section Srv1
open SpVerif.SpacePacket SpVerif.PusTm SpVerif.Srv1 SpVerif.Verificator

theorem C10_reqid (d : Bytes) : Documented (ReqId.unpack d) := C15.C15_reqid_documented d

theorem C10_reqid_prefix (r : ReqId) (_wf : C15.WFReq r) (k : Nat) (hk : k < (C15.Spec.reqOctets r).length) :
    Rejected (ReqId.unpack ((C15.Spec.reqOctets r).take k)) :=
  .of_err (ReqId.unpack_short _ (take_length_lt (C15.reqOctets_length r) hk)) rfl

theorem C10_pfe (d : Bytes) (pfc : Nat) : Documented (Pfe.unpack d pfc) := Pfe.unpack_documented d pfc

/-- a field of width `w` is self-delimiting together with its `pfc = 8 w` -/
theorem C10_pfe_prefix (f : Pfe) (_wf : C15.WFField f) (k : Nat)
    (hk : k < (C15.Spec.fieldOctets f).length) :
    Rejected (Pfe.unpack ((C15.Spec.fieldOctets f).take k) f.pfc) := by
  rw [C15.fieldOctets_length] at hk
  refine .of_err (C15.C15_field_short _ f.pfc ?_).1 rfl
  simp only [List.length_take, C15.fieldOctets_length]
  unfold C15.fieldWidth at hk
  omega

theorem C10_srv1 (d : Bytes) (tsLen sb eb : Nat) : Documented (S1Tm.unpack d tsLen sb eb) :=
  C15.C15_unpack_documented d tsLen sb eb

/-- `Service1Tm.from_tm` on ANY telemetry object (decoded or constructed) -/
theorem C10_srv1_from_tm (tm : Tm) (sb eb : Nat) : Documented (S1Tm.fromTm tm sb eb) :=
  unpackRaw_documented tm sb eb

/-- strict prefixes of a packed report are rejected, whatever widths / timestamp length are configured -/
theorem C10_srv1_prefix (apid sub count ver ref dst : Nat) (ts : Bytes) (p : VParams)
    (ha : apid < 2048) (hc : count < 16384) (hsub : sub < 256) (hv : ver < 8) (hr : ref < 16)
    (hd : dst < 65536) (hl : ts.length + (C15.Spec.sourceData p).length ≤ 65527)
    (n sb eb k : Nat) (hk : k < (C15.Spec.reportOctets apid sub count ver ref dst ts p).length) :
    Rejected (S1Tm.unpack ((C15.Spec.reportOctets apid sub count ver ref dst ts p).take k) n sb eb) :=
  (C10_tm_prefix_any_ts _ (C15.reportTm_wf apid sub count ver ref dst ts p ha hc hsub hv hr hd hl) n k hk).bind _

/-- **tracker** (`PusVerificator.add_tm`): a report that the service-1 decoder returned — for any
    octets and configuration — is inside the tracker's domain, so feeding it to the tracker never
    raises (no `AttributeError` from a step report without step id, no `ValueError` from a
    subservice outside 1..8), whatever the tracker's state -/
theorem C10_verificator (d : Bytes) (n sb eb : Nat) (s : S1Tm) (h : S1Tm.unpack d n sb eb = .ok s)
    (t : Tracker) (e : Err) :
    (step t (.addTm s.tcReqId.asU32 s.tm.sec.subservice (s.stepId.map Pfe.val))).2 ≠ .raised e := by
  intro hr
  obtain ⟨_, ⟨h1, h8⟩, ⟨_, (hs : s.stepId.isSome = true ↔ _)⟩, _⟩ := C15.C15_unpack_sound d n sb eb s h
  have hv : (s.stepId.map Pfe.val).isSome = (decide (s.tm.sec.subservice = 5) || decide (s.tm.sec.subservice = 6)) := by
    rw [Option.isSome_map, Bool.eq_iff_iff]; simpa using hs
  have hwf := (C16.C16_errors t _ e hr).1
  rw [Op.WF, hv, decide_eq_true h1, decide_eq_true h8, Bool.not_or_self] at hwf
  cases hwf

theorem C10_verificator_other (t : Tracker) (o : Op) (e : Err) (h : (step t o).2 = .raised e) :
    o.WF = false ∧ (e = .value ∨ e = .attr) := C16.C16_errors t o e h

end Srv1

section Cds
open SpVerif.Cds

theorem C10_cds (d : Bytes) : Documented (unpackFromRaw d) := C14.C14_unpack_documented d

theorem C10_cds_prefix (s : Stamp) (_wf : C14.WF s) (k : Nat) (hk : k < (C14.Spec.octets s).length) :
    Rejected (unpackFromRaw ((C14.Spec.octets s).take k)) :=
  .of_err (C14.C14_refuse_short _ (take_length_lt rfl hk)) rfl

end Cds

section Cfdp
open SpVerif.CfdpHeader SpVerif.CfdpFront

theorem C10_pdu_header (d : Bytes) : Documented (PduHeader.unpack d) := C05.C05_unpack_documented d

theorem C10_pdu_header_prefix (h : PduHeader) (wf : C05.WF h) (k : Nat) (hk : k < (C05.Spec.octets h).length) :
    Rejected (PduHeader.unpack ((C05.Spec.octets h).take k)) :=
  .of_err (C05.C05_truncated h wf k (by rw [(C05.C05_len h wf).2.1]; exact hk)) rfl

theorem C10_header_len_from_raw (d : Bytes) : Documented (headerLenFromRaw d) := headerLenFromRaw_documented d

theorem C10_header_len_from_raw_prefix (d : Bytes) (h : d.length < 4) : Rejected (headerLenFromRaw d) :=
  .of_err (headerLenFromRaw_short d h) rfl

/-- `verify_length_and_checksum` for ANY header object against ANY buffer -/
theorem C10_verify (h : PduHeader) (d : Bytes) : Documented (h.verifyLengthAndChecksum d) := verify_documented h d

theorem C10_verify_prefix (h : PduHeader) (d : Bytes) (hl : d.length < h.packetLen) :
    Rejected (h.verifyLengthAndChecksum d) := by
  refine .of_err (e := .value) ?_ rfl
  rw [verify_eq, if_pos hl]

/-- header decode + length/CRC verification: what `FileDataPdu.unpack` starts with -/
theorem C10_pdu_front (d : Bytes) : Documented (pduFront d) := by
  unfold pduFront
  exact .bind (C10_pdu_header d) fun h _ => .bind (C10_verify h d) fun _ _ => .ok _

/-- `FileDirectivePduBase.unpack` (header, room for the directive code) + verification: what the
    seven file-directive decoders start with -/
theorem C10_directive_front (d : Bytes) : Documented (directiveFront d) := by
  unfold directiveFront
  refine .bind (C10_pdu_header d) fun h _ => .guard rfl fun g => ?_
  rw [idx_ok (show h.headerLen < d.length by omega), bind_ok]
  exact .bind (C10_verify h d) fun _ _ => .ok _

private theorem front_hacc (d : Bytes) (a : PduHeader) (ha : pduFront d = .ok a) :
    ∃ b, PduHeader.unpack d = .ok b ∧ b.packetLen ≤ d.length := by
  obtain ⟨hu, n, hv⟩ := (CfdpCrc.pduFront_ok_iff d a).1 ha
  exact ⟨a, hu, ((verify_ok_iff a d n).1 hv).2.1⟩

private theorem pdu_len (h : PduHeader) (wf : C05.WF h) (tail : Bytes) (hl : tail.length = h.dataFieldLen) :
    h.packetLen = (C05.Spec.octets h ++ tail).length := by
  simp only [PduHeader.packetLen, List.length_append, (C05.C05_len h wf).2.1, hl]; omega

/-- **a PDU is self-delimiting through its header**: header octets followed by exactly the declared
    data-field length (body, and CRC when flagged — whatever their content): every strict prefix is
    rejected by the front of every PDU decoder -/
theorem C10_pdu_front_prefix (h : PduHeader) (wf : C05.WF h) (tail : Bytes) (hl : tail.length = h.dataFieldLen)
    (k : Nat) (hk : k < (C05.Spec.octets h ++ tail).length) :
    Rejected (pduFront ((C05.Spec.octets h ++ tail).take k)) :=
  prefix_rejected pduFront PduHeader.unpack PduHeader.packetLen C10_pdu_front front_hacc
    pdu_header_unpack_append _ h (C05.C05_roundtrip h wf tail) (pdu_len h wf tail hl) k hk

theorem C10_directive_front_prefix (h : PduHeader) (wf : C05.WF h) (tail : Bytes) (hl : tail.length = h.dataFieldLen)
    (k : Nat) (hk : k < (C05.Spec.octets h ++ tail).length) :
    Rejected (directiveFront ((C05.Spec.octets h ++ tail).take k)) := by
  refine prefix_rejected directiveFront PduHeader.unpack PduHeader.packetLen C10_directive_front ?_
    pdu_header_unpack_append _ h (C05.C05_roundtrip h wf tail) (pdu_len h wf tail hl) k hk
  intro d a ha
  obtain ⟨h', c⟩ := a
  exact front_hacc d h' (CfdpCrc.directiveFront_ok ha).1

end Cfdp

section Tlv
open SpVerif.Lv SpVerif.Tlv

theorem C10_lv (d : Bytes) : Documented (CfdpLv.unpack d) := CfdpLv.unpack_documented d

theorem C10_lv_prefix (v : Bytes) (wf : C08.WFValue v) (k : Nat) (hk : k < (C08.Spec.lv v).length) :
    Rejected (CfdpLv.unpack ((C08.Spec.lv v).take k)) := by
  have hp := C09.C09_pack_lv v wf []
  exact Prefix.lv_local.prefix_rejected C10_lv (p := C08.Spec.lv v) (r := ⟨v⟩) hp.2.1 hp.2.2.symm hk

theorem C10_tlv (d : Bytes) : Documented (CfdpTlv.unpack d) := CfdpTlv.unpack_documented d

theorem C10_tlv_prefix (t : Nat) (v : Bytes) (ht : C08.WFType t) (hv : C08.WFValue v) (k : Nat)
    (hk : k < (C08.Spec.tlv t v).length) : Rejected (CfdpTlv.unpack ((C08.Spec.tlv t v).take k)) := by
  have hp := C09.C09_pack_tlv t v ht hv []
  exact Prefix.tlv_local.prefix_rejected C10_tlv (p := C08.Spec.tlv t v) (r := ⟨t, v⟩) hp.2.1 hp.2.2.symm hk

/-- every decoder of the shape "generic TLV, then a conversion `f`" rejects every strict prefix of
    a packed TLV — whatever `f` is (`from_tlv` of a concrete class, a `TlvHolder.to_*` conversion) -/
theorem C10_tlv_then_prefix {α : Type} (f : CfdpTlv → Py α) (_hf : ∀ t, Documented (f t))
    (t : Nat) (v : Bytes) (ht : C08.WFType t) (hv : C08.WFValue v) (k : Nat) (hk : k < (C08.Spec.tlv t v).length) :
    Rejected (CfdpTlv.unpack ((C08.Spec.tlv t v).take k) >>= f) :=
  (C10_tlv_prefix t v ht hv k hk).bind f

-- `from_tlv` of each concrete class, on ANY generic TLV object
theorem C10_entity_id_from_tlv (t : CfdpTlv) : Documented (EntityIdTlv.fromTlv t) := EntityIdTlv.fromTlv_documented t
theorem C10_flow_label_from_tlv (t : CfdpTlv) : Documented (FlowLabelTlv.fromTlv t) := FlowLabelTlv.fromTlv_documented t
theorem C10_msg_to_user_from_tlv (t : CfdpTlv) : Documented (MessageToUserTlv.fromTlv t) :=
  MessageToUserTlv.fromTlv_documented t
theorem C10_fault_handler_from_tlv (t : CfdpTlv) : Documented (FaultHandlerOverrideTlv.fromTlv t) :=
  FaultHandlerOverrideTlv.fromTlv_documented t
theorem C10_fs_request_from_tlv (t : CfdpTlv) : Documented (FileStoreRequestTlv.fromTlv t) :=
  FileStoreRequestTlv.fromTlv_documented t
theorem C10_fs_response_from_tlv (t : CfdpTlv) : Documented (FileStoreResponseTlv.fromTlv t) :=
  FileStoreResponseTlv.fromTlv_documented t

-- `unpack` of each concrete class, on ANY octet string
theorem C10_entity_id (d : Bytes) : Documented (EntityIdTlv.unpack d) := EntityIdTlv.unpack_documented d
theorem C10_flow_label (d : Bytes) : Documented (FlowLabelTlv.unpack d) := FlowLabelTlv.unpack_documented d
theorem C10_msg_to_user (d : Bytes) : Documented (MessageToUserTlv.unpack d) := MessageToUserTlv.unpack_documented d
theorem C10_fault_handler (d : Bytes) : Documented (FaultHandlerOverrideTlv.unpack d) :=
  FaultHandlerOverrideTlv.unpack_documented d
theorem C10_fs_request (d : Bytes) : Documented (FileStoreRequestTlv.unpack d) := FileStoreRequestTlv.unpack_documented d
theorem C10_fs_response (d : Bytes) : Documented (FileStoreResponseTlv.unpack d) :=
  FileStoreResponseTlv.unpack_documented d

/-- `TlvHolder(CfdpTlv.unpack(raw)).to_*()`: a holder built from a decoded generic TLV converts or
    fails with a documented class (`TlvTypeMissmatch` / `ValueError`), for every generic TLV -/
theorem C10_holder (t : CfdpTlv) :
    Documented (holderToEntityId (.generic t)) ∧ Documented (holderToFlowLabel (.generic t)) ∧
    Documented (holderToMsgToUser (.generic t)) ∧ Documented (holderToFaultHandler (.generic t)) ∧
    Documented (holderToFsRequest (.generic t)) ∧ Documented (holderToFsResponse (.generic t)) :=
  ⟨C10_entity_id_from_tlv t, C10_flow_label_from_tlv t, C10_msg_to_user_from_tlv t,
   C10_fault_handler_from_tlv t, C10_fs_request_from_tlv t, C10_fs_response_from_tlv t⟩

theorem C10_entity_id_prefix (v : Bytes) (wf : C08.WFValue v) (k : Nat) (hk : k < (C08.Spec.entityId v).length) :
    Rejected (EntityIdTlv.unpack ((C08.Spec.entityId v).take k)) := by
  rw [EntityIdTlv.unpack_bind]
  exact C10_tlv_then_prefix _ C10_entity_id_from_tlv 6 v (by decide) wf k hk

theorem C10_flow_label_prefix (v : Bytes) (wf : C08.WFValue v) (k : Nat) (hk : k < (C08.Spec.flowLabel v).length) :
    Rejected (FlowLabelTlv.unpack ((C08.Spec.flowLabel v).take k)) := by
  rw [FlowLabelTlv.unpack_bind]
  exact C10_tlv_then_prefix _ C10_flow_label_from_tlv 5 v (by decide) wf k hk

theorem C10_msg_to_user_prefix (v : Bytes) (wf : C08.WFValue v) (k : Nat) (hk : k < (C08.Spec.msgToUser v).length) :
    Rejected (MessageToUserTlv.unpack ((C08.Spec.msgToUser v).take k)) := by
  rw [MessageToUserTlv.unpack_bind]
  exact C10_tlv_then_prefix _ C10_msg_to_user_from_tlv 2 v (by decide) wf k hk

theorem C10_fault_handler_prefix (cc hc : Nat) (_hcc : cc < 16) (_hhc : hc < 16) (k : Nat)
    (hk : k < (C08.Spec.faultHandler cc hc).length) :
    Rejected (FaultHandlerOverrideTlv.unpack ((C08.Spec.faultHandler cc hc).take k)) := by
  rw [FaultHandlerOverrideTlv.unpack_bind]
  exact C10_tlv_then_prefix _ C10_fault_handler_from_tlv 4 _ (by decide) (by simp [C08.WFValue]) k hk

theorem C10_fs_request_prefix (r : FileStoreRequestTlv) (wf : C08.WFReq r) (k : Nat)
    (hk : k < (C08.Spec.fsRequest r).length) :
    Rejected (FileStoreRequestTlv.unpack ((C08.Spec.fsRequest r).take k)) := by
  rw [FileStoreRequestTlv.unpack_bind]
  exact C10_tlv_then_prefix _ C10_fs_request_from_tlv 0 _ (by decide) wf.2.2.2.2 k hk

theorem C10_fs_response_prefix (r : FileStoreResponseTlv) (wf : C08.WFResp r) (k : Nat)
    (hk : k < (C08.Spec.fsResponse r).length) :
    Rejected (FileStoreResponseTlv.unpack ((C08.Spec.fsResponse r).take k)) := by
  rw [FileStoreResponseTlv.unpack_bind]
  exact C10_tlv_then_prefix _ C10_fs_response_from_tlv 1 _ (by decide) wf.2.2.2.2.2.2.2 k hk

theorem C10_holder_prefix {α : Type} (conv : AnyTlv → Py α) (hc : ∀ t, Documented (conv (.generic t)))
    (t : Nat) (v : Bytes) (ht : C08.WFType t) (hv : C08.WFValue v) (k : Nat) (hk : k < (C08.Spec.tlv t v).length) :
    Rejected (CfdpTlv.unpack ((C08.Spec.tlv t v).take k) >>= fun x => conv (.generic x)) :=
  C10_tlv_then_prefix _ hc t v ht hv k hk

end Tlv

section ByteField
open SpVerif.ByteField

theorem C10_bf_from_bytes (d : Bytes) : Documented (fromBytes d) := fromBytes_documented d

/-- `from_bytes` takes the whole string as the field (its length IS the width), so a field is not
    self-delimiting; what holds: every length other than 1, 2, 4, 8 is rejected -/
theorem C10_bf_from_bytes_prefix (d : Bytes) (k : Nat) (hk : k < d.length) (hw : ¬ W k) :
    Rejected (fromBytes (d.take k)) := by
  refine .of_err (e := .value) ?_ rfl
  rw [fromBytes_eq, if_neg]
  simp only [List.length_take]
  rwa [Nat.min_eq_left (by omega)]

theorem C10_bf_gen (n : Int) (d : Bytes) : Documented (genFromBytes n d) := genFromBytes_documented n d

/-- `from_u8_bytes` … `from_u64_bytes` are the generator at widths 1, 2, 4, 8 -/
theorem C10_bf_from_un (d : Bytes) :
    Documented (fromU8Bytes d) ∧ Documented (fromU16Bytes d) ∧ Documented (fromU32Bytes d) ∧
    Documented (fromU64Bytes d) :=
  ⟨C10_bf_gen 1 d, C10_bf_gen 2 d, C10_bf_gen 4 d, C10_bf_gen 8 d⟩

/-- with its width, a field is self-delimiting: fewer octets than the width are rejected
    (so is every width other than 1, 2, 4, 8) -/
theorem C10_bf_gen_prefix (n : Int) (d : Bytes) (h : (d.length : Int) < n) : Rejected (genFromBytes n d) := by
  refine .of_err (e := .value) ?_ rfl
  rw [genFromBytes_eq, if_neg]
  intro ⟨_, h'⟩
  exact h' h

end ByteField

section Uslp
open SpVerif.Uslp

-- the exact classes come from the `*_err` lemmas of `Proofs/Uslp.lean`; all seven `Uslp*` classes are
-- the category `uslp`
theorem C10_errors_uslp_hdr (d : Bytes) (ver : Nat) : ErrIn [.uslp] (PrimaryHeader.unpack d ver).toPy :=
  errIn_toPy fun e he => by rcases PrimaryHeader.unpack_err d ver e he with rfl | rfl | rfl <;> simp [UErr.toErr]
theorem C10_errors_uslp_thdr (d : Bytes) (ver : Nat) : ErrIn [.uslp] (TruncatedHeader.unpack d ver).toPy :=
  errIn_toPy fun e he => by rcases TruncatedHeader.unpack_err d ver e he with rfl | rfl | rfl <;> simp [UErr.toErr]

theorem C10_uslp_hdr (d : Bytes) (ver : Nat) : Documented (PrimaryHeader.unpack d ver).toPy :=
  (C10_errors_uslp_hdr d ver).documented (by decide)

theorem C10_uslp_thdr (d : Bytes) (ver : Nat) : Documented (TruncatedHeader.unpack d ver).toPy :=
  (C10_errors_uslp_thdr d ver).documented (by decide)

theorem C10_uslp_hdr_prefix (h : PrimaryHeader) (wf : C17.WFHdr h) (k : Nat) (hk : k < (C17.Spec.hdrOctets h).length) :
    Rejected (PrimaryHeader.unpack ((C17.Spec.hdrOctets h).take k)).toPy := by
  have hp := C09.C09_pack_uslp_primary h wf []
  exact (Prefix.uslpPrimary_local _).prefix_rejected (fun d => C10_uslp_hdr d _) (Prefix.toPy_ok_iff.2 hp.2.1)
    hp.2.2.symm hk

theorem C10_uslp_thdr_prefix (h : TruncatedHeader) (wf : C17.WFTHdr h) (k : Nat)
    (hk : k < (C17.Spec.thdrOctets h).length) :
    Rejected (TruncatedHeader.unpack ((C17.Spec.thdrOctets h).take k)).toPy := by
  rw [TruncatedHeader.unpack_short _ _ (take_length_lt (C17.C17_thdr_exact h wf).2.1 hk)]
  exact ⟨_, rfl, rfl⟩

theorem C10_errors_uslp_hdr_type (d : Bytes) : ErrIn [.value] (headerIsTruncated d).toPy := by
  by_cases h : d.length < 4
  · rw [headerIsTruncated_short d h]; exact ErrIn.err (by simp [UErr.toErr])
  · rw [headerIsTruncated_eq d (by omega)]; exact ErrIn.ok _

theorem C10_uslp_hdr_type (d : Bytes) : Documented (headerIsTruncated d).toPy :=
  (C10_errors_uslp_hdr_type d).documented (by decide)

theorem C10_uslp_hdr_type_prefix (d : Bytes) (h : d.length < 4) : Rejected (headerIsTruncated d).toPy := by
  rw [headerIsTruncated_short d h]; exact ⟨_, rfl, rfl⟩

theorem C10_errors_tfdf (d : Bytes) (tr : Bool) (n : Nat) (ft : Option FrameType) :
    ErrIn [.uslp] (Tfdf.unpack d tr n ft).toPy :=
  errIn_toPy fun e he => by rcases Tfdf.unpack_err d tr n ft e he with rfl | rfl <;> simp [UErr.toErr]

theorem C10_tfdf (d : Bytes) (tr : Bool) (n : Nat) (ft : Option FrameType) :
    Documented (Tfdf.unpack d tr n ft).toPy :=
  (C10_errors_tfdf d tr n ft).documented (by decide)

/-- the data field is NOT self-delimiting (its length `exact_len` is an argument and the data zone
    is a clamped slice); what is delimited is its header (1 octet, or 3 with the pointer): a prefix
    that cuts the header is rejected -/
theorem C10_tfdf_prefix_header (t : Tfdf) (tr : Bool) (ft : FrameType) (wf : C17.WFTfdf t tr ft) (n k : Nat)
    (hk : k < t.headerLen) :
    Rejected (Tfdf.unpack ((C17.Spec.tfdfOctets t).take k) tr n (some ft)).toPy := by
  obtain ⟨r, u, fhp, z⟩ := t
  obtain ⟨hr, hu, hv, hp⟩ := wf
  cases k with
  | zero => exact ⟨_, rfl, rfl⟩
  | succ k =>
    cases fhp with
    | none => have hk : k + 1 < 1 := hk; omega
    | some p =>
      have hk : k + 1 < 3 := hk
      have e0 : (u8 (r * 32 + u)).toNat / 32 % 8 = r := by simp at hr hu ⊢; omega
      show Rejected (Tfdf.unpack (u8 (r * 32 + u) :: ([u8 (p / 256), u8 (p % 256)] ++ z).take k) tr n (some ft)).toPy
      rw [Tfdf.unpack_fhp_short _ (Nat.le_add_left 1 _) tr n (.inl (by rw [List.length_cons, List.length_take]; omega))
        (some ft) (by rw [List.getElem_cons_zero, e0]; exact hv) (by rw [List.getElem_cons_zero, e0]; exact hp.1)]
      exact ⟨_, rfl, rfl⟩

theorem C10_frame (d : Bytes) (ft : FrameType) (p : FrameProps) : Documented (Frame.unpack d ft p).toPy :=
  Frame.unpack_documented d ft p

/-- a regular and a truncated header cannot both decode from the same octets (octet 3, bit 0) -/
private theorem not_both_headers (d : Bytes) (h : PrimaryHeader) (t : TruncatedHeader)
    (hp : PrimaryHeader.unpack d = .ok h) (ht : TruncatedHeader.unpack d = .ok t) : False := by
  obtain ⟨h7, c1, c2, -⟩ := PrimaryHeader.unpack_ok hp
  rw [TruncatedHeader.unpack_eq d _ (by omega), if_neg (not_not_intro c1), if_pos c2] at ht
  cases ht

/-- **frames are self-delimiting together with matching managed parameters**: every strict prefix
    of a packed frame (regular header with the frame-length field set, or truncated header with the
    managed truncated length) is rejected by `TransferFrame.unpack` called with the frame's type
    and matching parameters -/
theorem C10_frame_prefix (f : Frame) (ft : FrameType) (p : FrameProps) (wf : C17.WFFrame f ft)
    (hl : C17.LenSet f) (hm : C17.Matching f ft p) (k : Nat) (hk : k < (C17.Spec.frameOctets f).length) :
    Rejected (Frame.unpack ((C17.Spec.frameOctets f).take k) ft p).toPy := by
  apply Rejected.of_documented (C10_frame _ _ _)
  intro g hg
  have spre := C17.C17_unpack_sound _ ft p g (Prefix.toPy_ok_iff.1 hg)
  have sfull := C17.C17_unpack_sound _ ft p _ (C17.C17_frame_roundtrip f ft p wf hl hm [])
  rw [List.append_nil] at sfull
  have hlen : (C17.Spec.frameOctets f).length = f.len := (C17.C17_frame_order f ft none wf (.inl rfl)).2
  have hklen : ((C17.Spec.frameOctets f).take k).length = k := by rw [List.length_take]; omega
  have hsplit := List.take_append_drop k (C17.Spec.frameOctets f)
  -- a header decoded from the prefix is decoded from the whole frame too
  have hP (h') (hu : PrimaryHeader.unpack ((C17.Spec.frameOctets f).take k) = .ok h') :=
    hsplit ▸ PrimaryHeader.unpack_append _ ((C17.Spec.frameOctets f).drop k) _ h' hu
  have hT (t') (hu : TruncatedHeader.unpack ((C17.Spec.frameOctets f).take k) = .ok t') :=
    hsplit ▸ TruncatedHeader.unpack_append _ ((C17.Spec.frameOctets f).drop k) _ t' hu
  cases hfh : f.header with
  | primary h =>
    rw [show (C17.normFrame f).header = .primary (C17.normHdr h) by simp [C17.normFrame, C17.normHeader, hfh]] at sfull
    cases hgh : g.header with
    | primary h' =>
      rw [hgh] at spre
      cases sfull.1.symm.trans (hP h' spre.1)
      have hfl : h.frameLen + 1 = f.len := by unfold C17.LenSet at hl; rw [hfh] at hl; exact hl
      have e2 : (C17.normHdr h).frameLen = h.frameLen := by unfold C17.normHdr; split <;> rfl
      have hle := spre.2.1
      rw [e2, hklen] at hle
      omega
    | truncated t' =>
      rw [hgh] at spre
      exact not_both_headers _ _ t' sfull.1 (hT t' spre.1)
  | truncated t =>
    rw [show (C17.normFrame f).header = .truncated t by simp [C17.normFrame, C17.normHeader, hfh]] at sfull
    cases hgh : g.header with
    | primary h' =>
      rw [hgh] at spre
      exact not_both_headers _ h' t (hP h' spre.1) sfull.1
    | truncated t' =>
      rw [hgh] at spre
      have hp := (hm.2.2.2 (by rw [hfh]; rfl)).2
      have hle := spre.2.2.2.1
      rw [hklen] at hle
      omega

end Uslp

section CfdpPdus
open SpVerif.CfdpHeader SpVerif.FileDirective SpVerif.Factory

/-- `AbstractFileDirectiveBase` / `FileDirectivePduBase.unpack` -/
theorem C10_directive_base (d : Bytes) : Documented (FileDirective.unpack d) := C06Fixed.C06_directive_documented d

/-- a buffer that ends before the directive code (in particular every strict prefix of header ‖ code) is rejected -/
theorem C10_directive_base_prefix (fd : FileDirective) (wf : C05.WF fd.header) (k : Nat)
    (hk : k ≤ (C05.Spec.octets fd.header).length) (tail : Bytes) :
    Rejected (FileDirective.unpack ((C05.Spec.octets fd.header ++ tail).take k)) := by
  apply Rejected.of_documented (C10_directive_base _)
  intro a ha
  obtain ⟨h, hu, _⟩ := bind_ok_inv ha
  have hfull := pdu_header_unpack_append _ ((C05.Spec.octets fd.header ++ tail).drop k) h hu
  rw [List.take_append_drop, C05.C05_roundtrip fd.header wf tail] at hfull
  cases hfull
  rw [C06Fixed.C06_directive_short _ _ hu (by rw [(C05.C05_len fd.header wf).2.1, List.length_take]; omega)] at ha
  cases ha

theorem C10_ack (d : Bytes) : Documented (Ack.Ack.unpack d) := C06Fixed.C06_ack_documented d
theorem C10_prompt (d : Bytes) : Documented (Prompt.Prompt.unpack d) := C06Fixed.C06_prompt_documented d
theorem C10_keep_alive (d : Bytes) : Documented (KeepAlive.KeepAlive.unpack d) := C06Fixed.C06_keepalive_documented d
theorem C10_nak (d : Bytes) : Documented (Nak.Nak.unpack d) := C06Fixed.C06_nak_documented d
theorem C10_eof (d : Bytes) : Documented (Eof.Eof.unpack d) := C06Var.C06_eof_documented d
theorem C10_finished (d : Bytes) : Documented (Finished.Finished.unpack d) := C06Var.C06_finished_documented d
theorem C10_metadata (d : Bytes) : Documented (Metadata.Metadata.unpack d) := C06Var.C06_metadata_documented d
theorem C10_file_data (d : Bytes) : Documented (FileData.Pdu.unpack d) := C07.C07_documented d

theorem C10_ack_prefix (x : Ack.Ack) (wf : C06Fixed.WFAck x) (k : Nat) (hk : k < (C06Fixed.Spec.ack x).length) :
    Rejected (Ack.Ack.unpack ((C06Fixed.Spec.ack x).take k)) :=
  .of_err (C06Fixed.C06_ack_truncated x wf k hk) rfl

theorem C10_prompt_prefix (x : Prompt.Prompt) (wf : C06Fixed.WFPrompt x) (k : Nat)
    (hk : k < (C06Fixed.Spec.prompt x).length) :
    Rejected (Prompt.Prompt.unpack ((C06Fixed.Spec.prompt x).take k)) :=
  .of_err (C06Fixed.C06_prompt_truncated x wf k hk) rfl

theorem C10_keep_alive_prefix (x : KeepAlive.KeepAlive) (wf : C06Fixed.WFKeepAlive x) (k : Nat)
    (hk : k < (C06Fixed.Spec.keepAlive x).length) :
    Rejected (KeepAlive.KeepAlive.unpack ((C06Fixed.Spec.keepAlive x).take k)) :=
  .of_err (C06Fixed.C06_keepalive_truncated x wf k hk) rfl

theorem C10_nak_prefix (x : Nak.Nak) (wf : C06Fixed.WFNak x) (k : Nat) (hk : k < (C06Fixed.Spec.nak x).length) :
    Rejected (Nak.Nak.unpack ((C06Fixed.Spec.nak x).take k)) :=
  .of_err (C06Fixed.C06_nak_truncated x wf k hk) rfl

theorem C10_eof_prefix (x : Eof.Eof) (wf : C06Var.WFEof x) (k : Nat) (hk : k < (C06Var.Spec.eof x).length) :
    Rejected (Eof.Eof.unpack ((C06Var.Spec.eof x).take k)) :=
  .of_err (C06Var.C06_eof_truncated x wf k hk) rfl

theorem C10_finished_prefix (x : Finished.Finished) (wf : C06Var.WFFin x) (k : Nat)
    (hk : k < (C06Var.Spec.finished x).length) :
    Rejected (Finished.Finished.unpack ((C06Var.Spec.finished x).take k)) :=
  .of_err (C06Var.C06_finished_truncated x wf k hk) rfl

theorem C10_metadata_prefix (x : Metadata.Metadata) (wf : C06Var.WFMd x) (k : Nat)
    (hk : k < (C06Var.Spec.metadata x).length) :
    Rejected (Metadata.Metadata.unpack ((C06Var.Spec.metadata x).take k)) :=
  .of_err (C06Var.C06_metadata_truncated x wf k hk) rfl

theorem C10_file_data_prefix (x : FileData.Pdu) (wf : C07.WF x) (k : Nat) (hk : k < (C07.Spec.octets x).length) :
    Rejected (FileData.Pdu.unpack ((C07.Spec.octets x).take k)) :=
  .of_err (C07.C07_truncated x wf k (by rw [← (C07.C07_len x wf).1]; exact hk)) rfl

/-- the three raw-buffer inspectors, `PduFactory.from_raw` and `from_raw_to_holder` -/
theorem C10_pdu_type (d : Bytes) : Documented (pduType d) := (C12.C12_documented d).1
theorem C10_is_file_directive (d : Bytes) : Documented (isFileDirective d) := (C12.C12_documented d).2.1
theorem C10_pdu_directive_type (d : Bytes) : Documented (pduDirectiveType d) := (C12.C12_documented d).2.2.1
theorem C10_factory (d : Bytes) : Documented (fromRaw d) := (C12.C12_documented d).2.2.2
theorem C10_factory_holder (d : Bytes) : Documented (fromRawToHolder d) := (C12.C12_documented d).2.2.2

/-- every strict prefix of a packed PDU of any of the eight kinds is rejected by the factory -/
theorem C10_factory_prefix (p : AnyPdu) (wf : C12.WFPdu p) (k : Nat) (hk : k < (C12.Spec.octets p).length) :
    Rejected (fromRaw ((C12.Spec.octets p).take k)) ∧ Rejected (fromRawToHolder ((C12.Spec.octets p).take k)) :=
  ⟨.of_err (C12.C12_truncated p wf k hk) rfl, .of_err (C12.C12_truncated p wf k hk) rfl⟩

/-- the inspectors need one octet (`pdu_type`, `is_file_directive`) resp. the octet behind the header -/
theorem C10_pdu_type_prefix : Rejected (pduType []) ∧ Rejected (isFileDirective []) ∧ Rejected (pduDirectiveType []) := by
  refine ⟨⟨.value, rfl, rfl⟩, ⟨.value, rfl, rfl⟩, ⟨.value, rfl, rfl⟩⟩

end CfdpPdus

section Reserved
open SpVerif.Tlv SpVerif.MsgToUser

/-- **reserved CFDP messages**: `MessageToUserTlv.unpack(raw).to_reserved_msg_tlv()` and, on whatever
    it returns, all eight getters and the classification fail only with documented errors, for ANY
    octet string (fields cut short, wrong widths, LV lengths beyond the value) -/
theorem C10_reserved (d : Bytes) :
    Documented (MessageToUserTlv.unpack d >>= toReservedMsgTlv) ∧
    ∀ m r, MessageToUserTlv.unpack d = .ok m → toReservedMsgTlv m = .ok (some r) →
      Documented r.getProxyPutRequestParams ∧ Documented r.getProxyPutResponseParams ∧
      Documented r.getProxyClosureRequested ∧ Documented r.getProxyTransmissionMode ∧
      Documented r.getOriginatingTransactionId ∧ Documented r.getDirListingRequestParams ∧
      Documented r.getDirListingResponseParams ∧ Documented r.getDirListingOptions ∧
      (∃ k, C18.classify r = .ok k) :=
  ⟨Documented.bind (C10_msg_to_user d) fun m _ => (C18.C18_documented m).1,
   fun m r _ hr => (C18.C18_documented m).2 r hr⟩

/-- the conversion on ANY message-to-user object (decoded or constructed) -/
theorem C10_reserved_conversion (m : MessageToUserTlv) : Documented (toReservedMsgTlv m) :=
  (C18.C18_documented m).1

/-- strict prefixes of a packed message-to-user TLV never reach the conversion -/
theorem C10_reserved_prefix (v : Bytes) (wf : C08.WFValue v) (k : Nat) (hk : k < (C08.Spec.msgToUser v).length) :
    Rejected (MessageToUserTlv.unpack ((C08.Spec.msgToUser v).take k) >>= toReservedMsgTlv) :=
  (C10_msg_to_user_prefix v wf k hk).bind _

end Reserved

/-! ## the exact error set of every decoder (`C10_errors_<D>`)

`Err.documented` accepts eight categories: the five of C10's statement — ValueError family, CRC errors,
`UnsupportedCfdpVersion`, `TlvTypeMissmatch`, the `Uslp*` classes (`Listed`) — and three more
(`OverflowError`, `FileNotFoundError`, `InvalidVerifParams`) that belong to C14 / C19 / C15 and that
no decoder can raise. `ErrIn S x`: `x` fails, if at all, with a member of `S`. The set of classes that
occur in the definition of a decoder and of everything it calls is read off structurally
(`Proofs/ErrSets.lean`, `*_raises`; no guard reasoning, so it still contains `index` / `struct`); the
owner's `Documented` theorem strikes the undocumented ones (`ErrIn.restrict`). File Data and USLP have
exact error lemmas of their owners. -/
section ErrorSets
open SpVerif.SpacePacket SpVerif.Parser SpVerif.PusTc SpVerif.PusTm SpVerif.Srv1 SpVerif.Cds SpVerif.CfdpHeader
  SpVerif.CfdpFront SpVerif.Lv SpVerif.Tlv SpVerif.ByteField SpVerif.Uslp SpVerif.FileDirective SpVerif.Factory
  SpVerif.MsgToUser

/-- the error classes C10's statement lists: ValueError and its subclasses, the CRC errors, the
    unsupported-version, TLV-type-mismatch and USLP errors -/
def Listed : List Err := [.value, .crc, .cfdpVersion, .tlvType, .uslp]

/-- every listed class is a documented one; the three documented classes that are NOT in the
    statement's list are exactly `overflow`, `fileNotFound`, `verifParams` -/
theorem C10_listed (e : Err) :
    (e ∈ Listed → e.documented = true) ∧
    (e.documented = true → e ∉ Listed → e = .overflow ∨ e = .fileNotFound ∨ e = .verifParams) := by
  cases e <;> decide

/-- a decoder whose error set is inside the list fails only with documented classes — and with none
    of `OverflowError`, `FileNotFoundError`, `InvalidVerifParams` -/
theorem C10_errors_sound {α : Type} {S : List Err} {x : Py α} (h : ErrIn S x) (hs : ∀ e, e ∈ S → e ∈ Listed) :
    Documented x ∧ ∀ e, x = .error e → e ≠ .overflow ∧ e ≠ .fileNotFound ∧ e ≠ .verifParams := by
  have key : ∀ e, e ∈ Listed → e.documented = true ∧ e ≠ .overflow ∧ e ≠ .fileNotFound ∧ e ≠ .verifParams := by
    decide
  exact ⟨fun e he => (key e (hs e (h e he))).1, fun e he => (key e (hs e (h e he))).2⟩

theorem C10_errors_sph (d : Bytes) : ErrIn [.value] (Sph.unpack d) :=
  (Sph.unpack_raises d).restrict (C10_sph d)
theorem C10_errors_apid (d : Bytes) : ErrIn [.value] (apidFromRaw d) :=
  (apidFromRaw_raises d).restrict (C10_apid d)
/-- the stream parser never fails at all -/
theorem C10_errors_parser (ids : List Nat) (q : List Bytes) : ErrIn [] (parseCall ids q) := by
  rw [(C10_parser ids q).1]; exact ErrIn.ok _
theorem C10_errors_tc (d : Bytes) : ErrIn [.value, .crc] (Tc.unpack d) :=
  (Tc.unpack_raises d).restrict (C10_tc d)
theorem C10_errors_tc_sec (d : Bytes) : ErrIn [.value] (TcSec.unpack d) :=
  (TcSec.unpack_raises d).restrict (C10_tc_sec d)
theorem C10_errors_tm_sec (d : Bytes) (n : Nat) : ErrIn [.value] (TmSec.unpack d n) :=
  (TmSec.unpack_raises d n).restrict (C10_tm_sec d n)
theorem C10_errors_tm (d : Bytes) (n : Nat) : ErrIn [.value, .crc] (Tm.unpack d n) :=
  (Tm.unpack_raises d n).restrict (C10_tm d n)
theorem C10_errors_srv17 (d : Bytes) (n : Nat) : ErrIn [.value, .crc] (srv17Unpack d n) := C10_errors_tm d n
theorem C10_errors_tm_service (d : Bytes) : ErrIn [.value] (serviceFromBytes d) :=
  (serviceFromBytes_raises d).restrict (C10_tm_service d)
theorem C10_errors_reqid (d : Bytes) : ErrIn [.value] (ReqId.unpack d) :=
  (ReqId.unpack_raises d).restrict (C10_reqid d)
theorem C10_errors_pfe (d : Bytes) (pfc : Nat) : ErrIn [.value] (Pfe.unpack d pfc) :=
  (Pfe.unpack_raises d pfc).restrict (C10_pfe d pfc)
theorem C10_errors_srv1 (d : Bytes) (n sb eb : Nat) : ErrIn [.value, .crc] (S1Tm.unpack d n sb eb) :=
  (S1Tm.unpack_raises d n sb eb).restrict (C10_srv1 d n sb eb)
theorem C10_errors_srv1_from_tm (tm : Tm) (sb eb : Nat) : ErrIn [.value] (S1Tm.fromTm tm sb eb) :=
  (unpackRaw_raises tm sb eb).restrict (C10_srv1_from_tm tm sb eb)
/-- decode, then feed the tracker: the tracker adds no class (`C10_verificator`: it never raises on
    a decoded report) -/
theorem C10_errors_srv1_verificator (d : Bytes) (n sb eb : Nat) (t : Verificator.Tracker) :
    ErrIn [.value, .crc] (S1Tm.unpack d n sb eb) ∧
    ∀ s, S1Tm.unpack d n sb eb = .ok s → ∀ e,
      (Verificator.step t (.addTm s.tcReqId.asU32 s.tm.sec.subservice (s.stepId.map Pfe.val))).2 ≠ .raised e :=
  ⟨C10_errors_srv1 d n sb eb, fun s hs e => C10_verificator d n sb eb s hs t e⟩
theorem C10_errors_cds (d : Bytes) : ErrIn [.value] (unpackFromRaw d) :=
  (Cds.unpackFromRaw_raises d).restrict (C10_cds d)
theorem C10_errors_pdu_header (d : Bytes) : ErrIn [.value, .cfdpVersion] (PduHeader.unpack d) :=
  (PduHeader.unpack_raises d).restrict (C10_pdu_header d)
theorem C10_errors_header_len_from_raw (d : Bytes) : ErrIn [.value] (headerLenFromRaw d) :=
  (headerLenFromRaw_raises d).restrict (C10_header_len_from_raw d)
theorem C10_errors_verify (h : PduHeader) (d : Bytes) : ErrIn [.value, .crc] (h.verifyLengthAndChecksum d) :=
  (PduHeader.verify_raises h d).restrict (C10_verify h d)
theorem C10_errors_pdu_front (d : Bytes) : ErrIn [.value, .cfdpVersion, .crc] (pduFront d) :=
  (pduFront_raises d).restrict (C10_pdu_front d)
theorem C10_errors_directive_front (d : Bytes) : ErrIn [.value, .cfdpVersion, .crc] (directiveFront d) :=
  (directiveFront_raises d).restrict (C10_directive_front d)
theorem C10_errors_lv (d : Bytes) : ErrIn [.value] (CfdpLv.unpack d) :=
  (CfdpLv.unpack_raises d).restrict (C10_lv d)
theorem C10_errors_tlv (d : Bytes) : ErrIn [.value] (CfdpTlv.unpack d) :=
  (CfdpTlv.unpack_raises d).restrict (C10_tlv d)
/-- the three plain wrappers' `from_tlv` can only refuse the type; fault handler and the two
    filestore classes also refuse malformed values -/
theorem C10_errors_from_tlv (t : CfdpTlv) :
    ErrIn [.tlvType] (EntityIdTlv.fromTlv t) ∧ ErrIn [.tlvType] (FlowLabelTlv.fromTlv t) ∧
    ErrIn [.tlvType] (MessageToUserTlv.fromTlv t) ∧ ErrIn [.value, .tlvType] (FaultHandlerOverrideTlv.fromTlv t) ∧
    ErrIn [.value, .tlvType] (FileStoreRequestTlv.fromTlv t) ∧
    ErrIn [.value, .tlvType] (FileStoreResponseTlv.fromTlv t) :=
  ⟨EntityIdTlv.fromTlv_raises t, FlowLabelTlv.fromTlv_raises t, MessageToUserTlv.fromTlv_raises t,
   (FaultHandlerOverrideTlv.fromTlv_raises t).restrict (C10_fault_handler_from_tlv t),
   (FileStoreRequestTlv.fromTlv_raises t).restrict (C10_fs_request_from_tlv t),
   (FileStoreResponseTlv.fromTlv_raises t).restrict (C10_fs_response_from_tlv t)⟩
theorem C10_errors_concrete_tlv (d : Bytes) :
    ErrIn [.value, .tlvType] (EntityIdTlv.unpack d) ∧ ErrIn [.value, .tlvType] (FlowLabelTlv.unpack d) ∧
    ErrIn [.value, .tlvType] (MessageToUserTlv.unpack d) ∧ ErrIn [.value, .tlvType] (FaultHandlerOverrideTlv.unpack d) ∧
    ErrIn [.value, .tlvType] (FileStoreRequestTlv.unpack d) ∧
    ErrIn [.value, .tlvType] (FileStoreResponseTlv.unpack d) :=
  ⟨(EntityIdTlv.unpack_raises d).restrict (C10_entity_id d),
   (FlowLabelTlv.unpack_raises d).restrict (C10_flow_label d),
   (MessageToUserTlv.unpack_raises d).restrict (C10_msg_to_user d),
   (FaultHandlerOverrideTlv.unpack_raises d).restrict (C10_fault_handler d),
   (FileStoreRequestTlv.unpack_raises d).restrict (C10_fs_request d),
   (FileStoreResponseTlv.unpack_raises d).restrict (C10_fs_response d)⟩
/-- a holder of a decoded generic TLV: the conversion IS `from_tlv` -/
theorem C10_errors_holder (t : CfdpTlv) :
    ErrIn [.tlvType] (holderToEntityId (.generic t)) ∧ ErrIn [.tlvType] (holderToFlowLabel (.generic t)) ∧
    ErrIn [.tlvType] (holderToMsgToUser (.generic t)) ∧ ErrIn [.value, .tlvType] (holderToFaultHandler (.generic t)) ∧
    ErrIn [.value, .tlvType] (holderToFsRequest (.generic t)) ∧
    ErrIn [.value, .tlvType] (holderToFsResponse (.generic t)) := C10_errors_from_tlv t
theorem C10_errors_bf_from_bytes (d : Bytes) : ErrIn [.value] (fromBytes d) :=
  (fromBytes_raises d).restrict (C10_bf_from_bytes d)
theorem C10_errors_bf_gen (n : Int) (d : Bytes) : ErrIn [.value] (genFromBytes n d) :=
  (genFromBytes_raises n d).restrict (C10_bf_gen n d)
theorem C10_errors_bf_from_un (d : Bytes) :
    ErrIn [.value] (fromU8Bytes d) ∧ ErrIn [.value] (fromU16Bytes d) ∧ ErrIn [.value] (fromU32Bytes d) ∧
    ErrIn [.value] (fromU64Bytes d) :=
  ⟨C10_errors_bf_gen 1 d, C10_errors_bf_gen 2 d, C10_errors_bf_gen 4 d, C10_errors_bf_gen 8 d⟩
theorem C10_errors_frame (d : Bytes) (ft : FrameType) (p : FrameProps) :
    ErrIn [.value, .uslp] (Frame.unpack d ft p).toPy :=
  errIn_toPy fun e he => by
    have := Frame.unpack_err d ft p e he
    cases e with
    | uslp k => simp [UErr.toErr]
    | py e => cases e <;> simp [UErr.isUslpOrValue] at this; simp [UErr.toErr]
theorem C10_errors_directive_base (d : Bytes) : ErrIn [.value, .cfdpVersion] (FileDirective.unpack d) :=
  (FileDirective.unpack_raises d).restrict (C10_directive_base d)
theorem C10_errors_ack (d : Bytes) : ErrIn [.value, .cfdpVersion, .crc] (Ack.Ack.unpack d) :=
  (Ack.unpack_raises d).restrict (C10_ack d)
theorem C10_errors_prompt (d : Bytes) : ErrIn [.value, .cfdpVersion, .crc] (Prompt.Prompt.unpack d) :=
  (Prompt.unpack_raises d).restrict (C10_prompt d)
theorem C10_errors_keep_alive (d : Bytes) : ErrIn [.value, .cfdpVersion, .crc] (KeepAlive.KeepAlive.unpack d) :=
  (KeepAlive.unpack_raises d).restrict (C10_keep_alive d)
theorem C10_errors_nak (d : Bytes) : ErrIn [.value, .cfdpVersion, .crc] (Nak.Nak.unpack d) :=
  (Nak.unpack_raises d).restrict (C10_nak d)
/-- EOF and Finished decode TLVs through the typed classes: `TlvTypeMissmatch` can occur -/
theorem C10_errors_eof (d : Bytes) : ErrIn [.value, .cfdpVersion, .crc, .tlvType] (Eof.Eof.unpack d) :=
  (Eof.unpack_raises d).restrict (C10_eof d)
theorem C10_errors_finished (d : Bytes) :
    ErrIn [.value, .cfdpVersion, .crc, .tlvType] (Finished.Finished.unpack d) :=
  (Finished.unpack_raises d).restrict (C10_finished d)
/-- Metadata decodes its options as generic TLVs: no `TlvTypeMissmatch` -/
theorem C10_errors_metadata (d : Bytes) : ErrIn [.value, .cfdpVersion, .crc] (Metadata.Metadata.unpack d) :=
  (Metadata.unpack_raises d).restrict (C10_metadata d)
theorem C10_errors_file_data (d : Bytes) : ErrIn [.value, .cfdpVersion, .crc] (FileData.Pdu.unpack d) :=
  FileData.unpack_raises d
theorem C10_errors_inspectors (d : Bytes) :
    ErrIn [.value] (pduType d) ∧ ErrIn [.value] (isFileDirective d) ∧ ErrIn [.value] (pduDirectiveType d) :=
  ⟨(pduType_raises d).restrict (C10_pdu_type d),
   (isFileDirective_raises d).restrict (C10_is_file_directive d),
   (pduDirectiveType_raises d).restrict (C10_pdu_directive_type d)⟩
theorem C10_errors_factory (d : Bytes) :
    ErrIn [.value, .cfdpVersion, .crc, .tlvType] (fromRaw d) ∧
    ErrIn [.value, .cfdpVersion, .crc, .tlvType] (fromRawToHolder d) :=
  ⟨(fromRaw_raises d).restrict (C10_factory d),
   (fromRaw_raises d).restrict (C10_factory_holder d)⟩
/-- reserved CFDP messages: decode + conversion, and every getter on whatever the conversion
    returned, fail with `ValueError` only (the decode step also with `TlvTypeMissmatch`) -/
theorem C10_errors_reserved (d : Bytes) :
    ErrIn [.value, .tlvType] (MessageToUserTlv.unpack d >>= toReservedMsgTlv) ∧
    ∀ m r, MessageToUserTlv.unpack d = .ok m → toReservedMsgTlv m = .ok (some r) →
      ErrIn [.value] r.getProxyPutRequestParams ∧ ErrIn [.value] r.getProxyPutResponseParams ∧
      ErrIn [.value] r.getProxyClosureRequested ∧ ErrIn [.value] r.getProxyTransmissionMode ∧
      ErrIn [.value] r.getOriginatingTransactionId ∧ ErrIn [.value] r.getDirListingRequestParams ∧
      ErrIn [.value] r.getDirListingResponseParams ∧ ErrIn [.value] r.getDirListingOptions := by
  refine ⟨?_, fun m r hm hr => ?_⟩
  · have hl : ErrIn [.value, .tlvType, .index] (MessageToUserTlv.unpack d >>= toReservedMsgTlv) :=
      ErrIn.bind (MessageToUserTlv.unpack_raises d) (fun m => (toReservedMsgTlv_raises m).mono (by decide))
    exact hl.restrict (C10_reserved d).1
  · obtain ⟨g1, g2, g3, g4, g5, g6, g7, g8, _⟩ := (C10_reserved d).2 m r hm hr
    exact ⟨(ReservedCfdpMessage.getProxyPutRequestParams_raises r).restrict g1,
      (ReservedCfdpMessage.getProxyPutResponseParams_raises r).restrict g2,
      (ReservedCfdpMessage.getProxyClosureRequested_raises r).restrict g3,
      (ReservedCfdpMessage.getProxyTransmissionMode_raises r).restrict g4,
      (ReservedCfdpMessage.getOriginatingTransactionId_raises r).restrict g5,
      (ReservedCfdpMessage.getDirListingRequestParams_raises r).restrict g6,
      (ReservedCfdpMessage.getDirListingResponseParams_raises r).restrict g7,
      (ReservedCfdpMessage.getDirListingOptions_raises r).restrict g8⟩

/-- **"documented" narrowed to the statement's list**: every decoder of the table (one conjunct per
    line of `Ops/Robust.decoders`; the typed-TLV, byte-field, inspector and factory groups are the
    grouped theorems above) fails, on ANY octet string and configuration, only with a member of
    `Listed` — never with `OverflowError`, `FileNotFoundError` or `InvalidVerifParams`, which the
    shared predicate `Err.documented` would also accept -/
theorem C10_errors_all_listed (d : Bytes) (n sb eb pfc ver : Nat) (bw : Int) (ids : List Nat) (tr : Bool)
    (oft : Option FrameType) (ft : FrameType) (p : FrameProps) :
    ErrIn Listed (Sph.unpack d) ∧ ErrIn Listed (apidFromRaw d) ∧ ErrIn Listed (parseCall ids [d]) ∧
    ErrIn Listed (Tc.unpack d) ∧ ErrIn Listed (TcSec.unpack d) ∧ ErrIn Listed (TmSec.unpack d n) ∧
    ErrIn Listed (Tm.unpack d n) ∧ ErrIn Listed (srv17Unpack d n) ∧ ErrIn Listed (serviceFromBytes d) ∧
    ErrIn Listed (S1Tm.unpack d n sb eb) ∧ ErrIn Listed (Tm.unpack d n >>= fun tm => S1Tm.fromTm tm sb eb) ∧
    ErrIn Listed (ReqId.unpack d) ∧ ErrIn Listed (Pfe.unpack d pfc) ∧ ErrIn Listed (unpackFromRaw d) ∧
    ErrIn Listed (PduHeader.unpack d) ∧ ErrIn Listed (headerLenFromRaw d) ∧ ErrIn Listed (pduFront d) ∧
    ErrIn Listed (directiveFront d) ∧ ErrIn Listed (FileDirective.unpack d) ∧
    ErrIn Listed (Ack.Ack.unpack d) ∧ ErrIn Listed (Prompt.Prompt.unpack d) ∧
    ErrIn Listed (KeepAlive.KeepAlive.unpack d) ∧ ErrIn Listed (Nak.Nak.unpack d) ∧ ErrIn Listed (Eof.Eof.unpack d) ∧
    ErrIn Listed (Finished.Finished.unpack d) ∧ ErrIn Listed (Metadata.Metadata.unpack d) ∧
    ErrIn Listed (FileData.Pdu.unpack d) ∧ ErrIn Listed (pduType d) ∧ ErrIn Listed (isFileDirective d) ∧
    ErrIn Listed (pduDirectiveType d) ∧ ErrIn Listed (fromRaw d) ∧ ErrIn Listed (fromRawToHolder d) ∧
    ErrIn Listed (MessageToUserTlv.unpack d >>= toReservedMsgTlv) ∧
    ErrIn Listed (CfdpLv.unpack d) ∧ ErrIn Listed (CfdpTlv.unpack d) ∧
    ErrIn Listed (EntityIdTlv.unpack d) ∧ ErrIn Listed (FlowLabelTlv.unpack d) ∧ ErrIn Listed (MessageToUserTlv.unpack d) ∧
    ErrIn Listed (FaultHandlerOverrideTlv.unpack d) ∧ ErrIn Listed (FileStoreRequestTlv.unpack d) ∧
    ErrIn Listed (FileStoreResponseTlv.unpack d) ∧
    ErrIn Listed (fromBytes d) ∧ ErrIn Listed (genFromBytes bw d) ∧
    ErrIn Listed (PrimaryHeader.unpack d ver).toPy ∧ ErrIn Listed (TruncatedHeader.unpack d ver).toPy ∧
    ErrIn Listed (headerIsTruncated d).toPy ∧ ErrIn Listed (Tfdf.unpack d tr n oft).toPy ∧
    ErrIn Listed (Frame.unpack d ft p).toPy := by
  obtain ⟨t1, t2, t3, t4, t5, t6⟩ := C10_errors_concrete_tlv d
  obtain ⟨i1, i2, i3⟩ := C10_errors_inspectors d
  obtain ⟨f1, f2⟩ := C10_errors_factory d
  refine ⟨(C10_errors_sph d).mono ?_, (C10_errors_apid d).mono ?_, (C10_errors_parser ids [d]).mono ?_,
    (C10_errors_tc d).mono ?_, (C10_errors_tc_sec d).mono ?_, (C10_errors_tm_sec d n).mono ?_,
    (C10_errors_tm d n).mono ?_, (C10_errors_srv17 d n).mono ?_, (C10_errors_tm_service d).mono ?_,
    (C10_errors_srv1 d n sb eb).mono ?_,
    (ErrIn.bind (C10_errors_tm d n) fun tm => (C10_errors_srv1_from_tm tm sb eb).mono (by decide)).mono ?_,
    (C10_errors_reqid d).mono ?_, (C10_errors_pfe d pfc).mono ?_, (C10_errors_cds d).mono ?_,
    (C10_errors_pdu_header d).mono ?_, (C10_errors_header_len_from_raw d).mono ?_, (C10_errors_pdu_front d).mono ?_,
    (C10_errors_directive_front d).mono ?_, (C10_errors_directive_base d).mono ?_,
    (C10_errors_ack d).mono ?_, (C10_errors_prompt d).mono ?_, (C10_errors_keep_alive d).mono ?_,
    (C10_errors_nak d).mono ?_, (C10_errors_eof d).mono ?_, (C10_errors_finished d).mono ?_,
    (C10_errors_metadata d).mono ?_, (C10_errors_file_data d).mono ?_, i1.mono ?_, i2.mono ?_, i3.mono ?_,
    f1.mono ?_, f2.mono ?_, (C10_errors_reserved d).1.mono ?_,
    (C10_errors_lv d).mono ?_, (C10_errors_tlv d).mono ?_, t1.mono ?_, t2.mono ?_, t3.mono ?_, t4.mono ?_, t5.mono ?_,
    t6.mono ?_, (C10_errors_bf_from_bytes d).mono ?_, (C10_errors_bf_gen bw d).mono ?_,
    (C10_errors_uslp_hdr d ver).mono ?_, (C10_errors_uslp_thdr d ver).mono ?_, (C10_errors_uslp_hdr_type d).mono ?_,
    (C10_errors_tfdf d tr n oft).mono ?_, (C10_errors_frame d ft p).mono ?_⟩ <;>
    decide

example : Tc.unpack [] = .error .value ∧ PduHeader.unpack [0x00, 0, 0, 0x11, 1, 2, 3] = .error .cfdpVersion ∧
    EntityIdTlv.unpack [5, 1, 7] = .error .tlvType ∧
    (PrimaryHeader.unpack [0xC0, 0, 0, 0, 0, 0]).toPy = .error .uslp := by decide

end ErrorSets

section Examples
open SpVerif.SpacePacket SpVerif.PusTc SpVerif.PusTm SpVerif.Lv SpVerif.Tlv SpVerif.Uslp

private def verdictIs {α : Type} (x : Py α) (e : Option Err) : Bool :=
  match x, e with
  | .ok _, none => true
  | .error a, some b => decide (a = b)
  | _, _ => false

-- a valid telecommand (C02 domain) and a valid telemetry packet with a 3-octet timestamp (C03 domain)
example : C02.WF ⟨⟨0, 1, 1, 0x7FF, 3, 16383, 8⟩, ⟨0b1010, 17, 1, 0xBEEF⟩, [1, 2]⟩ := by
  refine ⟨by decide, ?_, by decide⟩
  unfold C02.WFSec; decide
example : C03.WF ⟨⟨5, 0, 1, 0x7FF, 3, 16383, 13⟩, ⟨9, 17, 2, 0xABCD, 0xBEEF, [1, 2, 3]⟩, [7, 8]⟩ := by
  refine ⟨by decide, ?_, by decide⟩
  unfold C03.WFSec; decide
-- the prefix clause is about non-empty sets of prefixes: the packed telecommand has 15 octets
example : (C02.Spec.octets ⟨⟨0, 1, 1, 0x7FF, 3, 16383, 8⟩, ⟨0b1010, 17, 1, 0xBEEF⟩, [1, 2]⟩).length = 15 := by
  simp [C02.Spec.octets, C02.Spec.body, C02.Spec.sec, C01.Spec.octets, Crc.crcTrailer, Crc.be16]
example : C08.WFValue [1, 2, 3] ∧ C08.WFType 6 ∧ C08.Spec.tlv 6 [1, 2, 3] = [6, 3, 1, 2, 3] := by decide
example : verdictIs (CfdpTlv.unpack [6, 3, 1, 2, 3]) none = true ∧
    verdictIs (CfdpTlv.unpack [6, 3, 1, 2]) (some .value) = true ∧
    verdictIs (CfdpTlv.unpack [6]) (some .value) = true ∧ verdictIs (CfdpLv.unpack []) (some .value) = true := by
  decide
example : verdictIs (EntityIdTlv.unpack [5, 1, 7]) (some .tlvType) = true ∧
    verdictIs (FaultHandlerOverrideTlv.unpack [4, 0]) (some .value) = true := by decide
example : verdictIs (Sph.unpack [0x18, 0x01, 0xC0, 0x00, 0x00]) (some .value) = true ∧
    verdictIs (Sph.unpack [0x18, 0x01, 0xC0, 0x00, 0x00, 0x00]) none = true := by decide
example : verdictIs (CfdpHeader.PduHeader.unpack [0x00, 0, 0, 0x11, 1, 2, 3]) (some .cfdpVersion) = true ∧
    verdictIs (CfdpHeader.headerLenFromRaw [0x20, 0, 0]) (some .value) = true ∧
    verdictIs (Factory.pduType []) (some .value) = true := by decide
example : verdictIs (PrimaryHeader.unpack [0xC0, 0, 0, 0, 0, 0]).toPy (some .uslp) = true ∧
    verdictIs (headerIsTruncated [0xC0, 0, 0]).toPy (some .value) = true ∧
    verdictIs (Tfdf.unpack [0x00, 1] false 2 (some .fixed)).toPy (some .uslp) = true := by decide
-- the stream parser keeps a strict prefix of a registered packet (nothing returned, nothing lost)
example : Parser.scan [0x0923] [0x09, 0x23, 0xC0, 0x01, 0x00, 0x01, 0xAA] = ([], [0x09, 0x23, 0xC0, 0x01, 0x00, 0x01, 0xAA]) := by
  decide +kernel
example : C13.WFPacket [0x0923] [0x09, 0x23, 0xC0, 0x01, 0x00, 0x01, 0xAA, 0xBB] := by decide +kernel

end Examples

end SpVerif.Props.C10
