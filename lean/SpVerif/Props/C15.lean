import SpVerif.Model.Srv1
import SpVerif.Proofs.Srv1
import SpVerif.Props.C03
/-!
# C15 — Request IDs and service-1 verification reports identify the telecommand exactly
-/
namespace SpVerif.Props.C15
open SpVerif SpVerif.SpacePacket SpVerif.PusTm SpVerif.Srv1

def WFReq (r : ReqId) : Prop :=
  r.version < 8 ∧ r.pid.ptype < 2 ∧ r.pid.shf < 2 ∧ r.pid.apid < 2048 ∧ r.psc.flags < 4 ∧ r.psc.count < 16384

/-- the four octets of a request id = the first four octets of the space packet header -/
def Spec.reqOctets (r : ReqId) : Bytes :=
  [u8 (r.version * 32 + r.pid.ptype * 16 + r.pid.shf * 8 + r.pid.apid / 256), u8 (r.pid.apid % 256),
   u8 (r.psc.flags * 64 + r.psc.count / 256), u8 (r.psc.count % 256)]

private theorem word0_lt (r : ReqId) (wf : WFReq r) : r.word0 < 256 ^ 2 ∧ r.psc.raw < 256 ^ 2 := by
  obtain ⟨hv, ht, hs, ha, hf, hc⟩ := wf
  simp only [ReqId.word0, PacketId.raw, Psc.raw, pidRaw, pscRaw]
  omega

/-- the four octets are the two 16-bit words of the request id, big-endian -/
theorem reqOctets_be (r : ReqId) (wf : WFReq r) :
    Spec.reqOctets r = beBytes 2 r.word0 ++ beBytes 2 r.psc.raw := by
  obtain ⟨v, ⟨t, s, a⟩, ⟨f, c⟩⟩ := r
  obtain ⟨hv, ht, hs, ha, hf, hc⟩ := wf
  simp only at hv ht hs ha hf hc
  obtain ⟨e0, e1, e2, e3⟩ :
      (v * 8192 + (t * 4096 + s * 2048 + a)) / 256 % 256 = v * 32 + t * 16 + s * 8 + a / 256 ∧
      (v * 8192 + (t * 4096 + s * 2048 + a)) % 256 = a % 256 ∧
      (f * 16384 + c) / 256 % 256 = f * 64 + c / 256 ∧ (f * 16384 + c) % 256 = c % 256 := by
    refine ⟨?_, ?_, ?_, ?_⟩ <;> omega
  simp only [beBytes_2, ReqId.word0, PacketId.raw, Psc.raw, pidRaw, pscRaw, e0, e1, e2, e3]
  rfl

theorem req_pack (r : ReqId) (wf : WFReq r) : r.pack = .ok (Spec.reqOctets r) := by
  unfold ReqId.pack
  rw [packBE_ok (word0_lt r wf).1, bind_ok, packBE_ok (word0_lt r wf).2, bind_ok, reqOctets_be r wf]
  rfl

/-- **`RequestId.pack()` is the closed-form four octets** -/
theorem C15_req_pack (r : ReqId) (wf : WFReq r) : r.pack = .ok (Spec.reqOctets r) := req_pack r wf

/-- **the request id of a telecommand is exactly the first four octets of its space packet header** -/
theorem C15_reqid_is_header (h : Sph) (wf : C01.WF h) :
    (ReqId.fromSph h).pack = .ok ((C01.Spec.octets h).take 4) := by
  obtain ⟨hv, ht, hs, ha, hf, hc, _⟩ := wf
  exact req_pack _ ⟨hv, ht, hs, ha, hf, hc⟩

/-- the 32-bit integer form is the big-endian value of the packed form, and fits 32 bits -/
theorem C15_reqid_u32 (r : ReqId) (wf : WFReq r) :
    beNat (Spec.reqOctets r) = r.asU32 ∧ r.asU32 < 2 ^ 32 := by
  obtain ⟨h0, h1⟩ := word0_lt r wf
  constructor
  · rw [reqOctets_be r wf, beNat_append, beNat_beBytes _ _ h0, beNat_beBytes _ _ h1, beBytes_length]
    rfl
  · unfold ReqId.asU32; omega

/-- the id decoded from four octets is in range and encodes to these octets -/
private theorem decoded (x0 x1 x2 x3 : UInt8) (r : ReqId)
    (hr : r = ⟨x0.toNat / 32, ⟨x0.toNat / 16 % 2, x0.toNat / 8 % 2, x0.toNat % 8 * 256 + x1.toNat⟩,
      ⟨x2.toNat / 64, x2.toNat % 64 * 256 + x3.toNat⟩⟩) :
    WFReq r ∧ Spec.reqOctets r = [x0, x1, x2, x3] := by
  have h0 := toNat_lt x0
  have h1 := toNat_lt x1
  have h2 := toNat_lt x2
  have h3 := toNat_lt x3
  have wf : WFReq r := by
    subst hr
    refine ⟨?_, ?_, ?_, ?_, ?_, ?_⟩ <;> simp only <;> omega
  refine ⟨wf, ?_⟩
  rw [reqOctets_be r wf]
  subst hr
  -- the two words are the big-endian values of octets 0-1 and 2-3
  obtain ⟨e0, e1⟩ :
      x0.toNat / 32 * 8192 + (x0.toNat / 16 % 2 * 4096 + x0.toNat / 8 % 2 * 2048 + (x0.toNat % 8 * 256 + x1.toNat))
        = x0.toNat * 256 + x1.toNat ∧
      x2.toNat / 64 * 16384 + (x2.toNat % 64 * 256 + x3.toNat) = x2.toNat * 256 + x3.toNat := by
    refine ⟨?_, ?_⟩ <;> omega
  have e01 : beBytes 2 (beNat [x0, x1]) = [x0, x1] := beBytes_beNat [x0, x1]
  have e23 : beBytes 2 (beNat [x2, x3]) = [x2, x3] := beBytes_beNat [x2, x3]
  simp only [ReqId.word0, PacketId.raw, Psc.raw, pidRaw, pscRaw, e0, e1]
  rw [← beNat_two, ← beNat_two, e01, e23]
  rfl

/-- **encode ∘ decode = b[:4]** for every octet string of at least four octets: together with the
    round trip, a bijection between in-range request ids and all 2^32 values -/
theorem C15_reqid_decode_encode (b : Bytes) (h4 : 4 ≤ b.length) :
    ∃ r, ReqId.unpack b = .ok r ∧ WFReq r ∧ r.pack = .ok (b.take 4) ∧ r.asU32 = beNat (b.take 4) := by
  refine ⟨_, ReqId.unpack_eq b h4, ?_⟩
  match b, h4 with
  | x0 :: x1 :: x2 :: x3 :: r, _ =>
    obtain ⟨wf, hoct⟩ := decoded x0 x1 x2 x3 _ rfl
    have hp := req_pack _ wf
    have hu := (C15_reqid_u32 _ wf).1
    rw [hoct] at hp hu
    exact ⟨wf, hp, hu.symm⟩

private theorem word_inj (v t s a v' t' s' a' : Nat) (ht : t < 2) (hs : s < 2) (ha : a < 2048)
    (ht' : t' < 2) (hs' : s' < 2) (ha' : a' < 2048)
    (h : v * 8192 + (t * 4096 + s * 2048 + a) = v' * 8192 + (t' * 4096 + s' * 2048 + a')) :
    v = v' ∧ t = t' ∧ s = s' ∧ a = a' := by omega

/-- **two request ids are equal (`==`, and hash equal) iff their 32 bits are equal**: `==` is
    defined through `as_u32()` (and so is `__hash__`), and on in-range ids equal 32-bit values mean
    equal fields -/
theorem C15_reqid_eq (a b : ReqId) (wa : WFReq a) (wb : WFReq b) :
    (a.beq b = true ↔ a.asU32 = b.asU32) ∧ (a.asU32 = b.asU32 ↔ a = b) := by
  refine ⟨by simp [ReqId.beq], ⟨fun h => ?_, fun h => by rw [h]⟩⟩
  have ha := (word0_lt a wa).2
  have hb := (word0_lt b wb).2
  obtain ⟨hv, ht, hs, ha, hf, hc⟩ := wa
  obtain ⟨hv', ht', hs', ha', hf', hc'⟩ := wb
  -- the 32 bits split into the two 16-bit words, the words into the fields
  have hw : a.word0 = b.word0 ∧ a.psc.raw = b.psc.raw := by unfold ReqId.asU32 at h; omega
  simp only [ReqId.word0, PacketId.raw, Psc.raw, pidRaw, pscRaw] at hw
  obtain ⟨e1, e2, e3, e4⟩ := word_inj _ _ _ _ _ _ _ _ ht hs ha ht' hs' ha' hw.1
  have e5 : a.psc.flags = b.psc.flags ∧ a.psc.count = b.psc.count := by omega
  obtain ⟨v, ⟨t, s, p⟩, ⟨f, c⟩⟩ := a
  obtain ⟨v', ⟨t', s', p'⟩, ⟨f', c'⟩⟩ := b
  simp only at e1 e2 e3 e4 e5
  rw [e1, e2, e3, e4, e5.1, e5.2]

/-- **decode ∘ encode = id** for request ids, with any octets following: decode, and equal 32-bit
    values are equal ids -/
theorem C15_reqid_roundtrip (r : ReqId) (wf : WFReq r) (rest : Bytes) :
    ReqId.unpack (Spec.reqOctets r ++ rest) = .ok r := by
  obtain ⟨r', hu, wf', -, h32⟩ := C15_reqid_decode_encode (Spec.reqOctets r ++ rest) (by simp [Spec.reqOctets])
  have ht : (Spec.reqOctets r ++ rest).take 4 = Spec.reqOctets r := List.take_left' rfl
  rw [ht, (C15_reqid_u32 r wf).1] at h32
  rw [hu, (C15_reqid_eq r' r wf' wf).2.1 h32]

/-- fewer than four octets are refused (ValueError); the decoder never fails otherwise -/
theorem C15_reqid_documented (d : Bytes) : Documented (ReqId.unpack d) :=
  ReqId.unpack_documented d

instance (r : ReqId) : Decidable (WFReq r) := by unfold WFReq; infer_instance

example : WFReq ⟨5, ⟨1, 1, 0x7AB⟩, ⟨2, 0x2BCD⟩⟩ := by decide

/-- declared width of a field in octets: `check_pfc(pfc)` = Python's `round(pfc / 8)` -/
def fieldWidth (f : Pfe) : Nat := roundDiv8 f.pfc

/-- well-formed field: the PFC rounds to 1, 2, 4 or 8 octets and the value fits that many octets -/
def WFField (f : Pfe) : Prop := Width (fieldWidth f) ∧ f.val < 256 ^ fieldWidth f

/-- the PFC is exactly 8 × width (what a decoder that is told the width reconstructs) -/
def ExactField (f : Pfe) : Prop := f.pfc = fieldWidth f * 8

instance (f : Pfe) : Decidable (WFField f) := by unfold WFField; infer_instance
instance (f : Pfe) : Decidable (ExactField f) := by unfold ExactField; infer_instance

/-- a field is its value, big-endian, on its declared width -/
def Spec.fieldOctets (f : Pfe) : Bytes := beBytes (fieldWidth f) f.val

theorem fieldOctets_length (f : Pfe) : (Spec.fieldOctets f).length = fieldWidth f := by
  simp [Spec.fieldOctets]

theorem reqOctets_length (r : ReqId) : (Spec.reqOctets r).length = 4 := rfl

/-- **`check_pfc`**: returns the rounded width iff it is 1, 2, 4 or 8, ValueError otherwise; the
    width is within half an octet of `pfc / 8` (ties to even); byte-aligned PFCs give `pfc / 8` -/
theorem C15_check_pfc (pfc : Nat) :
    (Width (roundDiv8 pfc) → checkPfc pfc = .ok (roundDiv8 pfc)) ∧
    (¬ Width (roundDiv8 pfc) → checkPfc pfc = .error .value) ∧
    (8 * roundDiv8 pfc ≤ pfc + 4 ∧ pfc ≤ 8 * roundDiv8 pfc + 4) ∧
    (∀ w, pfc = w * 8 → roundDiv8 pfc = w) := by
  refine ⟨fun h => ?_, fun h => ?_, ⟨(roundDiv8_spec pfc).1, (roundDiv8_spec pfc).2.1⟩, fun w hw => ?_⟩
  · rw [checkPfc_eq, if_pos h]
  · rw [checkPfc_eq, if_neg h]
  · rw [hw]; exact roundDiv8_mul w

/-- **a field packs to its value, big-endian, on its declared width**; the constructor accepts it
    and `len()` is the width -/
theorem C15_field_pack (f : Pfe) (wf : WFField f) :
    Pfe.new f.pfc f.val = .ok f ∧ f.pack = .ok (Spec.fieldOctets f) ∧ f.len = .ok (fieldWidth f) ∧
    (Spec.fieldOctets f).length = fieldWidth f ∧ beNat (Spec.fieldOctets f) = f.val := by
  obtain ⟨hw, hv⟩ := wf
  unfold fieldWidth at hw hv
  refine ⟨?_, ?_, ?_, fieldOctets_length f, ?_⟩
  · rw [Pfe.new_eq, if_pos hw]
  · rw [Pfe.pack_eq, if_pos hw, if_pos hv]; rfl
  · rw [Pfe.len, checkPfc_eq, if_pos hw]; rfl
  · exact beNat_beBytes _ _ hv

/-- a PFC that does not round to 1, 2, 4 or 8 octets is refused by the constructor, by `pack` and by
    the decoder; a value that does not fit its width is refused by `pack` (ValueError each) -/
theorem C15_field_refuse (f : Pfe) :
    (¬ Width (fieldWidth f) → Pfe.new f.pfc f.val = .error .value ∧ f.pack = .error .value ∧
        ∀ d, Pfe.unpack d f.pfc = .error .value) ∧
    (Width (fieldWidth f) → 256 ^ fieldWidth f ≤ f.val → f.pack = .error .value) := by
  unfold fieldWidth
  refine ⟨fun h => ⟨?_, ?_, fun d => ?_⟩, fun hw hv => ?_⟩
  · rw [Pfe.new_eq, if_neg h]
  · rw [Pfe.pack_eq, if_neg h]
  · rw [Pfe.unpack_eq, if_neg h]
  · rw [Pfe.pack_eq, if_pos hw, if_neg (by omega)]

/-- **decode ∘ encode = id** for a field, whatever follows it -/
theorem C15_field_roundtrip (f : Pfe) (wf : WFField f) (ex : ExactField f) (rest : Bytes) :
    Pfe.unpack (Spec.fieldOctets f ++ rest) (fieldWidth f * 8) = .ok f := by
  obtain ⟨hw, hv⟩ := wf
  rw [Spec.fieldOctets, Pfe.unpack_beBytes hw _ hv rest, ← ex]

/-- **encode ∘ decode = the first `w` octets**: with a width `w` ∈ {1,2,4,8} the decoder is total on
    at least `w` octets, and its result is well formed and re-packs to exactly those octets -/
theorem C15_field_decode_encode (d : Bytes) (w : Nat) (hw : Width w) (hl : w ≤ d.length) :
    ∃ f, Pfe.unpack d (w * 8) = .ok f ∧ WFField f ∧ ExactField f ∧ fieldWidth f = w ∧
      f.pack = .ok (d.take w) := by
  have hlen : (d.take w).length = w := by simp; omega
  have hlt : beNat (d.take w) < 256 ^ w := by have := beNat_lt (d.take w); rwa [hlen] at this
  refine ⟨⟨w * 8, beNat (d.take w)⟩, ?_, ?_, ?_, ?_, ?_⟩
  · rw [Pfe.unpack_eq, roundDiv8_mul, if_pos hw, if_pos hl]
  · simp only [WFField, fieldWidth, roundDiv8_mul]; exact ⟨hw, hlt⟩
  · simp [ExactField, fieldWidth, roundDiv8_mul]
  · exact roundDiv8_mul w
  · rw [Pfe.pack_eq]
    simp only [roundDiv8_mul, hw, hlt, ↓reduceIte]
    have := beBytes_beNat (d.take w)
    rw [hlen] at this
    rw [this]

/-- fewer octets than the width: ValueError; and for every input only documented errors -/
theorem C15_field_short (d : Bytes) (pfc : Nat) (h : d.length < roundDiv8 pfc) :
    Pfe.unpack d pfc = .error .value ∧ ∀ d' pfc', Documented (Pfe.unpack d' pfc') := by
  refine ⟨?_, Pfe.unpack_documented⟩
  rw [Pfe.unpack_eq, if_neg (by omega : ¬ roundDiv8 pfc ≤ d.length), ite_self]

/-- `PacketFieldEnum.__eq__` is equality of (pfc, value) -/
theorem C15_field_eq (a b : Pfe) : a.beq b = true ↔ a = b := by
  cases a; cases b; simp [Pfe.beq]

/-! ### Fields whose PFC is not a multiple of 8 (accepted by the constructor, e.g. pfc 12 → 2 octets)

A decoder that is only told the width reconstructs pfc = 8 × width. For such a field the decoded
object is therefore NOT `==` the original (`C15_field_eq`: `==` compares the PFC); what does hold
for EVERY accepted PFC is: same value, same width, same octets. -/

/-- the field a width-driven decoder returns for `f`: PFC normalised to 8 × width, same value -/
def normField (f : Pfe) : Pfe := ⟨fieldWidth f * 8, f.val⟩

theorem normField_width (f : Pfe) : fieldWidth (normField f) = fieldWidth f := by
  simp [normField, fieldWidth, roundDiv8_mul]

theorem normField_octets (f : Pfe) : Spec.fieldOctets (normField f) = Spec.fieldOctets f := by
  simp only [Spec.fieldOctets, normField_width]; rfl

theorem normField_wf (f : Pfe) (wf : WFField f) : WFField (normField f) ∧ ExactField (normField f) := by
  refine ⟨?_, ?_⟩
  · unfold WFField; rw [normField_width]; exact wf
  · unfold ExactField; rw [normField_width]; rfl

theorem normField_exact (f : Pfe) (ex : ExactField f) : normField f = f := by
  cases f; simp only [ExactField] at ex; simp only [normField, Pfe.mk.injEq, and_true]; exact ex.symm

/-- **round trip of a field for EVERY accepted PFC** (also one that is not 8 × width, e.g. 12):
    decoding the packed field, whatever follows it, with the field's width returns a field with the
    same VALUE and the same WIDTH, the PFC being normalised to 8 × width; that field re-packs to the
    same octets; it is `==` the original exactly when the original PFC was already 8 × width -/
theorem C15_field_roundtrip_any_pfc (f : Pfe) (wf : WFField f) (rest : Bytes) :
    Pfe.unpack (Spec.fieldOctets f ++ rest) (fieldWidth f * 8) = .ok (normField f) ∧
    (normField f).val = f.val ∧ fieldWidth (normField f) = fieldWidth f ∧
    (normField f).pfc = fieldWidth f * 8 ∧
    (normField f).pack = f.pack ∧ f.pack = .ok (Spec.fieldOctets f) ∧
    ((normField f).beq f = true ↔ ExactField f) := by
  obtain ⟨wn, en⟩ := normField_wf f wf
  have h := C15_field_roundtrip (normField f) wn en rest
  rw [normField_octets, normField_width] at h
  have hp := (C15_field_pack f wf).2.1
  have hpn := (C15_field_pack (normField f) wn).2.1
  rw [normField_octets] at hpn
  refine ⟨h, rfl, normField_width f, rfl, by rw [hp, hpn], hp, ?_⟩
  rw [C15_field_eq]
  exact ⟨fun e => by unfold ExactField; rw [← e, normField_width]; rfl, normField_exact f⟩

example : normField ⟨12, 7⟩ = ⟨16, 7⟩ ∧ WFField ⟨12, 7⟩ ∧ (normField ⟨12, 7⟩).beq ⟨12, 7⟩ = false := by decide

example : WFField ⟨16, 0xBEEF⟩ ∧ ExactField ⟨16, 0xBEEF⟩ ∧ WFField ⟨12, 7⟩ ∧ ¬ ExactField ⟨12, 7⟩ := by decide

def WFNotice (n : FailureNotice) : Prop := WFField n.code

/-- a failure notice is the error code on its declared width, then the failure data -/
def Spec.noticeOctets (n : FailureNotice) : Bytes := Spec.fieldOctets n.code ++ n.data

theorem C15_notice_pack (n : FailureNotice) (wf : WFNotice n) :
    n.pack = .ok (Spec.noticeOctets n) ∧ n.len = .ok (Spec.noticeOctets n).length := by
  obtain ⟨_, hp, hl, _, _⟩ := C15_field_pack n.code wf
  simp [FailureNotice.pack, FailureNotice.len, hp, hl, bind, Except.bind, pure, Except.pure,
    Spec.noticeOctets, fieldOctets_length]

theorem noticeOctets_length (n : FailureNotice) :
    (Spec.noticeOctets n).length = fieldWidth n.code + n.data.length := by
  rw [Spec.noticeOctets, List.length_append, fieldOctets_length]

/-- the notice decoder on the packed error code followed by `d`, of which `k` octets are the data -/
theorem notice_unpack (n : FailureNotice) (wf : WFNotice n) (ex : ExactField n.code) (d : Bytes) (k : Nat)
    (hd : d.take k = n.data) :
    FailureNotice.unpack (Spec.fieldOctets n.code ++ d) (fieldWidth n.code) (some k) = .ok n := by
  unfold FailureNotice.unpack
  rw [C15_field_roundtrip n.code wf ex d, bind_ok]
  have hs : slice (Spec.fieldOctets n.code ++ d) (fieldWidth n.code) (fieldWidth n.code + k) = n.data := by
    rw [← fieldOctets_length n.code, slice, List.take_length_add_append, List.drop_left, hd]
  exact congrArg (fun d => Except.ok (FailureNotice.mk n.code d)) hs

/-- **decode ∘ encode = id** for a failure notice: with the default "all remaining octets", and with
    an explicit data length when further octets follow -/
theorem C15_notice_roundtrip (n : FailureNotice) (wf : WFNotice n) (ex : ExactField n.code) :
    FailureNotice.unpack (Spec.noticeOctets n) (fieldWidth n.code) none = .ok n ∧
    ∀ rest, FailureNotice.unpack (Spec.noticeOctets n ++ rest) (fieldWidth n.code) (some n.data.length) = .ok n := by
  constructor
  · show FailureNotice.unpack _ _ (some ((Spec.noticeOctets n).length - fieldWidth n.code)) = _
    exact notice_unpack n wf ex _ _ (List.take_of_length_le (by rw [noticeOctets_length]; omega))
  · intro rest
    rw [Spec.noticeOctets, List.append_assoc]
    exact notice_unpack n wf ex _ _ (List.take_left' rfl)

/-- `FailureNotice.__eq__` compares by value (error code field and failure data) -/
theorem C15_notice_eq (a b : FailureNotice) : a.beq b = true ↔ a = b := by
  cases a; cases b; simp [FailureNotice.beq, C15_field_eq]

def WFParams (p : VParams) : Prop :=
  WFReq p.reqId ∧ (∀ s, p.stepId = some s → WFField s) ∧ (∀ n, p.failure = some n → WFNotice n)

/-- all PFCs are exactly 8 × width -/
def ExactParams (p : VParams) : Prop :=
  (∀ s, p.stepId = some s → ExactField s) ∧ (∀ n, p.failure = some n → ExactField n.code)

/-- the parameter set fits the subservice: a failure notice exactly for the failure reports (even
    subservices), a step id exactly for the two step reports (5 and 6) -/
def Matches (p : VParams) (sub : Nat) : Prop :=
  (p.failure.isSome = true ↔ sub % 2 = 0) ∧ (p.stepId.isSome = true ↔ (sub = 5 ∨ sub = 6))

instance (p : VParams) (sub : Nat) : Decidable (Matches p sub) := by unfold Matches; infer_instance

/-- **source data of a report**: request id ‖ step id (if any) ‖ error code ‖ failure data (if any) -/
def Spec.sourceData (p : VParams) : Bytes :=
  Spec.reqOctets p.reqId ++
    (match p.stepId with | none => [] | some s => Spec.fieldOctets s) ++
    (match p.failure with | none => [] | some n => Spec.noticeOctets n)

theorem sourceData_length (p : VParams) :
    (Spec.sourceData p).length =
      4 + (match p.stepId with | none => [] | some s => Spec.fieldOctets s).length +
        (match p.failure with | none => [] | some n => Spec.noticeOctets n).length := by
  simp only [Spec.sourceData, List.length_append, reqOctets_length]

theorem C15_params_pack (p : VParams) (wf : WFParams p) :
    p.pack = .ok (Spec.sourceData p) ∧ p.len = .ok (Spec.sourceData p).length := by
  obtain ⟨wr, ws, wn⟩ := wf
  obtain ⟨r, step, fail⟩ := p
  simp only at wr ws wn
  have hr := req_pack r wr
  have hlen := congrArg (Except.ok (ε := Err)) (sourceData_length ⟨r, step, fail⟩).symm
  unfold VParams.pack VParams.len
  cases step with
  | none =>
    cases fail with
    | none =>
      dsimp only
      rw [hr]
      exact ⟨rfl, rfl⟩
    | some n =>
      obtain ⟨hp, hl⟩ := C15_notice_pack n (wn n rfl)
      dsimp only
      rw [hr, hp, hl]
      exact ⟨rfl, hlen⟩
  | some s =>
    obtain ⟨_, sp, sl, sll, _⟩ := C15_field_pack s (ws s rfl)
    cases fail with
    | none =>
      dsimp only
      rw [hr, sp, sl, ← sll]
      exact ⟨rfl, hlen⟩
    | some n =>
      obtain ⟨hp, hl⟩ := C15_notice_pack n (wn n rfl)
      dsimp only
      rw [hr, sp, sl, hp, hl, ← sll]
      exact ⟨rfl, hlen⟩

/-- `verify_against_subservice` accepts exactly the matching parameter sets (for every subservice
    number, not only 1..8) and refuses all others with `InvalidVerifParams` -/
theorem verify_iff (p : VParams) (sub : Nat) :
    (Matches p sub → p.verify sub = .ok ()) ∧ (¬ Matches p sub → p.verify sub = .error .verifParams) := by
  obtain ⟨r, step, fail⟩ := p
  unfold Matches VParams.verify
  by_cases h2 : sub % 2 = 0
  · have h5 : sub ≠ 5 := by omega
    by_cases h6 : sub = 6 <;> cases step <;> cases fail <;> simp [h2, h5, h6]
  · have h6 : sub ≠ 6 := by omega
    by_cases h5 : sub = 5 <;> cases step <;> cases fail <;> simp [h2, h5, h6]

/-- the telemetry packet of a report: service 1, the given subservice, message counter 0, source
    data as prescribed, data length field = 7 + |timestamp| + |source data| + 1 -/
def Spec.reportTm (apid sub count ver ref dst : Nat) (ts : Bytes) (p : VParams) : Tm :=
  ⟨⟨ver, 0, 1, apid, 3, count, 7 + ts.length + (Spec.sourceData p).length + 1⟩, ⟨ref, 1, sub, 0, dst, ts⟩,
   Spec.sourceData p⟩

/-- the report's octets: the PUS-C telemetry layout of C03 around the prescribed source data -/
def Spec.reportOctets (apid sub count ver ref dst : Nat) (ts : Bytes) (p : VParams) : Bytes :=
  C03.Spec.octets (Spec.reportTm apid sub count ver ref dst ts p)

theorem reportTm_wf (apid sub count ver ref dst : Nat) (ts : Bytes) (p : VParams)
    (ha : apid < 2048) (hc : count < 16384) (hb : sub < 256) (hv : ver < 8) (hr : ref < 16) (hd : dst < 65536)
    (hl : ts.length + (Spec.sourceData p).length ≤ 65527) :
    C03.WF (Spec.reportTm apid sub count ver ref dst ts p) := by
  refine ⟨⟨?_, ?_, ?_, ?_, ?_, ?_, ?_⟩, ⟨?_, ?_, ?_, ?_, ?_⟩, ?_⟩ <;> simp only [Spec.reportTm] <;> omega

private theorem tm_new_s1 (apid sub count ver ref dst : Nat) (ts : Bytes)
    (ha : apid < 2048) (hc : count < 16384) (hb : sub < 256) (hts : ts.length ≤ 65527) :
    Tm.new 1 (sub : Int) ts [] (apid : Int) (count : Int) 0 ref dst ver =
      .ok ⟨⟨ver, 0, 1, apid, 3, count, 7 + ts.length + 1⟩, ⟨ref, 1, sub, 0, dst, ts⟩, []⟩ := by
  have := C03.C03_new 1 sub apid count 0 ref dst ver ts [] ha hc (by omega) hb (by omega) (by simpa using hts)
  simpa using this

/-- **every report built for a request id carries, in its source data, that request id, then the
    step id (step reports), then error code and failure data (failure reports), each on its
    declared width** — and the packed report is the C03 telemetry layout around that source data.
    For every subservice, every width combination, every timestamp. -/
theorem C15_report_layout (apid sub count ver ref dst : Nat) (ts : Bytes) (p : VParams)
    (ha : apid < 2048) (hc : count < 16384) (hb : sub < 256) (hts : ts.length ≤ 65527)
    (wp : WFParams p) (hm : Matches p sub) :
    S1Tm.new (apid : Int) (sub : Int) ts (some p) (count : Int) ver ref dst
      = .ok ⟨Spec.reportTm apid sub count ver ref dst ts p, p⟩ ∧
    (Spec.reportTm apid sub count ver ref dst ts p).sourceData = Spec.sourceData p ∧
    (ver < 8 → ref < 16 → dst < 65536 → ts.length + (Spec.sourceData p).length ≤ 65527 →
      (S1Tm.mk (Spec.reportTm apid sub count ver ref dst ts p) p).pack
        = .ok (Spec.reportOctets apid sub count ver ref dst ts p) ∧
      (Spec.reportOctets apid sub count ver ref dst ts p).length = 13 + ts.length + (Spec.sourceData p).length + 2) := by
  refine ⟨?_, rfl, fun hv hr hd hl => ⟨?_, ?_⟩⟩
  · rw [S1Tm.new_some p (tm_new_s1 apid sub count ver ref dst ts ha hc hb hts), Int.toNat_natCast,
      (verify_iff p sub).1 hm, bind_ok, (C15_params_pack p wp).1]
    rfl
  · exact C03.C03_pack_exact _ (reportTm_wf apid sub count ver ref dst ts p ha hc hb hv hr hd hl)
  · have := (C03.C03_len _ (reportTm_wf apid sub count ver ref dst ts p ha hc hb hv hr hd hl)).1
    rw [Spec.reportOctets, this]
    simp only [Tm.packetLen, Sph.packetLen, Spec.reportTm]; omega

/-- **the eight `create_*_tm` helpers put the first four octets of the telecommand's space packet
    header at the start of the source data** (sequence count, version, time reference and
    destination id of the report are 0) -/
theorem C15_create_layout (sub apid : Nat) (tc : Sph) (step : Option Pfe) (fn : Option FailureNotice) (ts : Bytes)
    (ha : apid < 2048) (hb : sub < 256) (hts : ts.length ≤ 65527) (wtc : C01.WF tc)
    (ws : ∀ s, step = some s → WFField s) (wn : ∀ n, fn = some n → WFNotice n)
    (hm : Matches ⟨ReqId.fromSph tc, step, fn⟩ sub) :
    ∃ s, create sub (apid : Int) tc step fn ts = .ok s ∧
      s.tm.sourceData = (C01.Spec.octets tc).take 4 ++
        (match step with | none => [] | some s => Spec.fieldOctets s) ++
        (match fn with | none => [] | some n => Spec.noticeOctets n) ∧
      s.tm.sec.service = 1 ∧ s.tm.sec.subservice = sub ∧ s.params = ⟨ReqId.fromSph tc, step, fn⟩ := by
  obtain ⟨hv, ht, hs, hap, hf, hc, _⟩ := wtc
  have wp : WFParams ⟨ReqId.fromSph tc, step, fn⟩ := ⟨⟨hv, ht, hs, hap, hf, hc⟩, ws, wn⟩
  have := (C15_report_layout apid sub 0 0 0 0 ts _ ha (by omega) hb hts wp hm).1
  have hreq : Spec.reqOctets (ReqId.fromSph tc) = (C01.Spec.octets tc).take 4 := by
    simp [Spec.reqOctets, ReqId.fromSph, C01.Spec.octets]
  refine ⟨_, this, ?_, rfl, rfl, rfl⟩
  rw [← hreq]
  cases step <;> cases fn <;> rfl

/-- **parameter sets that do not match the subservice are refused** with `InvalidVerifParams` (for
    otherwise valid constructor arguments; with invalid ones the constructor fails before) -/
theorem C15_refuse (apid sub count ver ref dst : Nat) (ts : Bytes) (p : VParams)
    (ha : apid < 2048) (hc : count < 16384) (hb : sub < 256) (hts : ts.length ≤ 65527)
    (hm : ¬ Matches p sub) :
    p.verify sub = .error .verifParams ∧
    S1Tm.new (apid : Int) (sub : Int) ts (some p) (count : Int) ver ref dst = .error .verifParams := by
  refine ⟨(verify_iff p sub).2 hm, ?_⟩
  rw [S1Tm.new_some p (tm_new_s1 apid sub count ver ref dst ts ha hc hb hts), Int.toNat_natCast,
    (verify_iff p sub).2 hm]
  rfl

/-- … and with arbitrary (also invalid) other arguments a mismatching set never yields a report -/
theorem C15_refuse_any (apid sub count : Int) (ver ref dst : Nat) (ts : Bytes) (p : VParams)
    (hm : ¬ Matches p sub.toNat) (s : S1Tm) :
    S1Tm.new apid sub ts (some p) count ver ref dst ≠ .ok s := by
  cases h : Tm.new 1 sub ts [] apid count 0 ref dst ver with
  | error e => unfold S1Tm.new; rw [h]; exact fun e => nomatch e
  | ok tm => rw [S1Tm.new_some p h, (verify_iff p sub.toNat).2 hm]; exact fun e => nomatch e

theorem sourceData_drop (p : VParams) :
    (Spec.sourceData p).drop 4 =
      (match p.stepId with | none => [] | some s => Spec.fieldOctets s) ++
        (match p.failure with | none => [] | some n => Spec.noticeOctets n) := by
  rw [Spec.sourceData, List.append_assoc]
  exact List.drop_left' (reqOctets_length _)

/-- the decoder finds the request id in front of the prescribed source data -/
theorem req_src (p : VParams) (wf : WFReq p.reqId) :
    ReqId.unpack (slice (Spec.sourceData p) 0 4) = .ok p.reqId := by
  have h4 : 4 ≤ (Spec.sourceData p).length := by rw [sourceData_length]; omega
  rw [show slice (Spec.sourceData p) 0 4 = (Spec.sourceData p).take 4 from rfl, ReqId.unpack_take _ h4,
    Spec.sourceData, List.append_assoc]
  exact C15_reqid_roundtrip _ wf _

/-- the decoder of the source data inverts the prescribed layout when it is told the widths used -/
theorem unpackRaw_spec (tm : Tm) (p : VParams) (sb eb : Nat)
    (hsrc : tm.sourceData = Spec.sourceData p) (hsub : 1 ≤ tm.sec.subservice ∧ tm.sec.subservice ≤ 8)
    (wp : WFParams p) (ex : ExactParams p) (hm : Matches p tm.sec.subservice)
    (hsb : ∀ s, p.stepId = some s → sb = fieldWidth s)
    (heb : ∀ n, p.failure = some n → eb = fieldWidth n.code) :
    unpackRaw tm sb eb = .ok ⟨tm, p⟩ := by
  obtain ⟨wr, ws, wn⟩ := wp
  obtain ⟨exs, exn⟩ := ex
  obtain ⟨hm1, hm2⟩ := hm
  have hlen := sourceData_length p
  have hdrop := sourceData_drop p
  rw [unpackRaw_eq tm sb eb (by rw [hsrc, hlen]; omega), hsrc, req_src p wr, bind_ok]
  obtain ⟨r, step, fail⟩ := p
  cases step with
  | none =>
    cases fail with
    | none =>
      simp only [Option.isSome_none, Bool.false_eq_true, false_iff] at hm1 hm2
      rw [if_pos (by omega)]
    | some n =>
      simp only [Option.isSome_none, Option.isSome_some, Bool.false_eq_true, false_iff, true_iff] at hm1 hm2
      obtain rfl := heb n rfl
      rw [noticeOctets_length] at hlen
      have hlen' : (Spec.sourceData ⟨r, none, some n⟩).length = 4 + (fieldWidth n.code + n.data.length) := hlen
      have hdrop' : (Spec.sourceData ⟨r, none, some n⟩).drop 4 = Spec.fieldOctets n.code ++ n.data := hdrop
      rw [if_neg (by omega), if_neg (by omega), if_pos (by omega), if_neg (by omega), hdrop', hlen',
        notice_unpack n (wn n rfl) (exn n rfl), bind_ok]
      exact List.take_of_length_le (by omega)
  | some s =>
    obtain rfl := hsb s rfl
    have hu := C15_field_roundtrip s (ws s rfl) (exs s rfl)
    cases fail with
    | none =>
      simp only [Option.isSome_none, Option.isSome_some, Bool.false_eq_true, false_iff, true_iff] at hm1 hm2
      have hsl : slice (Spec.sourceData ⟨r, some s, none⟩) 4 (4 + fieldWidth s) = Spec.fieldOctets s ++ [] := by
        rw [← reqOctets_length r, ← fieldOctets_length s, List.append_nil]
        exact slice_eq_of_append _ _ _
      rw [if_neg (by omega), if_pos (by omega), hsl, hu, bind_ok]
    | some n =>
      simp only [Option.isSome_some, true_iff] at hm1 hm2
      obtain rfl := heb n rfl
      rw [noticeOctets_length, fieldOctets_length] at hlen
      have hdrop' : (Spec.sourceData ⟨r, some s, some n⟩).drop (4 + fieldWidth s) =
          Spec.fieldOctets n.code ++ n.data := by
        rw [← List.drop_drop, hdrop]
        exact List.drop_left' (fieldOctets_length s)
      rw [if_neg (by omega), if_neg (by omega), if_neg (by omega), if_pos (by omega), if_neg (by rw [hlen]; omega),
        hdrop, hu, bind_ok, hdrop', hlen, notice_unpack n (wn n rfl) (exn n rfl), bind_ok]
      exact List.take_of_length_le (by omega)

/-- **decoding the packed report with matching widths returns the same request id, step id, error
    code and failure data** (and the same telemetry fields): the decoded object *is* the original —
    for every subservice 1..8, every width combination, every timestamp, whatever octets follow.
    A width the report does not use (step width for non-step reports, error-code width for success
    reports) may be anything. -/
theorem C15_report_roundtrip (apid sub count ver ref dst : Nat) (ts : Bytes) (p : VParams)
    (ha : apid < 2048) (hc : count < 16384) (hsub : 1 ≤ sub ∧ sub ≤ 8) (hv : ver < 8) (hr : ref < 16)
    (hd : dst < 65536) (hl : ts.length + (Spec.sourceData p).length ≤ 65527)
    (wp : WFParams p) (ex : ExactParams p) (hm : Matches p sub) (sb eb : Nat)
    (hsb : ∀ s, p.stepId = some s → sb = fieldWidth s)
    (heb : ∀ n, p.failure = some n → eb = fieldWidth n.code) (rest : Bytes) :
    S1Tm.unpack (Spec.reportOctets apid sub count ver ref dst ts p ++ rest) ts.length sb eb
      = .ok ⟨Spec.reportTm apid sub count ver ref dst ts p, p⟩ := by
  have wf := reportTm_wf apid sub count ver ref dst ts p ha hc (by omega) hv hr hd hl
  have h := C03.C03_roundtrip _ wf rest
  unfold S1Tm.unpack
  have e : (Spec.reportTm apid sub count ver ref dst ts p).sec.timestamp.length = ts.length := rfl
  rw [e] at h
  simp only [Spec.reportOctets, h, bind, Except.bind]
  exact unpackRaw_spec _ p sb eb rfl hsub wp ex hm hsb heb

/-- … hence **it re-packs identically** … -/
theorem C15_report_repack (apid sub count ver ref dst : Nat) (ts : Bytes) (p : VParams)
    (ha : apid < 2048) (hc : count < 16384) (hsub : 1 ≤ sub ∧ sub ≤ 8) (hv : ver < 8) (hr : ref < 16)
    (hd : dst < 65536) (hl : ts.length + (Spec.sourceData p).length ≤ 65527)
    (wp : WFParams p) (ex : ExactParams p) (hm : Matches p sub) (sb eb : Nat)
    (hsb : ∀ s, p.stepId = some s → sb = fieldWidth s)
    (heb : ∀ n, p.failure = some n → eb = fieldWidth n.code) (rest : Bytes) :
    (S1Tm.unpack (Spec.reportOctets apid sub count ver ref dst ts p ++ rest) ts.length sb eb >>= S1Tm.pack)
      = .ok (Spec.reportOctets apid sub count ver ref dst ts p) := by
  have h := C15_report_roundtrip apid sub count ver ref dst ts p ha hc hsub hv hr hd hl wp ex hm sb eb hsb heb rest
  rw [h, bind_ok]
  exact C03.C03_pack_exact _ (reportTm_wf apid sub count ver ref dst ts p ha hc (by omega) hv hr hd hl)

private theorem optBeq_iff {α : Type} (f : α → α → Bool) (hf : ∀ a b, f a b = true ↔ a = b) (x y : Option α) :
    optBeq f x y = true ↔ x = y := by
  cases x <;> cases y <;> simp [optBeq, hf]

/-- well-formedness of an arbitrary report object as far as `==` needs it -/
def WFEq (s : S1Tm) : Prop := C01.WF s.tm.sph ∧ C03.WFSec s.tm.sec ∧ WFReq s.params.reqId

/-- **`==` on reports is equality of all fields** — telemetry header fields, timestamp, source
    data, request id (by its 32 bits), step id and failure notice *by value* — so the decoded report
    compares equal to the original, also for failure reports -/
theorem C15_report_eq_iff (a b : S1Tm) (wa : WFEq a) (wb : WFEq b) : a.beq b = true ↔ a = b := by
  obtain ⟨ha1, ha2, ha3⟩ := wa
  obtain ⟨hb1, hb2, hb3⟩ := wb
  obtain ⟨ta, ⟨ra, sta, fa⟩⟩ := a
  obtain ⟨tb, ⟨rb, stb, fb⟩⟩ := b
  have hreq := C15_reqid_eq ra rb ha3 hb3
  simp only [S1Tm.beq, VParams.beq, Bool.and_eq_true, C03.C03_eq_iff ta tb ha1 hb1 ha2 hb2, hreq.1.trans hreq.2,
    optBeq_iff Pfe.beq C15_field_eq, optBeq_iff FailureNotice.beq C15_notice_eq, S1Tm.mk.injEq, VParams.mk.injEq,
    and_assoc]

/-- … and **the decoded report compares equal to the original** (both directions of `==`) -/
theorem C15_report_eq (apid sub count ver ref dst : Nat) (ts : Bytes) (p : VParams)
    (ha : apid < 2048) (hc : count < 16384) (hsub : 1 ≤ sub ∧ sub ≤ 8) (hv : ver < 8) (hr : ref < 16)
    (hd : dst < 65536) (hl : ts.length + (Spec.sourceData p).length ≤ 65527)
    (wp : WFParams p) (ex : ExactParams p) (hm : Matches p sub) (sb eb : Nat)
    (hsb : ∀ s, p.stepId = some s → sb = fieldWidth s)
    (heb : ∀ n, p.failure = some n → eb = fieldWidth n.code) (rest : Bytes) :
    ∃ s', S1Tm.unpack (Spec.reportOctets apid sub count ver ref dst ts p ++ rest) ts.length sb eb = .ok s' ∧
      s'.beq ⟨Spec.reportTm apid sub count ver ref dst ts p, p⟩ = true ∧
      (S1Tm.mk (Spec.reportTm apid sub count ver ref dst ts p) p).beq s' = true := by
  have wf := reportTm_wf apid sub count ver ref dst ts p ha hc (by omega) hv hr hd hl
  have we : WFEq ⟨Spec.reportTm apid sub count ver ref dst ts p, p⟩ := ⟨wf.1, wf.2.1, wp.1⟩
  have hb := (C15_report_eq_iff _ _ we we).2 rfl
  exact ⟨_, C15_report_roundtrip apid sub count ver ref dst ts p ha hc hsub hv hr hd hl wp ex hm sb eb hsb heb rest, hb, hb⟩

/-- **end to end**, in terms of the constructor and `pack`/`unpack` only: the report built for a
    request id packs, carries the prescribed source data, and decoding the packed octets (followed by
    anything) with matching widths gives back the very same report, which compares equal to itself
    under `==` — every subservice 1..8, every width combination, every timestamp length -/
theorem C15_report_end_to_end (apid sub count ver ref dst : Nat) (ts : Bytes) (p : VParams)
    (ha : apid < 2048) (hc : count < 16384) (hsub : 1 ≤ sub ∧ sub ≤ 8) (hv : ver < 8) (hr : ref < 16)
    (hd : dst < 65536) (hl : ts.length + (Spec.sourceData p).length ≤ 65527)
    (wp : WFParams p) (ex : ExactParams p) (hm : Matches p sub) (sb eb : Nat)
    (hsb : ∀ s, p.stepId = some s → sb = fieldWidth s)
    (heb : ∀ n, p.failure = some n → eb = fieldWidth n.code) (rest : Bytes) :
    ∃ s raw, S1Tm.new (apid : Int) (sub : Int) ts (some p) (count : Int) ver ref dst = .ok s ∧
      s.pack = .ok raw ∧ s.tm.sourceData = Spec.sourceData p ∧ s.params = p ∧
      S1Tm.unpack (raw ++ rest) ts.length sb eb = .ok s ∧ (S1Tm.unpack (raw ++ rest) ts.length sb eb >>= S1Tm.pack) = .ok raw ∧
      s.beq s = true := by
  obtain ⟨h1, h2, h3⟩ := C15_report_layout apid sub count ver ref dst ts p ha hc (by omega) (by omega) wp hm
  obtain ⟨h4, _⟩ := h3 hv hr hd hl
  have wf := reportTm_wf apid sub count ver ref dst ts p ha hc (by omega) hv hr hd hl
  have we : WFEq ⟨Spec.reportTm apid sub count ver ref dst ts p, p⟩ := ⟨wf.1, wf.2.1, wp.1⟩
  exact ⟨_, _, h1, h4, h2, rfl,
    C15_report_roundtrip apid sub count ver ref dst ts p ha hc hsub hv hr hd hl wp ex hm sb eb hsb heb rest,
    C15_report_repack apid sub count ver ref dst ts p ha hc hsub hv hr hd hl wp ex hm sb eb hsb heb rest,
    (C15_report_eq_iff _ _ we we).2 rfl⟩

/-- the parameter set a width-driven decoder returns: every PFC normalised to 8 × width -/
def normParams (p : VParams) : VParams :=
  ⟨p.reqId, p.stepId.map normField, p.failure.map (fun n => ⟨normField n.code, n.data⟩)⟩

theorem normParams_sourceData (p : VParams) : Spec.sourceData (normParams p) = Spec.sourceData p := by
  obtain ⟨r, step, fail⟩ := p
  cases step <;> cases fail <;> simp [normParams, Spec.sourceData, Spec.noticeOctets, normField_octets]

theorem normParams_wf (p : VParams) (wp : WFParams p) : WFParams (normParams p) ∧ ExactParams (normParams p) := by
  obtain ⟨wr, ws, wn⟩ := wp
  refine ⟨⟨wr, ?_, ?_⟩, ?_, ?_⟩ <;> intro x hx <;> obtain ⟨y, hy, rfl⟩ := Option.map_eq_some_iff.1 hx
  · exact (normField_wf y (ws y hy)).1
  · exact (normField_wf y.code (wn y hy)).1
  · exact (normField_wf y (ws y hy)).2
  · exact (normField_wf y.code (wn y hy)).2

theorem normParams_matches (p : VParams) (sub : Nat) : Matches (normParams p) sub ↔ Matches p sub := by
  obtain ⟨r, step, fail⟩ := p
  cases step <;> cases fail <;> simp [normParams, Matches]

theorem normParams_exact (p : VParams) (ex : ExactParams p) : normParams p = p := by
  obtain ⟨exs, exn⟩ := ex
  obtain ⟨r, step, fail⟩ := p
  simp only at exs exn
  cases step with
  | none =>
    cases fail with
    | none => rfl
    | some n => obtain ⟨c, d⟩ := n; simp [normParams, normField_exact c (exn _ rfl)]
  | some s =>
    cases fail with
    | none => simp [normParams, normField_exact s (exs _ rfl)]
    | some n => obtain ⟨c, d⟩ := n; simp [normParams, normField_exact s (exs _ rfl), normField_exact c (exn _ rfl)]

/-- **round trip of a report for EVERY accepted PFC** (no `ExactParams`): decoding the packed report
    (followed by anything) with matching widths returns the same telemetry fields, the same request
    id, and step id / error code with the same VALUE and the same WIDTH — their PFC normalised to
    8 × width (`normParams`) — and the same failure data; the decoded report re-packs to exactly the
    same octets; it is `==` the original iff all PFCs of the original were already 8 × width.
    (With pfc 12 the decoded step id is `PacketFieldEnum(16, v)` and `==` is False — in Python too.) -/
theorem C15_report_roundtrip_any_pfc (apid sub count ver ref dst : Nat) (ts : Bytes) (p : VParams)
    (ha : apid < 2048) (hc : count < 16384) (hsub : 1 ≤ sub ∧ sub ≤ 8) (hv : ver < 8) (hr : ref < 16)
    (hd : dst < 65536) (hl : ts.length + (Spec.sourceData p).length ≤ 65527)
    (wp : WFParams p) (hm : Matches p sub) (sb eb : Nat)
    (hsb : ∀ s, p.stepId = some s → sb = fieldWidth s)
    (heb : ∀ n, p.failure = some n → eb = fieldWidth n.code) (rest : Bytes) :
    S1Tm.unpack (Spec.reportOctets apid sub count ver ref dst ts p ++ rest) ts.length sb eb
      = .ok ⟨Spec.reportTm apid sub count ver ref dst ts p, normParams p⟩ ∧
    (normParams p).reqId = p.reqId ∧
    (∀ s, p.stepId = some s → ∃ s', (normParams p).stepId = some s' ∧ s'.val = s.val ∧
        fieldWidth s' = fieldWidth s ∧ s'.pfc = fieldWidth s * 8) ∧
    (p.stepId = none → (normParams p).stepId = none) ∧
    (∀ n, p.failure = some n → ∃ n', (normParams p).failure = some n' ∧ n'.code.val = n.code.val ∧
        fieldWidth n'.code = fieldWidth n.code ∧ n'.code.pfc = fieldWidth n.code * 8 ∧ n'.data = n.data) ∧
    (p.failure = none → (normParams p).failure = none) ∧
    (S1Tm.mk (Spec.reportTm apid sub count ver ref dst ts p) (normParams p)).pack
      = .ok (Spec.reportOctets apid sub count ver ref dst ts p) ∧
    ((S1Tm.mk (Spec.reportTm apid sub count ver ref dst ts p) (normParams p)).beq
        ⟨Spec.reportTm apid sub count ver ref dst ts p, p⟩ = true ↔ ExactParams p) := by
  obtain ⟨wpn, exn⟩ := normParams_wf p wp
  have hsd := normParams_sourceData p
  have hoct : Spec.reportOctets apid sub count ver ref dst ts (normParams p)
      = Spec.reportOctets apid sub count ver ref dst ts p := by simp only [Spec.reportOctets, Spec.reportTm, hsd]
  have htm : Spec.reportTm apid sub count ver ref dst ts (normParams p)
      = Spec.reportTm apid sub count ver ref dst ts p := by simp only [Spec.reportTm, hsd]
  have h := C15_report_roundtrip apid sub count ver ref dst ts (normParams p) ha hc hsub hv hr hd (by rw [hsd]; exact hl)
    wpn exn ((normParams_matches p sub).2 hm) sb eb
    (by
      intro s hs
      obtain ⟨s0, hp, rfl⟩ := Option.map_eq_some_iff.1 hs
      rw [normField_width]; exact hsb s0 hp)
    (by
      intro n hn
      obtain ⟨n0, hp, rfl⟩ := Option.map_eq_some_iff.1 hn
      exact (heb n0 hp).trans (normField_width n0.code).symm) rest
  rw [hoct, htm] at h
  have wf := reportTm_wf apid sub count ver ref dst ts p ha hc (by omega) hv hr hd hl
  refine ⟨h, rfl, ?_, ?_, ?_, ?_, ?_, ?_⟩
  · intro s hs; exact ⟨normField s, by simp [normParams, hs], rfl, normField_width s, rfl⟩
  · intro hs; simp [normParams, hs]
  · intro n hn; exact ⟨⟨normField n.code, n.data⟩, by simp [normParams, hn], rfl, normField_width n.code, rfl, rfl⟩
  · intro hn; simp [normParams, hn]
  · exact C03.C03_pack_exact _ wf
  · have we : WFEq ⟨Spec.reportTm apid sub count ver ref dst ts p, p⟩ := ⟨wf.1, wf.2.1, wp.1⟩
    have wen : WFEq ⟨Spec.reportTm apid sub count ver ref dst ts p, normParams p⟩ := ⟨wf.1, wf.2.1, wp.1⟩
    rw [C15_report_eq_iff _ _ wen we]
    constructor
    · intro e
      have e2 : normParams p = p := by injection e
      rw [← e2]; exact exn
    · intro ex; rw [normParams_exact p ex]

/-- what the decoder guarantees for ANY accepted octet string, with any configured widths: the
    telemetry part is what the generic decoder returns, the subservice is one of 1..8, the decoded
    parameter set has the shape of that subservice, and the request id is the first four octets of
    the source data -/
theorem C15_unpack_sound (d : Bytes) (n sb eb : Nat) (s : S1Tm) (h : S1Tm.unpack d n sb eb = .ok s) :
    Tm.unpack d n = .ok s.tm ∧ (1 ≤ s.tm.sec.subservice ∧ s.tm.sec.subservice ≤ 8) ∧
    Matches s.params s.tm.sec.subservice ∧ 4 ≤ s.tm.sourceData.length ∧
    ReqId.unpack s.tm.sourceData = .ok s.params.reqId := by
  obtain ⟨tm, ht, h⟩ := bind_ok_inv h
  by_cases h4 : tm.sourceData.length < 4
  · rw [unpackRaw_short tm sb eb h4] at h; cases h
  have h4 : 4 ≤ tm.sourceData.length := by omega
  rw [unpackRaw_eq tm sb eb h4] at h
  obtain ⟨req, hr, h⟩ := bind_ok_inv h
  rw [show slice tm.sourceData 0 4 = tm.sourceData.take 4 from rfl, ReqId.unpack_take _ h4] at hr
  -- one branch per kind of report; in each the decoded set has the shape `Matches` asks for
  suffices ∃ st fl, s = ⟨tm, ⟨req, st, fl⟩⟩ ∧
      ((fl : Option FailureNotice).isSome = true ↔ tm.sec.subservice % 2 = 0) ∧
      ((st : Option Pfe).isSome = true ↔ tm.sec.subservice = 5 ∨ tm.sec.subservice = 6) ∧
      1 ≤ tm.sec.subservice ∧ tm.sec.subservice ≤ 8 by
    obtain ⟨st, fl, rfl, m1, m2, hs⟩ := this
    exact ⟨ht, hs, ⟨m1, m2⟩, h4, hr⟩
  by_cases c1 : tm.sec.subservice = 1 ∨ tm.sec.subservice = 3 ∨ tm.sec.subservice = 7
  · rw [if_pos c1] at h
    exact ⟨none, none, (Except.ok.inj h).symm, ⟨nofun, fun _ => by omega⟩, ⟨nofun, fun _ => by omega⟩, by omega⟩
  by_cases c2 : tm.sec.subservice = 5
  · rw [if_neg c1, if_pos c2] at h
    obtain ⟨st, -, h⟩ := bind_ok_inv h
    exact ⟨some st, none, (Except.ok.inj h).symm, ⟨nofun, fun _ => by omega⟩, ⟨fun _ => .inl c2, fun _ => rfl⟩,
      by omega⟩
  by_cases c3 : tm.sec.subservice = 2 ∨ tm.sec.subservice = 4 ∨ tm.sec.subservice = 8
  · rw [if_neg c1, if_neg c2, if_pos c3] at h
    by_cases g : tm.sourceData.length < eb
    · rw [if_pos g] at h; cases h
    rw [if_neg g] at h
    obtain ⟨fn, -, h⟩ := bind_ok_inv h
    exact ⟨none, some fn, (Except.ok.inj h).symm, ⟨fun _ => by omega, fun _ => rfl⟩, ⟨nofun, fun _ => by omega⟩,
      by omega⟩
  by_cases c4 : tm.sec.subservice = 6
  · rw [if_neg c1, if_neg c2, if_neg c3, if_pos c4] at h
    by_cases g : tm.sourceData.length < eb + sb
    · rw [if_pos g] at h; cases h
    rw [if_neg g] at h
    obtain ⟨st, -, h⟩ := bind_ok_inv h
    obtain ⟨fn, -, h⟩ := bind_ok_inv h
    exact ⟨some st, some fn, (Except.ok.inj h).symm, ⟨fun _ => by omega, fun _ => rfl⟩,
      ⟨fun _ => .inr c4, fun _ => rfl⟩, by omega⟩
  · rw [if_neg c1, if_neg c2, if_neg c3, if_neg c4] at h; cases h

/-- any octet string, any timestamp length, any configured widths: the report decoder fails only
    with documented errors (ValueError family, CRC error) -/
theorem C15_unpack_documented (d : Bytes) (n sb eb : Nat) : Documented (S1Tm.unpack d n sb eb) := by
  unfold S1Tm.unpack
  exact Documented.bind (C03.C03_documented d n) (fun tm _ => unpackRaw_documented tm sb eb)

-- non-vacuity: a step-failure report with a 2-octet step id, a 4-octet error code and failure data,
-- request id with version bits 5; a completion-success report; a mismatching set
example : WFParams ⟨⟨5, ⟨1, 1, 0x7AB⟩, ⟨2, 0x2BCD⟩⟩, some ⟨16, 0xBEEF⟩, some ⟨⟨32, 0xDEADBEEF⟩, [1, 2, 3]⟩⟩ ∧
    ExactParams ⟨⟨5, ⟨1, 1, 0x7AB⟩, ⟨2, 0x2BCD⟩⟩, some ⟨16, 0xBEEF⟩, some ⟨⟨32, 0xDEADBEEF⟩, [1, 2, 3]⟩⟩ ∧
    Matches ⟨⟨5, ⟨1, 1, 0x7AB⟩, ⟨2, 0x2BCD⟩⟩, some ⟨16, 0xBEEF⟩, some ⟨⟨32, 0xDEADBEEF⟩, [1, 2, 3]⟩⟩ 6 := by
  refine ⟨⟨by decide, ?_, ?_⟩, ⟨?_, ?_⟩, by decide⟩
  · intro s h; cases h; decide
  · intro n h; cases h; unfold WFNotice; decide
  · intro s h; cases h; decide
  · intro n h; cases h; decide

example : Spec.sourceData ⟨⟨5, ⟨1, 1, 0x7AB⟩, ⟨2, 0x2BCD⟩⟩, some ⟨16, 0xBEEF⟩, some ⟨⟨32, 0xDEADBEEF⟩, [1, 2, 3]⟩⟩
    = [0xBF, 0xAB, 0xAB, 0xCD, 0xBE, 0xEF, 0xDE, 0xAD, 0xBE, 0xEF, 1, 2, 3] := by decide

example : Matches ⟨ReqId.empty, none, none⟩ 7 ∧ ¬ Matches ⟨ReqId.empty, some ⟨8, 1⟩, none⟩ 7 ∧
    ¬ Matches ⟨ReqId.empty, none, none⟩ 8 := by decide

/-- request id, packed form: in-range ids with the same four octets are the same id (consequence of
    `C15_reqid_roundtrip`; the 32-bit integer form is `C15_reqid_eq`) -/
theorem C15_reqid_octets_injective (a b : ReqId) (wa : WFReq a) (wb : WFReq b)
    (he : Spec.reqOctets a = Spec.reqOctets b) : a = b := by
  exact ok_unique (C15_reqid_roundtrip a wa []) (C15_reqid_roundtrip b wb []) (congrArg (· ++ []) he)

/-- the three forms agree: in-range request ids are equal iff `pack()` gives the same octets iff
    `as_u32()` gives the same 32-bit value -/
theorem C15_reqid_pack_injective (a b : ReqId) (wa : WFReq a) (wb : WFReq b) :
    (a.pack = b.pack ↔ a = b) ∧ (a.pack = b.pack ↔ a.asU32 = b.asU32) := by
  have h1 : a.pack = b.pack ↔ a = b := by
    refine ⟨fun he => ?_, fun he => by rw [he]⟩
    rw [C15_req_pack a wa, C15_req_pack b wb] at he
    exact C15_reqid_octets_injective a b wa wb (Except.ok.inj he)
  exact ⟨h1, h1.trans (C15_reqid_eq a b wa wb).2.symm⟩

-- non-vacuity: two distinct in-range request ids, distinct octets
example : WFReq ⟨0, ⟨1, 0, 5⟩, ⟨3, 7⟩⟩ ∧ WFReq ⟨0, ⟨1, 0, 5⟩, ⟨3, 8⟩⟩ ∧
    Spec.reqOctets ⟨0, ⟨1, 0, 5⟩, ⟨3, 7⟩⟩ ≠ Spec.reqOctets ⟨0, ⟨1, 0, 5⟩, ⟨3, 8⟩⟩ := by decide

end SpVerif.Props.C15
