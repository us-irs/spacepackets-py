import SpVerif.Proofs.Prefix
import SpVerif.Proofs.PrefixPdu
import SpVerif.Props.C12
/-!
# C09 — decoders never read past the declared packet; trailing octets cannot leak in

The decoders are the models of C01/C02/C03/C05/C08/C14/C15/C17/C20 (the definitions the driver
executes and the owning properties tie to `/repo`); the codec table and the splitters are in
`Model/Prefix.lean`, the locality lemmas in `Proofs/Prefix.lean`.

For every self-delimiting unit kind `U`, `C09_U` says, for **every** buffer `d` the decoder accepts (not
only packed ones): the length `N` the decoded object reports lies inside `d`, decoding just `d[:N]`
gives the same object, and so does `d[:N]` followed by any octets, and any buffer that agrees with `d`
on `d[:N]`. A concatenation of packed units (one kind, or mixed kinds) is split into exactly those
units by "decode, drop the reported length" — induction over the list, no bound on the count.

The two filestore TLV classes report the length of their *re-encoding* (`common_packet_len`). `from_tlv`
refuses a value field that holds anything after the names / the message LV, so for every accepted
buffer that length is the declared TLV length and the uniform statement holds for them too.
-/
namespace SpVerif.Props.C09
open SpVerif SpVerif.Prefix SpVerif.SpacePacket SpVerif.PusTc SpVerif.PusTm SpVerif.Srv1 SpVerif.CfdpHeader
  SpVerif.Lv SpVerif.Tlv SpVerif.Uslp

/-- the uniform shape of the per-unit statement -/
def PrefixOnly {α : Type} (dec : Bytes → Py α) (d : Bytes) (r : α) (n : Nat) : Prop :=
  n ≤ d.length ∧ dec (d.take n) = .ok r ∧ (∀ s : Bytes, dec (d.take n ++ s) = .ok r) ∧
    ∀ d' : Bytes, d'.take n = d.take n → n ≤ d'.length → dec d' = .ok r

private theorem prefixOnly_of {α : Type} {dec : Bytes → Py α} {d : Bytes} {r : α} {n : Nat}
    (h : LocalOn dec d r n) : PrefixOnly dec d r n :=
  ⟨h.1, h.take, h.take_append, h.2⟩

/-- a packed unit of kind `k`: a buffer the decoder of `k` accepts with result `r`, whose length is
    exactly the length `r` reports (decidable; what `pack()` produces) -/
def PackedUnit (k : Kind) (p : Bytes) (r : Decoded) : Prop := k.decode p = .ok r ∧ r.len = p.length

instance (k : Kind) (p : Bytes) (r : Decoded) : Decidable (PackedUnit k p r) := by
  unfold PackedUnit; infer_instance

/-- space packet primary header (`SpacePacketHeader.unpack`, `header_len` = 6) -/
theorem C09_sph (d : Bytes) (h : Sph) (hu : Sph.unpack d = .ok h) : PrefixOnly Sph.unpack d h 6 :=
  prefixOnly_of (sph_local d h hu)

/-- PUS telecommand (`PusTc.unpack`, `packet_len`) -/
theorem C09_tc (d : Bytes) (t : Tc) (hu : Tc.unpack d = .ok t) : PrefixOnly Tc.unpack d t t.packetLen :=
  prefixOnly_of (tc_local d t hu)

/-- PUS telemetry, any timestamp length handed to the decoder (`PusTm.unpack`, `packet_len`) -/
theorem C09_tm (ts : Nat) (d : Bytes) (t : Tm) (hu : Tm.unpack d ts = .ok t) :
    PrefixOnly (fun d => Tm.unpack d ts) d t t.packetLen :=
  prefixOnly_of (tm_local ts d t hu)

/-- service-17 wrapper (`Service17Tm.unpack`) -/
theorem C09_s17 (ts : Nat) (d : Bytes) (t : Tm) (hu : srv17Unpack d ts = .ok t) :
    PrefixOnly (fun d => srv17Unpack d ts) d t t.packetLen :=
  prefixOnly_of (s17_local ts d t hu)

/-- service-1 verification report, any timestamp length and field widths (`Service1Tm.unpack`) -/
theorem C09_s1 (ts sb eb : Nat) (d : Bytes) (s : S1Tm) (hu : S1Tm.unpack d ts sb eb = .ok s) :
    PrefixOnly (fun d => S1Tm.unpack d ts sb eb) d s s.tm.packetLen :=
  prefixOnly_of (s1_local ts sb eb d s hu)

/-- CDS short timestamp (`CdsShortTimestamp.unpack_from_raw`, `len_packed` = 7) -/
theorem C09_cds (d : Bytes) (s : Cds.Stamp) (hu : Cds.unpackFromRaw d = .ok s) :
    PrefixOnly Cds.unpackFromRaw d s 7 :=
  prefixOnly_of (cds_local d s hu)

/-- request id (`RequestId.unpack`, four octets) -/
theorem C09_req_id (d : Bytes) (r : ReqId) (hu : ReqId.unpack d = .ok r) : PrefixOnly ReqId.unpack d r 4 :=
  prefixOnly_of (reqId_local d r hu)

/-- packet field enumeration (`PacketFieldEnum.unpack(data, pfc)`, `len()`) -/
theorem C09_field_enum (pfc : Nat) (d : Bytes) (f : Pfe) (hu : Pfe.unpack d pfc = .ok f) :
    PrefixOnly (fun d => Pfe.unpack d pfc) d f (roundDiv8 f.pfc) :=
  prefixOnly_of (pfe_local pfc d f hu)

/-- CFDP fixed PDU header (`PduHeader.unpack`, `header_len`) -/
theorem C09_cfdp_header (d : Bytes) (h : PduHeader) (hu : PduHeader.unpack d = .ok h) :
    PrefixOnly PduHeader.unpack d h h.headerLen :=
  prefixOnly_of (cfdpHdr_local d h hu)

/-- LV (`CfdpLv.unpack`, `packet_len`) -/
theorem C09_lv (d : Bytes) (l : CfdpLv) (hu : CfdpLv.unpack d = .ok l) : PrefixOnly CfdpLv.unpack d l l.packetLen :=
  prefixOnly_of (lv_local d l hu)

/-- generic TLV (`CfdpTlv.unpack`, `packet_len`) -/
theorem C09_tlv (d : Bytes) (t : CfdpTlv) (hu : CfdpTlv.unpack d = .ok t) :
    PrefixOnly CfdpTlv.unpack d t t.packetLen :=
  prefixOnly_of (tlv_local d t hu)

theorem C09_entity_id (d : Bytes) (t : EntityIdTlv) (hu : EntityIdTlv.unpack d = .ok t) :
    PrefixOnly EntityIdTlv.unpack d t t.packetLen :=
  prefixOnly_of (entityId_local d t hu)

theorem C09_flow_label (d : Bytes) (t : FlowLabelTlv) (hu : FlowLabelTlv.unpack d = .ok t) :
    PrefixOnly FlowLabelTlv.unpack d t t.packetLen :=
  prefixOnly_of (flowLabel_local d t hu)

theorem C09_msg_to_user (d : Bytes) (t : MessageToUserTlv) (hu : MessageToUserTlv.unpack d = .ok t) :
    PrefixOnly MessageToUserTlv.unpack d t t.packetLen :=
  prefixOnly_of (msgToUser_local d t hu)

theorem C09_fault_handler (d : Bytes) (t : FaultHandlerOverrideTlv)
    (hu : FaultHandlerOverrideTlv.unpack d = .ok t) :
    PrefixOnly FaultHandlerOverrideTlv.unpack d t t.packetLen :=
  prefixOnly_of (faultHandler_local d t hu)

/-- filestore request TLV, on the **declared** TLV length (two octets plus the length octet's value) -/
theorem C09_fs_request (d : Bytes) (t : FileStoreRequestTlv) (hu : FileStoreRequestTlv.unpack d = .ok t) :
    t.packetLen ≤ tlvDeclaredLen d ∧ PrefixOnly FileStoreRequestTlv.unpack d t (tlvDeclaredLen d) := by
  rw [← fsRequest_len_declared hu]
  exact ⟨Nat.le_refl _, prefixOnly_of (fsRequest_local d t hu)⟩

/-- … which is the reported length for every accepted buffer (slack inside the value field is refused) -/
theorem C09_fs_request_exact (d : Bytes) (t : FileStoreRequestTlv) (hu : FileStoreRequestTlv.unpack d = .ok t) :
    t.packetLen = tlvDeclaredLen d ∧ PrefixOnly FileStoreRequestTlv.unpack d t t.packetLen :=
  ⟨fsRequest_len_declared hu, prefixOnly_of (fsRequest_local d t hu)⟩

theorem C09_fs_response (d : Bytes) (t : FileStoreResponseTlv) (hu : FileStoreResponseTlv.unpack d = .ok t) :
    t.packetLen ≤ tlvDeclaredLen d ∧ PrefixOnly FileStoreResponseTlv.unpack d t (tlvDeclaredLen d) := by
  rw [← fsResponse_len_declared hu]
  exact ⟨Nat.le_refl _, prefixOnly_of (fsResponse_local d t hu)⟩

theorem C09_fs_response_exact (d : Bytes) (t : FileStoreResponseTlv)
    (hu : FileStoreResponseTlv.unpack d = .ok t) :
    t.packetLen = tlvDeclaredLen d ∧ PrefixOnly FileStoreResponseTlv.unpack d t t.packetLen :=
  ⟨fsResponse_len_declared hu, prefixOnly_of (fsResponse_local d t hu)⟩

/-- a request TLV that declares 12 octets and whose value holds three octets after the file name (its
    re-encoding would be 9 octets long) is refused: `from_tlv` requires the value field to end with
    the names / the message LV (/repo commit d425927) -/
theorem C09_fs_request_slack_witness :
    FileStoreRequestTlv.unpack [0, 10, 0, 5, 0x61, 0x2E, 0x74, 0x78, 0x74, 1, 2, 3] = .error .value := by
  decide

/-- a packed filestore TLV (buffer length = reported length) reports the declared length -/
theorem C09_fs_packed_exact (d : Bytes) :
    (∀ t, FileStoreRequestTlv.unpack d = .ok t → t.packetLen = d.length → t.packetLen = tlvDeclaredLen d) ∧
    (∀ t, FileStoreResponseTlv.unpack d = .ok t → t.packetLen = d.length → t.packetLen = tlvDeclaredLen d) :=
  ⟨fun _ hu _ => fsRequest_len_declared hu, fun _ hu _ => fsResponse_len_declared hu⟩

/-- USLP primary header, any VCF count length 0..7 (`PrimaryHeader.unpack`, `len()`); errors are
    viewed in the shared categories (`UPy.toPy`) -/
theorem C09_uslp_primary (ver : Nat) (d : Bytes) (h : PrimaryHeader) (hu : PrimaryHeader.unpack d ver = .ok h) :
    PrefixOnly (fun d => (PrimaryHeader.unpack d ver).toPy) d h h.len :=
  prefixOnly_of (uslpPrimary_local ver d h (toPy_ok_iff.2 hu))

/-- USLP truncated header (`TruncatedPrimaryHeader.unpack`, `len()` = 4) -/
theorem C09_uslp_truncated (ver : Nat) (d : Bytes) (h : TruncatedHeader)
    (hu : TruncatedHeader.unpack d ver = .ok h) :
    PrefixOnly (fun d => (TruncatedHeader.unpack d ver).toPy) d h 4 :=
  prefixOnly_of (uslpTruncated_local ver d h (toPy_ok_iff.2 hu))

/-- byte fields read from a stream (`ByteFieldGenerator.from_bytes(n, stream)`, hence
    `from_u8_bytes` … `from_u64_bytes`; `byte_len`) -/
theorem C09_byte_field (n : Nat) (d : Bytes) (f : ByteField.Field)
    (hu : ByteField.genFromBytes (n : Int) d = .ok f) :
    PrefixOnly (fun d => ByteField.genFromBytes (n : Int) d) d f f.width :=
  prefixOnly_of (byteField_local n d f hu)

/-- the four subclass readers are the generator at their width -/
theorem C09_byte_field_readers (d : Bytes) :
    ByteField.fromU8Bytes d = ByteField.genFromBytes 1 d ∧ ByteField.fromU16Bytes d = ByteField.genFromBytes 2 d ∧
    ByteField.fromU32Bytes d = ByteField.genFromBytes 4 d ∧ ByteField.fromU64Bytes d = ByteField.genFromBytes 8 d :=
  ⟨rfl, rfl, rfl, rfl⟩

/-- **every kind of the table** (all twenty, the two filestore TLV classes included): every accepted
    buffer is determined by its first `len` octets, `len` being the length the decoded object reports -/
theorem C09_kind (k : Kind) (d : Bytes) (r : Decoded) (hu : k.decode d = .ok r) :
    PrefixOnly k.decode d r r.len :=
  prefixOnly_of (Kind.local k d r hu)

/-- **a unit followed by anything decodes as the unit alone** — every kind, every accepted buffer -/
theorem C09_suffix (k : Kind) (d : Bytes) (r : Decoded) (hu : k.decode d = .ok r) (s : Bytes) :
    k.decode (d ++ s) = k.decode d := by
  rw [hu]; exact Kind.extends k d r s hu

/-- in particular `decode (pack x ‖ s) = decode (pack x)` for every packed unit of every kind, and
    the packed unit is recovered from the front of the longer buffer by the reported length -/
theorem C09_packed_suffix (k : Kind) (p : Bytes) (r : Decoded) (hp : PackedUnit k p r) (s : Bytes) :
    k.decode (p ++ s) = .ok r ∧ (p ++ s).take r.len = p ∧ (p ++ s).drop r.len = s := by
  refine ⟨Kind.extends k p r s hp.1, ?_, ?_⟩
  · rw [hp.2]; exact List.take_left' rfl
  · rw [hp.2]; exact List.drop_left' rfl

/-- **one kind**: `n` packed units of kind `k` followed by any tail are split into exactly those
    units and that tail by iterating "decode, drop the reported length". Induction over the list:
    no bound on the number of units. -/
theorem C09_split (k : Kind) (units : List (Bytes × Decoded)) (hp : ∀ u ∈ units, PackedUnit k u.1 u.2)
    (tail : Bytes) :
    splitN k.codec units.length ((units.map (·.1)).flatten ++ tail) = .ok (units.map (·.2), tail) :=
  splitN_concat k.codec (Kind.extends k) units hp tail

/-- **mixed kinds**: the same for a buffer whose units are of different kinds -/
theorem C09_split_mixed (units : List (Kind × Bytes × Decoded))
    (hp : ∀ u ∈ units, PackedUnit u.1 u.2.1 u.2.2) (tail : Bytes) :
    splitKinds (units.map (·.1)) ((units.map (·.2.1)).flatten ++ tail) = .ok (units.map (·.2.2), tail) :=
  splitKinds_concat units hp tail

/-- **until the buffer is exhausted**: without knowing the number of units in advance; the fuel of
    `splitStream` (buffer length + 1) is never exhausted -/
theorem C09_split_stream (k : Kind) (units : List (Bytes × Decoded)) (hp : ∀ u ∈ units, PackedUnit k u.1 u.2)
    (hpos : ∀ u ∈ units, 0 < u.1.length) :
    splitStream k.codec (units.map (·.1)).flatten = .ok (units.map (·.2)) :=
  splitStream_concat k.codec (Kind.extends k) units hp hpos

/-- the typed form, for any codec that never looks beyond an accepted buffer (reusable for the CFDP
    PDU kinds and by C12): with the result type of the codec, not the sum type of the table -/
theorem C09_split_codec {α : Type} (c : Codec α) (he : Extends c) (units : List (Bytes × α))
    (hp : ∀ u ∈ units, c.decode u.1 = .ok u.2 ∧ c.len u.2 = u.1.length) (tail : Bytes) :
    splitN c units.length ((units.map (·.1)).flatten ++ tail) = .ok (units.map (·.2), tail) :=
  splitN_concat c he units hp tail

/-- no decoder of the table accepts the empty buffer, so a packed unit is at least one octet long
    and `splitStream` always makes progress: the hypothesis `hpos` of `C09_split_stream` is
    automatically met -/
theorem C09_packed_nonempty (k : Kind) (p : Bytes) (r : Decoded) (hp : PackedUnit k p r) : 0 < p.length := by
  cases p with
  | cons x xs => simp
  | nil => exact absurd hp.1 (Kind.decode_nil k r)

theorem C09_split_stream_packed (k : Kind) (units : List (Bytes × Decoded))
    (hp : ∀ u ∈ units, PackedUnit k u.1 u.2) :
    splitStream k.codec (units.map (·.1)).flatten = .ok (units.map (·.2)) :=
  C09_split_stream k units hp (fun u hu => C09_packed_nonempty k u.1 u.2 (hp u hu))

/-! ## `decode (pack x ‖ s) = decode (pack x)`, stated on the prescribed octets of the owning properties

`Spec.octets x` is what `pack x` returns for every valid `x` (`C0x_pack_exact`). Together with the
length clause each line says: the packed unit is recovered from the front of any longer buffer. -/

theorem C09_pack_sph (h : Sph) (wf : C01.WF h) (s : Bytes) :
    Sph.unpack (C01.Spec.octets h ++ s) = Sph.unpack (C01.Spec.octets h) ∧
    Sph.unpack (C01.Spec.octets h) = .ok h ∧ (C01.Spec.octets h).length = 6 :=
  have h0 := suffix_irrelevant (C01.C01_unpack_pack h wf) s
  ⟨h0.1, h0.2, rfl⟩

theorem C09_pack_tc (t : Tc) (wf : C02.WF t) (s : Bytes) :
    Tc.unpack (C02.Spec.octets t ++ s) = Tc.unpack (C02.Spec.octets t) ∧
    Tc.unpack (C02.Spec.octets t) = .ok t ∧ (C02.Spec.octets t).length = t.packetLen :=
  have h0 := suffix_irrelevant (C02.C02_roundtrip t wf) s
  ⟨h0.1, h0.2, (C02.C02_len t wf).1⟩

theorem C09_pack_tm (t : Tm) (wf : C03.WF t) (s : Bytes) :
    Tm.unpack (C03.Spec.octets t ++ s) t.sec.timestamp.length = Tm.unpack (C03.Spec.octets t) t.sec.timestamp.length ∧
    Tm.unpack (C03.Spec.octets t) t.sec.timestamp.length = .ok t ∧ (C03.Spec.octets t).length = t.packetLen :=
  have h0 := suffix_irrelevant (dec := fun d => Tm.unpack d _) (C03.C03_roundtrip t wf) s
  ⟨h0.1, h0.2, (C03.C03_len t wf).1⟩

theorem C09_pack_cds (x : Cds.Stamp) (wf : C14.WF x) (s : Bytes) :
    Cds.unpackFromRaw (C14.Spec.octets x ++ s) = Cds.unpackFromRaw (C14.Spec.octets x) ∧
    Cds.unpackFromRaw (C14.Spec.octets x) = .ok x ∧ (C14.Spec.octets x).length = 7 :=
  have h0 := suffix_irrelevant (C14.C14_roundtrip x wf) s
  ⟨h0.1, h0.2, rfl⟩

theorem C09_pack_req_id (r : ReqId) (wf : C15.WFReq r) (s : Bytes) :
    ReqId.unpack (C15.Spec.reqOctets r ++ s) = ReqId.unpack (C15.Spec.reqOctets r) ∧
    ReqId.unpack (C15.Spec.reqOctets r) = .ok r ∧ (C15.Spec.reqOctets r).length = 4 :=
  have h0 := suffix_irrelevant (C15.C15_reqid_roundtrip r wf) s
  ⟨h0.1, h0.2, rfl⟩

theorem C09_pack_cfdp_header (h : PduHeader) (wf : C05.WF h) (s : Bytes) :
    PduHeader.unpack (C05.Spec.octets h ++ s) = PduHeader.unpack (C05.Spec.octets h) ∧
    PduHeader.unpack (C05.Spec.octets h) = .ok h ∧ (C05.Spec.octets h).length = h.headerLen :=
  have h0 := suffix_irrelevant (C05.C05_roundtrip h wf) s
  ⟨h0.1, h0.2, (C05.C05_len h wf).1⟩

theorem C09_pack_lv (v : Bytes) (wf : C08.WFValue v) (s : Bytes) :
    CfdpLv.unpack (C08.Spec.lv v ++ s) = CfdpLv.unpack (C08.Spec.lv v) ∧
    CfdpLv.unpack (C08.Spec.lv v) = .ok ⟨v⟩ ∧ (C08.Spec.lv v).length = (CfdpLv.mk v).packetLen :=
  have h0 := suffix_irrelevant (fun s => (C08.C08_lv_roundtrip v s wf).1) s
  ⟨h0.1, h0.2, by simp [C08.Spec.lv, CfdpLv.packetLen]⟩

theorem C09_pack_tlv (t : Nat) (v : Bytes) (ht : C08.WFType t) (wf : C08.WFValue v) (s : Bytes) :
    CfdpTlv.unpack (C08.Spec.tlv t v ++ s) = CfdpTlv.unpack (C08.Spec.tlv t v) ∧
    CfdpTlv.unpack (C08.Spec.tlv t v) = .ok ⟨t, v⟩ ∧ (C08.Spec.tlv t v).length = (CfdpTlv.mk t v).packetLen :=
  have h0 := suffix_irrelevant (fun s => (C08.C08_tlv_roundtrip t v s ht wf).1) s
  ⟨h0.1, h0.2, by simp [C08.Spec.tlv, CfdpTlv.packetLen]; omega⟩

theorem C09_pack_uslp_primary (h : PrimaryHeader) (wf : C17.WFHdr h) (s : Bytes) :
    PrimaryHeader.unpack (C17.Spec.hdrOctets h ++ s) = PrimaryHeader.unpack (C17.Spec.hdrOctets h) ∧
    PrimaryHeader.unpack (C17.Spec.hdrOctets h) = .ok (C17.normHdr h) ∧
    (C17.Spec.hdrOctets h).length = (C17.normHdr h).len := by
  have h0 := suffix_irrelevant (dec := fun d => PrimaryHeader.unpack d) (C17.C17_hdr_roundtrip h wf) s
  refine ⟨h0.1, h0.2, ?_⟩
  rw [(C17.C17_hdr_exact h wf).2.1]
  unfold C17.normHdr PrimaryHeader.len
  split <;> rfl

theorem C09_pack_uslp_truncated (h : TruncatedHeader) (wf : C17.WFTHdr h) (s : Bytes) :
    TruncatedHeader.unpack (C17.Spec.thdrOctets h ++ s) = TruncatedHeader.unpack (C17.Spec.thdrOctets h) ∧
    TruncatedHeader.unpack (C17.Spec.thdrOctets h) = .ok h ∧ (C17.Spec.thdrOctets h).length = h.len :=
  have h0 := suffix_irrelevant (dec := fun d => TruncatedHeader.unpack d) (C17.C17_thdr_roundtrip h wf) s
  ⟨h0.1, h0.2, rfl⟩

theorem C09_pack_byte_field (w v : Nat) (wf : C20.WF w v) (h0 : w ≠ 0) (s : Bytes) :
    ByteField.genFromBytes (w : Int) (C20.Spec.octets w v ++ s) = ByteField.genFromBytes (w : Int) (C20.Spec.octets w v) ∧
    ByteField.genFromBytes (w : Int) (C20.Spec.octets w v) = .ok ⟨w, v, C20.Spec.octets w v⟩ :=
  suffix_irrelevant (dec := fun d => ByteField.genFromBytes (w : Int) d) (fun s => (C20.C20_roundtrip w v wf h0 s).2) s

/-- service-17 wrapper: the decoder is `PusTm.unpack` (C03) -/
theorem C09_pack_s17 (t : Tm) (wf : C03.WF t) (s : Bytes) :
    srv17Unpack (C03.Spec.octets t ++ s) t.sec.timestamp.length = srv17Unpack (C03.Spec.octets t) t.sec.timestamp.length ∧
    srv17Unpack (C03.Spec.octets t) t.sec.timestamp.length = .ok t ∧ (C03.Spec.octets t).length = t.packetLen :=
  C09_pack_tm t wf s

/-- service-1 report, every subservice 1..8, every accepted PFC (decoded with the widths of its own
    fields; the decoded parameter set is `C15.normParams p`, `p` itself when all PFCs are 8 × width) -/
theorem C09_pack_s1 (apid sub count ver ref dst : Nat) (ts : Bytes) (p : VParams)
    (ha : apid < 2048) (hc : count < 16384) (hsub : 1 ≤ sub ∧ sub ≤ 8) (hv : ver < 8) (hr : ref < 16)
    (hd : dst < 65536) (hl : ts.length + (C15.Spec.sourceData p).length ≤ 65527)
    (wp : C15.WFParams p) (hm : C15.Matches p sub) (sb eb : Nat)
    (hsb : ∀ f, p.stepId = some f → sb = C15.fieldWidth f)
    (heb : ∀ n, p.failure = some n → eb = C15.fieldWidth n.code) (s : Bytes) :
    S1Tm.unpack (C15.Spec.reportOctets apid sub count ver ref dst ts p ++ s) ts.length sb eb
      = S1Tm.unpack (C15.Spec.reportOctets apid sub count ver ref dst ts p) ts.length sb eb ∧
    S1Tm.unpack (C15.Spec.reportOctets apid sub count ver ref dst ts p) ts.length sb eb
      = .ok ⟨C15.Spec.reportTm apid sub count ver ref dst ts p, C15.normParams p⟩ ∧
    (C15.Spec.reportOctets apid sub count ver ref dst ts p).length
      = (C15.Spec.reportTm apid sub count ver ref dst ts p).packetLen := by
  have h0 := suffix_irrelevant (dec := fun d => S1Tm.unpack d _ sb eb) (fun s =>
    (C15.C15_report_roundtrip_any_pfc apid sub count ver ref dst ts p ha hc hsub hv hr hd hl wp hm sb eb hsb heb s).1) s
  exact ⟨h0.1, h0.2,
    (C03.C03_len _ (C15.reportTm_wf apid sub count ver ref dst ts p ha hc (by omega) hv hr hd hl)).1⟩

/-- packet field enumeration, every accepted PFC (decoded with its width) -/
theorem C09_pack_field_enum (f : Pfe) (wf : C15.WFField f) (s : Bytes) :
    Pfe.unpack (C15.Spec.fieldOctets f ++ s) (C15.fieldWidth f * 8)
      = Pfe.unpack (C15.Spec.fieldOctets f) (C15.fieldWidth f * 8) ∧
    Pfe.unpack (C15.Spec.fieldOctets f) (C15.fieldWidth f * 8) = .ok (C15.normField f) ∧
    (C15.Spec.fieldOctets f).length = roundDiv8 (C15.normField f).pfc :=
  have h0 := suffix_irrelevant (dec := fun d => Pfe.unpack d _) (fun s => (C15.C15_field_roundtrip_any_pfc f wf s).1) s
  ⟨h0.1, h0.2, by rw [C15.fieldOctets_length]; exact (C15.normField_width f).symm⟩

theorem C09_pack_entity_id (v : Bytes) (wf : C08.WFValue v) (s : Bytes) :
    EntityIdTlv.unpack (C08.Spec.entityId v ++ s) = EntityIdTlv.unpack (C08.Spec.entityId v) ∧
    EntityIdTlv.unpack (C08.Spec.entityId v) = EntityIdTlv.new v ∧
    (EntityIdTlv.new v >>= fun e => pure e.packetLen) = .ok (C08.Spec.entityId v).length :=
  have h0 := suffix_irrelevant (fun s => C08.C08_entity_id_roundtrip v s wf) s
  ⟨h0.1, h0.2, (C08.C08_entity_id_pack_exact v wf).2⟩

theorem C09_pack_flow_label (v : Bytes) (wf : C08.WFValue v) (s : Bytes) :
    FlowLabelTlv.unpack (C08.Spec.flowLabel v ++ s) = FlowLabelTlv.unpack (C08.Spec.flowLabel v) ∧
    FlowLabelTlv.unpack (C08.Spec.flowLabel v) = FlowLabelTlv.new v ∧
    (FlowLabelTlv.new v >>= fun e => pure e.packetLen) = .ok (C08.Spec.flowLabel v).length :=
  have h0 := suffix_irrelevant (fun s => C08.C08_flow_label_roundtrip v s wf) s
  ⟨h0.1, h0.2, (C08.C08_flow_label_pack_exact v wf).2⟩

theorem C09_pack_msg_to_user (v : Bytes) (wf : C08.WFValue v) (s : Bytes) :
    MessageToUserTlv.unpack (C08.Spec.msgToUser v ++ s) = MessageToUserTlv.unpack (C08.Spec.msgToUser v) ∧
    MessageToUserTlv.unpack (C08.Spec.msgToUser v) = MessageToUserTlv.new v ∧
    (MessageToUserTlv.new v >>= fun e => pure e.packetLen) = .ok (C08.Spec.msgToUser v).length :=
  have h0 := suffix_irrelevant (fun s => C08.C08_msg_to_user_roundtrip v s wf) s
  ⟨h0.1, h0.2, (C08.C08_msg_to_user_pack_exact v wf).2⟩

theorem C09_pack_fault_handler (cc hc : Nat) (hcc : cc < 16) (hhc : hc < 16) (s : Bytes) :
    FaultHandlerOverrideTlv.unpack (C08.Spec.faultHandler cc hc ++ s)
      = FaultHandlerOverrideTlv.unpack (C08.Spec.faultHandler cc hc) ∧
    FaultHandlerOverrideTlv.unpack (C08.Spec.faultHandler cc hc) = FaultHandlerOverrideTlv.new (cc : Int) hc ∧
    (FaultHandlerOverrideTlv.new (cc : Int) hc >>= fun e => pure e.packetLen) = .ok 3 ∧
    (C08.Spec.faultHandler cc hc).length = 3 :=
  have h0 := suffix_irrelevant (C08.C08_fault_handler_roundtrip cc hc hcc hhc) s
  ⟨h0.1, h0.2, (C08.C08_fault_handler_pack_exact cc hc hcc hhc).2, rfl⟩

theorem C09_pack_fs_request (r : FileStoreRequestTlv) (wf : C08.WFReq r) (s : Bytes) :
    FileStoreRequestTlv.unpack (C08.Spec.fsRequest r ++ s) = FileStoreRequestTlv.unpack (C08.Spec.fsRequest r) ∧
    FileStoreRequestTlv.unpack (C08.Spec.fsRequest r) = .ok r ∧ (C08.Spec.fsRequest r).length = r.packetLen :=
  have h0 := suffix_irrelevant (C08.C08_fs_request_roundtrip r wf) s
  ⟨h0.1, h0.2, C08.C08_fs_request_len r _ (C08.C08_fs_request_pack_exact r wf)⟩

theorem C09_pack_fs_response (r : FileStoreResponseTlv) (wf : C08.WFResp r) (s : Bytes) :
    FileStoreResponseTlv.unpack (C08.Spec.fsResponse r ++ s) = FileStoreResponseTlv.unpack (C08.Spec.fsResponse r) ∧
    FileStoreResponseTlv.unpack (C08.Spec.fsResponse r) = .ok r ∧ (C08.Spec.fsResponse r).length = r.packetLen :=
  have h0 := suffix_irrelevant (C08.C08_fs_response_roundtrip r wf) s
  ⟨h0.1, h0.2, C08.C08_fs_response_len r _ (C08.C08_fs_response_pack_exact r wf)⟩

-- a telecommand (service 17, subservice 1, two octets of data) is a packed unit of kind `tc`
example : ∃ p r, PackedUnit .tc p r ∧ p.length = 15 := by
  have wf : C02.WF ⟨⟨0, 1, 1, 0x7FF, 3, 16383, 8⟩, ⟨0b1010, 17, 1, 0xBEEF⟩, [1, 2]⟩ := by
    refine ⟨by decide, ?_, by decide⟩
    unfold C02.WFSec; decide
  obtain ⟨_, h0, hl⟩ := C09_pack_tc _ wf []
  refine ⟨_, .tc _, ⟨?_, hl.symm⟩, ?_⟩
  · show Decoded.tc <$> Tc.unpack _ = _
    rw [h0]; rfl
  · rw [hl]; rfl
-- generic TLV, LV, CDS stamp, USLP truncated header: decided by evaluation
example : PackedUnit .tlv [6, 2, 0xAB, 0xCD] (.tlv ⟨6, [0xAB, 0xCD]⟩) := by decide
example : PackedUnit .lv [3, 1, 2, 3] (.lv ⟨[1, 2, 3]⟩) := by decide
example : PackedUnit .cds [0x40, 0x12, 0x34, 0, 0, 0x01, 0x02] (.cds ⟨0x1234, 0x102⟩) := by decide
example : PackedUnit .reqId [0x18, 0x2A, 0xC0, 0x07] (.reqId ⟨0, ⟨1, 1, 0x2A⟩, ⟨3, 7⟩⟩) := by decide
-- accepted, not packed: the TLV is followed by two octets that look like another TLV header
example : Kind.tlv.decode [6, 2, 0xAB, 0xCD, 6, 0] = .ok (.tlv ⟨6, [0xAB, 0xCD]⟩) := by decide
-- a mixed buffer (TLV, LV, request id) with a tail is split by the reported lengths
example : splitKinds [.tlv, .lv, .reqId] ([6, 2, 0xAB, 0xCD] ++ [3, 1, 2, 3] ++ [0x18, 0x2A, 0xC0, 0x07] ++ [0xFF]) =
    .ok ([.tlv ⟨6, [0xAB, 0xCD]⟩, .lv ⟨[1, 2, 3]⟩, .reqId ⟨0, ⟨1, 1, 0x2A⟩, ⟨3, 7⟩⟩], [0xFF]) := by decide
-- a request whose value field holds three octets more than its names (declares 12 octets, names end
-- after 9) is refused
example : FileStoreRequestTlv.unpack [0, 10, 0, 5, 0x61, 0x2E, 0x74, 0x78, 0x74, 1, 2, 3] =
    .error .value := by decide
example : (FileStoreRequestTlv.mk 0 [0x61, 0x2E, 0x74, 0x78, 0x74] []).packetLen = 9 ∧
    tlvDeclaredLen [0, 10, 0, 5, 0x61, 0x2E, 0x74, 0x78, 0x74, 1, 2, 3] = 12 := by decide
example : FileStoreRequestTlv.unpack ([0, 10, 0, 5, 0x61, 0x2E, 0x74, 0x78, 0x74, 1, 2, 3].take 9) = .error .value := by
  decide


/-! # Second half: complete CFDP PDUs followed by further octets

Decoders: the models of C06 (EOF, Finished, ACK, Metadata, NAK, Prompt, Keep Alive) and C07 (File Data).
The length that delimits a PDU is the one its fixed header **declares** (`cfdpDeclaredLen d`: data-field
length + header length, octets 1–3). For every kind and every accepted buffer `d` with result `r`: the
declared PDU lies inside `d` and decoding exactly those octets gives `r`; the same PDU followed by any
octets is decoded to `r` again (all kinds but NAK) or refused with `ValueError` (NAK, by design of the
library's own test-suite). The decoded object reports exactly the declared length, except EOF and
Finished (≤: they recompute their length from the TLVs they kept). No fold: the decoded PDU is the value
of the parameter parser on the directive base and the declared PDU **minus its CRC trailer** — octets
beyond the declared length and the trailer itself never reach the parameters. -/

open SpVerif.CfdpCrc in
/-- the uniform per-PDU statement, on the declared length -/
def DeclaredOnly {α : Type} (dec : Bytes → Py α) (d : Bytes) (r : α) : Prop :=
  PrefixOnly dec d r (cfdpDeclaredLen d)

private theorem declaredOnly_of {α : Type} {dec : Bytes → Py α} (h : DeclLocal dec) {d : Bytes} {r : α}
    (hu : dec d = .ok r) : DeclaredOnly dec d r :=
  prefixOnly_of (h d r hu)

/-- ACK PDU (`AckPdu.unpack`); the object reports the declared length -/
theorem C09_ack (d : Bytes) (a : Ack.Ack) (hu : Ack.Ack.unpack d = .ok a) :
    DeclaredOnly Ack.Ack.unpack d a ∧ a.packetLen = CfdpCrc.cfdpDeclaredLen d :=
  ⟨declaredOnly_of ack_declLocal hu, ack_declared hu⟩

/-- Prompt PDU -/
theorem C09_prompt (d : Bytes) (a : Prompt.Prompt) (hu : Prompt.Prompt.unpack d = .ok a) :
    DeclaredOnly Prompt.Prompt.unpack d a ∧ a.packetLen = CfdpCrc.cfdpDeclaredLen d :=
  ⟨declaredOnly_of prompt_declLocal hu, prompt_declared hu⟩

/-- Keep Alive PDU -/
theorem C09_keep_alive (d : Bytes) (a : KeepAlive.KeepAlive) (hu : KeepAlive.KeepAlive.unpack d = .ok a) :
    DeclaredOnly KeepAlive.KeepAlive.unpack d a ∧ a.packetLen = CfdpCrc.cfdpDeclaredLen d :=
  ⟨declaredOnly_of keepAlive_declLocal hu, keepAlive_declared hu⟩

/-- Metadata PDU: names and options come from the declared PDU only -/
theorem C09_metadata (d : Bytes) (a : Metadata.Metadata) (hu : Metadata.Metadata.unpack d = .ok a) :
    DeclaredOnly Metadata.Metadata.unpack d a ∧ a.packetLen = CfdpCrc.cfdpDeclaredLen d :=
  ⟨declaredOnly_of metadata_declLocal hu, metadata_declared hu⟩

/-- File Data PDU: offset, file data and segment metadata come from the declared PDU only -/
theorem C09_file_data (d : Bytes) (x : FileData.Pdu) (hu : FileData.Pdu.unpack d = .ok x) :
    DeclaredOnly FileData.Pdu.unpack d x ∧ x.packetLen = CfdpCrc.cfdpDeclaredLen d :=
  ⟨declaredOnly_of fileData_declLocal hu, fileData_declared hu⟩

/-- EOF PDU: the fault location comes from the declared PDU only; the decoded object reports at
    most the declared length -/
theorem C09_eof (d : Bytes) (a : Eof.Eof) (hu : Eof.Eof.unpack d = .ok a) :
    DeclaredOnly Eof.Eof.unpack d a ∧ a.packetLen ≤ CfdpCrc.cfdpDeclaredLen d :=
  ⟨declaredOnly_of eof_declLocal hu, eof_reported_le hu⟩

/-- Finished PDU: filestore responses and fault location come from the declared PDU only; the
    decoded object (whose length is recomputed from the filestore responses and the last entity-ID TLV
    it kept) reports at most the declared length -/
theorem C09_finished (d : Bytes) (a : Finished.Finished) (hu : Finished.Finished.unpack d = .ok a) :
    DeclaredOnly Finished.Finished.unpack d a ∧ a.packetLen ≤ CfdpCrc.cfdpDeclaredLen d :=
  ⟨declaredOnly_of finished_declLocal hu, finished_reported_le hu⟩

/-- NAK PDU: an accepted buffer is *exactly* the declared PDU -/
theorem C09_nak (d : Bytes) (k : Nak.Nak) (hu : Nak.Nak.unpack d = .ok k) :
    d.length = k.packetLen ∧ k.packetLen = CfdpCrc.cfdpDeclaredLen d ∧ Nak.Nak.unpack (d.take k.packetLen) = .ok k :=
  ⟨nak_exact hu, nak_declared hu, by rw [List.take_of_length_le (Nat.le_of_eq (nak_exact hu))]; exact hu⟩

/-- … and followed by at least one octet it is refused with the documented `ValueError`: trailing
    octets are never folded into segment requests (for every accepted NAK PDU, not only packed ones) -/
theorem C09_nak_trailing (d : Bytes) (k : Nak.Nak) (hu : Nak.Nak.unpack d = .ok k) (s : Bytes) (hs : s ≠ []) :
    Nak.Nak.unpack (d ++ s) = .error .value ∧ Err.value.documented = true :=
  ⟨nak_trailing_refused hu s hs, rfl⟩

/-- **every PDU kind**: the declared PDU lies inside every accepted buffer and decoding exactly the
    declared PDU gives the same result -/
theorem C09_pdu_declared (k : PduKind) (d : Bytes) (r : PduDecoded) (hu : k.decode d = .ok r) :
    CfdpCrc.cfdpDeclaredLen d ≤ d.length ∧ k.decode (d.take (CfdpCrc.cfdpDeclaredLen d)) = .ok r :=
  PduKind.declRestricts k d r hu

/-- the decoded object's `packet_len` is the declared length for every kind but EOF and Finished,
    and never exceeds it for any kind (EOF and Finished recompute it from the TLVs they kept) -/
theorem C09_pdu_reported (k : PduKind) (d : Bytes) (r : PduDecoded) (hu : k.decode d = .ok r) :
    (k ≠ .eof → k ≠ .finished → r.len = CfdpCrc.cfdpDeclaredLen d) ∧
    r.len ≤ CfdpCrc.cfdpDeclaredLen d :=
  PduKind.reported k d r hu

/-- **every PDU kind**: the declared PDU followed by any octets is decoded exactly as the PDU alone
    or refused with a documented error -/
theorem C09_pdu_trailing (k : PduKind) (d : Bytes) (r : PduDecoded) (hu : k.decode d = .ok r) (s : Bytes) :
    k.decode (d.take (CfdpCrc.cfdpDeclaredLen d) ++ s) = .ok r ∨
      ∃ e, k.decode (d.take (CfdpCrc.cfdpDeclaredLen d) ++ s) = .error e ∧ e.documented = true := by
  cases hk : k.acceptsTrailing with
  | true => exact Or.inl ((PduKind.declLocal k hk d r hu).take_append s)
  | false =>
    cases k <;> try cases hk
    by_cases hs : s = []
    · subst hs; rw [List.append_nil]; exact Or.inl (PduKind.declRestricts .nak d r hu).2
    · obtain ⟨x, hn, _⟩ := map_ok_inv hu
      refine Or.inr ⟨.value, ?_, rfl⟩
      show PduDecoded.nak <$> Nak.Nak.unpack (d.take (CfdpCrc.cfdpDeclaredLen d) ++ s) = _
      rw [nak_declared_length hu, List.take_of_length_le (Nat.le_refl _), nak_trailing_refused hn s hs]; rfl

/-- the kinds that accept a longer buffer (all but NAK) decode it exactly as the PDU alone -/
theorem C09_pdu_suffix (k : PduKind) (hk : k.acceptsTrailing = true) (d : Bytes) (r : PduDecoded)
    (hu : k.decode d = .ok r) (s : Bytes) : k.decode (d ++ s) = k.decode d := by
  rw [hu]; exact (PduKind.declLocal k hk d r hu).append s

/-- … so a buffer of such PDUs back to back is split into exactly those PDUs by the reported
    `packet_len`s (no bound on their number) -/
theorem C09_split_pdu (k : PduKind) (hk : k.acceptsTrailing = true) (units : List (Bytes × PduDecoded))
    (hp : ∀ u ∈ units, k.decode u.1 = .ok u.2 ∧ u.2.len = u.1.length) (tail : Bytes) :
    splitN k.codec units.length ((units.map (·.1)).flatten ++ tail) = .ok (units.map (·.2), tail) :=
  splitN_concat k.codec (fun d r s h => (PduKind.declLocal k hk d r h).append s) units hp tail

/-- the factory route (`PduFactory.from_raw`, C12): a packed PDU of any kind the factory model
    covers, followed by further octets, is dispatched to the same PDU or refused with a documented
    error -/
theorem C09_factory_trailing (p : Factory.AnyPdu) (wf : C12.WFPdu p) (rest : Bytes) :
    Factory.fromRaw (C12.Spec.octets p ++ rest) = Factory.fromRaw (C12.Spec.octets p) ∨
    ∃ e, Factory.fromRaw (C12.Spec.octets p ++ rest) = .error e ∧ e.documented = true :=
  C12.C12_dispatch_trailing p wf rest

private theorem paramsEnd_eq (fd : FileDirective.FileDirective) :
    fd.paramsEnd = fd.packetLen - (if fd.header.conf.crcFlag = 1 then 2 else 0) := by
  unfold FileDirective.FileDirective.paramsEnd; split <;> simp

/-- **no fold, ACK**: the decoded PDU is the value of the parameter parser (which never sees the
    buffer) on the directive base and the first `packet_len − crc` octets -/
theorem C09_ack_no_fold (d : Bytes) (a : Ack.Ack) (hu : Ack.Ack.unpack d = .ok a) :
    a.fd.paramsEnd = a.packetLen - (if a.fd.header.conf.crcFlag = 1 then 2 else 0) ∧
    Ack.parse (a.fd, d.take a.fd.paramsEnd) = .ok a :=
  ⟨paramsEnd_eq a.fd, (Ack.unpack_inv d a hu).2.2.1⟩

theorem C09_prompt_no_fold (d : Bytes) (a : Prompt.Prompt) (hu : Prompt.Prompt.unpack d = .ok a) :
    a.fd.paramsEnd = a.packetLen - (if a.fd.header.conf.crcFlag = 1 then 2 else 0) ∧
    Prompt.parse (a.fd, d.take a.fd.paramsEnd) = .ok a :=
  ⟨paramsEnd_eq a.fd, (Prompt.unpack_inv d a hu).2.2.1⟩

theorem C09_keep_alive_no_fold (d : Bytes) (a : KeepAlive.KeepAlive) (hu : KeepAlive.KeepAlive.unpack d = .ok a) :
    a.fd.paramsEnd = a.packetLen - (if a.fd.header.conf.crcFlag = 1 then 2 else 0) ∧
    KeepAlive.parse (a.fd, d.take a.fd.paramsEnd) = .ok a :=
  ⟨paramsEnd_eq a.fd, (KeepAlive.unpack_inv d a hu).2.2.1⟩

/-- **no fold, NAK**: scope and every segment request come from the declared PDU minus its CRC
    trailer (the parser's first argument only serves the longer-than-declared refusal) -/
theorem C09_nak_no_fold (d : Bytes) (k : Nak.Nak) (hu : Nak.Nak.unpack d = .ok k) :
    k.fd.paramsEnd = k.packetLen - (if k.fd.header.conf.crcFlag = 1 then 2 else 0) ∧
    Nak.parse k.packetLen (k.fd, d.take k.fd.paramsEnd) = .ok k := by
  obtain ⟨_, hf, hl, _⟩ := Nak.unpack_inv d k hu
  rw [hl] at hf
  exact ⟨paramsEnd_eq k.fd, hf⟩

/-- **no fold, Metadata**: file size, names and every option TLV -/
theorem C09_metadata_no_fold (d : Bytes) (a : Metadata.Metadata) (hu : Metadata.Metadata.unpack d = .ok a) :
    a.fd.paramsEnd = a.packetLen - (if a.fd.header.conf.crcFlag = 1 then 2 else 0) ∧
    Metadata.parse (a.fd, d.take a.fd.paramsEnd) = .ok a := by
  obtain ⟨p, hp, hf, _⟩ := Metadata.unpack_inv d a hu
  rw [prelude_cut hp] at hf
  exact ⟨paramsEnd_eq a.fd, hf⟩

/-- **no fold, EOF**: with `fd` the directive base the header declares (its `packet_len` is the
    declared length), condition code, checksum, file size and fault location are the parser's value
    on `fd` and the first `declared − crc` octets -/
theorem C09_eof_no_fold (d : Bytes) (a : Eof.Eof) (hu : Eof.Eof.unpack d = .ok a) :
    ∃ fd : FileDirective.FileDirective, fd.packetLen = CfdpCrc.cfdpDeclaredLen d ∧
      fd.paramsEnd = fd.packetLen - (if fd.header.conf.crcFlag = 1 then 2 else 0) ∧
      Eof.parse (fd, d.take fd.paramsEnd) = .ok a := by
  obtain ⟨fd, p, hp, hf, _⟩ := Eof.unpack_inv d a hu
  rw [prelude_cut hp] at hf
  exact ⟨fd, prelude_declared hp, paramsEnd_eq fd, hf⟩

/-- **no fold, Finished**: condition code, delivery code, file status, every filestore response and
    the fault location -/
theorem C09_finished_no_fold (d : Bytes) (a : Finished.Finished) (hu : Finished.Finished.unpack d = .ok a) :
    ∃ fd : FileDirective.FileDirective, fd.packetLen = CfdpCrc.cfdpDeclaredLen d ∧
      fd.paramsEnd = fd.packetLen - (if fd.header.conf.crcFlag = 1 then 2 else 0) ∧
      Finished.parse (fd, d.take fd.paramsEnd) = .ok a := by
  obtain ⟨fd, p, hp, hf, _⟩ := Finished.unpack_inv d a hu
  rw [prelude_cut hp] at hf
  exact ⟨fd, prelude_declared hp, paramsEnd_eq fd, hf⟩

/-- **no fold, File Data**: header, metadata, offset and file data, laid out, ARE the first
    `packet_len − crc` octets of the buffer — not one octet of the trailer or of what follows -/
theorem C09_file_data_no_fold (d : Bytes) (x : FileData.Pdu) (hu : FileData.Pdu.unpack d = .ok x) :
    C07.Spec.body x = d.take (x.packetLen - FileData.crcLen x.header) :=
  C07.C07_no_fold d x hu

-- non-vacuity of the PDU half (octets produced by the model's own `pack`): an ACK of an EOF PDU
-- without CRC (10 octets) and an ACK of a Finished PDU with CRC (12 octets) are accepted and report
-- exactly their own length; followed by two more octets they decode to the same PDU
example : (Ack.Ack.unpack [0x28, 0x00, 0x03, 0x00, 0x01, 0x02, 0x03, 0x06, 0x40, 0x21]).toOption.map
    (fun a => (a.packetLen, a.ackedCode, a.cond, a.status)) = some (10, 4, 2, 1) := by decide
example : (Ack.Ack.unpack [0x22, 0x00, 0x05, 0x00, 0x01, 0x02, 0x03, 0x06, 0x51, 0x02, 0x7B, 0x93]).toOption.map
    (fun a => (a.packetLen, a.fd.paramsEnd, a.ackedCode, a.status)) = some (12, 10, 5, 2) := by decide +kernel
example : Ack.Ack.unpack ([0x28, 0x00, 0x03, 0x00, 0x01, 0x02, 0x03, 0x06, 0x40, 0x21] ++ [0xAA, 0xBB]) =
    Ack.Ack.unpack [0x28, 0x00, 0x03, 0x00, 0x01, 0x02, 0x03, 0x06, 0x40, 0x21] := by decide

end SpVerif.Props.C09
