import SpVerif.Proofs.FileData
import SpVerif.Props.C05
/-!
# C07 — CFDP File Data PDU carries offset, segment metadata and file data exactly

Property theorems only. `Spec.octets` is the layout of CCSDS 727.0-B-5 §5.3 (table 5-14):
fixed PDU header (C05) ‖ optional [record-continuation state (2 bits) | segment-metadata length
(6 bits)] ‖ segment metadata (0..63 octets) ‖ offset (32 bits, 64 with the large-file flag,
big-endian) ‖ file data ‖ CRC-16 over everything before it iff the CRC flag is set; the header's
data-field length covers everything after the header.
-/
namespace SpVerif.Props.C07
open SpVerif SpVerif.CfdpHeader SpVerif.FileData

/-- optional segment metadata in the domain: a member of `RecordContinuationState`, 0..63 octets -/
def WFMeta : Option SegMeta → Prop
  | none => True
  | some m => m.state < 4 ∧ m.metadata.length ≤ 63

instance (m : Option SegMeta) : Decidable (WFMeta m) := by
  cases m <;> (unfold WFMeta; infer_instance)

/-- the segment-metadata flag that goes with the params -/
def metaFlag (m : Option SegMeta) : Nat := if m.isSome then 1 else 0

/-- the domain of the statement: any header configuration of C05's domain (every flag, width and
    ID value; PDU type and direction bits included, since the decoder keeps whatever the octets
    carry), the flag in step with the presence of segment metadata, the data-field length covering
    exactly metadata ‖ offset ‖ data ‖ CRC, an offset of the width the large-file flag selects -/
def WF (x : Pdu) : Prop :=
  C05.WF x.header ∧ x.header.segMeta = metaFlag x.params.segMeta ∧ x.header.dataFieldLen = x.calcLen ∧
  x.params.offset < 256 ^ offWidth x.header ∧ WFMeta x.params.segMeta

instance (x : Pdu) : Decidable (WF x) := by unfold WF; infer_instance

/-- a configuration a File Data PDU can be built from -/
def WFConf (c : PduConfig) : Prop :=
  c.direction < 2 ∧ c.transMode < 2 ∧ c.crcFlag < 2 ∧ c.fileFlag < 2 ∧ c.segCtrl < 2 ∧
  C05.WFField c.source ∧ C05.WFField c.seqNum ∧ C05.WFField c.dest ∧ c.dest.width = c.source.width

instance (c : PduConfig) : Decidable (WFConf c) := by unfold WFConf; infer_instance

def Spec.meta : Option SegMeta → Bytes
  | none => []
  | some m => u8 (m.state * 64 + m.metadata.length) :: m.metadata

/-- header ‖ optional (state, length) octet and metadata ‖ offset big-endian ‖ file data -/
def Spec.body (x : Pdu) : Bytes :=
  C05.Spec.octets x.header ++ Spec.meta x.params.segMeta
    ++ beBytes (offWidth x.header) x.params.offset ++ x.params.fileData

/-- CRC-16 over everything before it iff the CRC flag is set -/
def Spec.trailer (x : Pdu) : Bytes :=
  if x.header.conf.crcFlag = 1 then Crc.crcTrailer (Spec.body x) else []

def Spec.octets (x : Pdu) : Bytes := Spec.body x ++ Spec.trailer x

/-- the header a File Data PDU built from `(c, ps)` carries -/
def Spec.header (c : PduConfig) (ps : Params) : PduHeader :=
  ⟨1, metaFlag ps.segMeta, (Pdu.mk ⟨1, metaFlag ps.segMeta, 0, { c with direction := 0 }⟩ ps).calcLen,
    { c with direction := 0 }⟩

private theorem meta_length (m : Option SegMeta) : (Spec.meta m).length = metaLen m := by
  cases m with
  | none => rfl
  | some m => simp [Spec.meta, metaLen]; omega

private theorem trailer_length (x : Pdu) : (Spec.trailer x).length = crcLen x.header := by
  unfold Spec.trailer crcLen
  split <;> simp [Crc.crcTrailer, Crc.be16]

private theorem packMeta_spec (m : Option SegMeta) (wm : WFMeta m) : packMeta m = .ok (Spec.meta m) := by
  cases m with
  | none => rfl
  | some m =>
    obtain ⟨hs, hl⟩ := wm
    rw [packMeta_some, if_neg (by omega), if_pos (by omega)]
    rfl

private theorem ar_meta (s l : Nat) (hs : s < 4) (hl : l ≤ 63) :
    (s * 64 + l) % 256 / 64 % 4 = s ∧ (s * 64 + l) % 256 % 64 = l := by omega

private theorem ar_meta_inv (b : Nat) (hb : b < 256) : b / 64 % 4 * 64 + b % 64 = b := by omega

theorem C07_pack_exact (x : Pdu) (wf : WF x) : x.pack = .ok (Spec.octets x) := by
  obtain ⟨wh, _, _, hoff, hmeta⟩ := wf
  have hb : x.packBody = .ok (Spec.body x) :=
    packBody_eq_of (C05.C05_pack_exact x.header wh) (packMeta_spec _ hmeta) hoff
  rw [pack_eq_of hb]
  unfold Spec.octets Spec.trailer
  split <;> simp

theorem C07_len (x : Pdu) (wf : WF x) :
    (Spec.octets x).length = x.packetLen ∧
    x.packetLen = x.header.headerLen + x.header.dataFieldLen ∧
    x.header.dataFieldLen = metaLen x.params.segMeta + offWidth x.header + x.params.fileData.length
      + (if x.header.conf.crcFlag = 1 then 2 else 0) := by
  obtain ⟨wh, _, hd, _, _⟩ := wf
  have hh := (C05.C05_len x.header wh).2.1
  refine ⟨?_, ?_, ?_⟩
  · simp only [Spec.octets, Spec.body, List.length_append, meta_length, beBytes_length, trailer_length,
      Pdu.packetLen, PduHeader.packetLen, hd, calcLen_eq]
    omega
  · simp only [Pdu.packetLen, PduHeader.packetLen]; omega
  · rw [hd]; rfl

theorem C07_len_field (x : Pdu) (wf : WF x) :
    ((Spec.octets x).drop 1).take 2 =
      [u8 (((Spec.octets x).length - x.header.headerLen) / 256),
       u8 (((Spec.octets x).length - x.header.headerLen) % 256)] := by
  have hl := C07_len x wf
  have e : (Spec.octets x).length - x.header.headerLen = x.header.dataFieldLen := by
    rw [hl.1, hl.2.1]; omega
  rw [e]
  simp [Spec.octets, Spec.body, C05.Spec.octets]

theorem C07_crc_valid (x : Pdu) (hc : x.header.conf.crcFlag = 1) : Crc.crc16 (Spec.octets x) = 0 := by
  simp [Spec.octets, Spec.trailer, hc, Crc.crc16_residue]

theorem C07_new (c : PduConfig) (ps : Params) (wc : WFConf c)
    (hlen : (Spec.header c ps).dataFieldLen ≤ 65535) :
    Pdu.new c ps = .ok ⟨Spec.header c ps, ps⟩ := by
  have hw := wc.2.2.2.2.2.2.2.2
  rw [FileData.new_eq, if_neg (by omega)]
  exact recalc_ok hlen

theorem C07_new_wf (c : PduConfig) (ps : Params) (wc : WFConf c)
    (hlen : (Spec.header c ps).dataFieldLen ≤ 65535)
    (hoff : ps.offset < 256 ^ (if c.fileFlag = 1 then 8 else 4)) (hm : WFMeta ps.segMeta) :
    WF ⟨Spec.header c ps, ps⟩ := by
  obtain ⟨_, h2, h3, h4, h5, h6, h7, h8, hw⟩ := wc
  refine ⟨?_, rfl, rfl, ?_, hm⟩
  · refine ⟨by show (1 : Nat) < 2; omega, by show (0 : Nat) < 2; omega, h2, h3, h4, h5, ?_, by simp only [Spec.header] at hlen ⊢; omega,
      h6, h7, h8, hw⟩
    simp only [Spec.header, metaFlag]; split <;> omega
  · rw [offWidth_eq]; exact hoff

theorem C07_new_refuse (c : PduConfig) (ps : Params)
    (h : 65535 < (Spec.header c ps).dataFieldLen ∨ c.source.width ≠ c.dest.width) :
    Pdu.new c ps = .error .value := by
  rw [FileData.new_eq]
  split
  · rfl
  · exact recalc_refuse (h.resolve_right (by assumption))

private theorem octets_split (x : Pdu) (rest : Bytes) :
    Spec.octets x ++ rest = C05.Spec.octets x.header ++ (Spec.meta x.params.segMeta
      ++ beBytes (offWidth x.header) x.params.offset ++ x.params.fileData ++ Spec.trailer x ++ rest) := by
  simp [Spec.octets, Spec.body]

private theorem body_drop (x : Pdu) (wh : C05.WF x.header) :
    (Spec.body x).drop x.header.headerLen =
      Spec.meta x.params.segMeta ++ (beBytes (offWidth x.header) x.params.offset ++ x.params.fileData) := by
  have hl := (C05.C05_len x.header wh).2.1
  unfold Spec.body
  rw [List.append_assoc, List.append_assoc, List.drop_left' hl.symm]

private theorem parseBody_spec (x : Pdu) (wf : WF x) : parseBody x.header (Spec.body x) = .ok x := by
  obtain ⟨wh, hflag, hdfl, hoff, hmeta⟩ := wf
  have hd := body_drop x wh
  have hn : x.header.dataFieldLen < 65536 := wh.2.2.2.2.2.2.2.1
  have hw : (beBytes (offWidth x.header) x.params.offset).length = offWidth x.header := beBytes_length _ _
  obtain ⟨h, ⟨fd, off, sm⟩⟩ := x
  simp only at *
  cases sm with
  | none =>
    have hm : h.segMeta = 0 := by rw [hflag]; rfl
    simp only [Spec.meta, List.nil_append] at hd
    rw [parseBody_none _ hm, hd]
    have g : ¬ (beBytes (offWidth h) off ++ fd).length < offWidth h := by
      simp only [List.length_append, hw]; omega
    rw [if_neg g, List.take_left' hw, List.drop_left' hw, beNat_beBytes _ _ hoff]
    rw [recalc_ok (by rw [← hdfl]; omega), ← hdfl]
  | some m =>
    obtain ⟨hs, hl⟩ := hmeta
    have hm1 : h.segMeta = 1 := by rw [hflag]; rfl
    simp only [Spec.meta, List.cons_append] at hd
    rw [parseBody_some _ (by omega), hd]
    have A := ar_meta m.state m.metadata.length hs hl
    simp only [u8_toNat, A.1, A.2]
    have g1 : ¬ (m.metadata ++ (beBytes (offWidth h) off ++ fd)).length ≤ m.metadata.length := by
      simp only [List.length_append, hw]; have := offWidth_pos h; omega
    have g2 : ¬ (beBytes (offWidth h) off ++ fd).length < offWidth h := by
      simp only [List.length_append, hw]; omega
    rw [if_neg g1, List.drop_left' rfl, if_neg g2, List.take_left' rfl, List.take_left' hw, List.drop_left' hw,
      beNat_beBytes _ _ hoff]
    have hc : (Pdu.mk { h with segMeta := 1 } ⟨fd, off, some ⟨m.state, m.metadata⟩⟩).calcLen
        = (Pdu.mk h ⟨fd, off, some m⟩).calcLen := rfl
    rw [recalc_ok (by rw [hc, ← hdfl]; omega), hc, ← hdfl]
    cases h
    simp only at hm1
    subst hm1
    rfl

/-- **decode ∘ encode = id**: in particular the file data comes back octet for octet, without the
    CRC trailer and without anything that follows the PDU in the buffer -/
theorem C07_roundtrip (x : Pdu) (wf : WF x) (rest : Bytes) :
    Pdu.unpack (Spec.octets x ++ rest) = .ok x := by
  have wh := wf.1
  have hu : PduHeader.unpack (Spec.octets x ++ rest) = .ok x.header := by
    rw [octets_split]; exact C05.C05_roundtrip x.header wh _
  have hlen : (Spec.octets x).length = x.header.packetLen := (C07_len x wf).1
  have hbl : (Spec.body x).length = x.header.packetLen - crcLen x.header := by
    have := trailer_length x
    simp only [Spec.octets, List.length_append] at hlen
    omega
  rw [unpack_of_header hu]
  have g1 : ¬ (Spec.octets x ++ rest).length < x.header.packetLen := by
    simp only [List.length_append]; omega
  have g2 : ¬ (x.header.conf.crcFlag = 1 ∧ Crc.crc16 (Spec.octets x) ≠ 0) :=
    fun ⟨hc, hz⟩ => hz (C07_crc_valid x hc)
  have t2 : (Spec.octets x ++ rest).take (x.header.packetLen - crcLen x.header) = Spec.body x := by
    unfold Spec.octets
    rw [List.append_assoc]
    exact List.take_left' hbl
  rw [if_neg g1, List.take_left' hlen, if_neg g2, t2]
  exact parseBody_spec x wf

theorem C07_unpack_pack (x : Pdu) (wf : WF x) (rest : Bytes) :
    (x.pack >>= fun b => Pdu.unpack (b ++ rest)) = .ok x := by
  rw [C07_pack_exact x wf, bind_ok]; exact C07_roundtrip x wf rest

theorem C07_repack (x : Pdu) (wf : WF x) (rest : Bytes) :
    (Pdu.unpack (Spec.octets x ++ rest) >>= Pdu.pack) = .ok (Spec.octets x) := by
  rw [C07_roundtrip x wf rest]; exact C07_pack_exact x wf

theorem C07_eq (x : Pdu) (wf : WF x) (rest : Bytes) :
    (Pdu.unpack (Spec.octets x ++ rest)).map (fun y => y.beq x && x.beq y) = .ok true := by
  rw [C07_roundtrip x wf rest]
  simp [Except.map, Pdu.beq, hdrBeq]

/-- the decoded file data is the packed file data: the two CRC octets and the octets after the PDU
    are never part of it (explicit form of the clause "not one octet more or fewer") -/
theorem C07_file_data_exact (x : Pdu) (wf : WF x) (rest : Bytes) :
    (Pdu.unpack (Spec.body x ++ Spec.trailer x ++ rest)).map (fun y => (y.params.fileData, y.params.offset, y.params.segMeta))
      = .ok (x.params.fileData, x.params.offset, x.params.segMeta) := by
  have := C07_roundtrip x wf rest
  unfold Spec.octets at this
  rw [this]; rfl

theorem C07_pack_injective (x y : Pdu) (wx : WF x) (wy : WF y) (h : Spec.octets x = Spec.octets y) : x = y :=
  ok_unique (C07_roundtrip x wx []) (C07_roundtrip y wy []) (by rw [h])

private theorem pack_of_meta_error (x : Pdu) (h : packMeta x.params.segMeta = .error .value) :
    x.pack = .error .value := by
  unfold Pdu.pack Pdu.packBody
  cases hh : x.header.pack with
  | error e => cases header_pack_error _ _ hh; rfl
  | ok hdr => rw [h]; rfl

theorem C07_refuse_metadata (x : Pdu) (m : SegMeta) (hm : x.params.segMeta = some m)
    (hl : 63 < m.metadata.length) : x.pack = .error .value :=
  pack_of_meta_error x (by rw [hm, packMeta_some, if_pos hl])

/-- a record-continuation state that does not fit two bits cannot be packed either (`ValueError`
    from `bytearray.append`) -/
theorem C07_refuse_state (x : Pdu) (m : SegMeta) (hm : x.params.segMeta = some m)
    (hs : 4 ≤ m.state) : x.pack = .error .value := by
  refine pack_of_meta_error x ?_
  rw [hm, packMeta_some]
  split
  · rfl
  · rw [if_neg (by omega)]

/-- an offset that does not fit the 32 (64) bits the large-file flag selects makes `pack` fail
    (`struct.error`); it is never encoded truncated -/
theorem C07_offset_overflow (x : Pdu) (wh : C05.WF x.header) (wm : WFMeta x.params.segMeta)
    (ho : 256 ^ offWidth x.header ≤ x.params.offset) : x.pack = .error .struct := by
  unfold Pdu.pack Pdu.packBody
  have : ¬ x.params.offset < 256 ^ offWidth x.header := by omega
  simp [C05.C05_pack_exact x.header wh, packMeta_spec _ wm, packBE, this, bind, Except.bind]

theorem C07_truncated (x : Pdu) (wf : WF x) (k : Nat) (hk : k < x.packetLen) :
    Pdu.unpack ((Spec.octets x).take k) = .error .value := by
  have wh := wf.1
  have hlen : (Spec.octets x).length = x.header.packetLen := (C07_len x wf).1
  have hH := (C05.C05_len x.header wh).2.1
  have hs := octets_split x []
  simp only [List.append_nil] at hs
  by_cases hk' : k < x.header.headerLen
  · apply unpack_header_error
    rw [hs, List.take_append_of_le_length (by omega)]
    exact C05.C05_truncated x.header wh k hk'
  · have e : (Spec.octets x).take k = C05.Spec.octets x.header ++
        ((Spec.octets x).drop x.header.headerLen).take (k - x.header.headerLen) := by
      rw [hs, List.take_append, List.drop_left' hH.symm, List.take_of_length_le (by omega), ← hH]
    have hu : PduHeader.unpack ((Spec.octets x).take k) = .ok x.header := by
      rw [e]; exact C05.C05_roundtrip x.header wh _
    rw [unpack_of_header hu, if_pos]
    simp only [List.length_take, Pdu.packetLen] at hk ⊢
    omega

/-- any octet string: the decoder returns a PDU or fails with `ValueError`,
    `UnsupportedCfdpVersion` or `InvalidCrc` — never IndexError / struct.error (C10) -/
theorem C07_documented (d : Bytes) : Documented (Pdu.unpack d) := unpack_documented d

theorem C07_unpack_errors (d : Bytes) (e : Err) (h : Pdu.unpack d = .error e) :
    e = .value ∨ e = .cfdpVersion ∨ e = .crc := unpack_error d e h

/-- octets after the declared PDU are never read: a buffer that holds the declared PDU is decoded
    exactly as that PDU alone, whatever follows (C09; the decoder does not refuse trailing octets) -/
theorem C07_prefix (d : Bytes) (h : PduHeader) (hu : PduHeader.unpack d = .ok h)
    (hl : h.packetLen ≤ d.length) (rest : Bytes) :
    Pdu.unpack (d ++ rest) = Pdu.unpack d ∧ Pdu.unpack (d.take h.packetLen) = Pdu.unpack d := by
  have hp := C05.C05_unpack_prefix d h hu
  have hhl : h.headerLen ≤ h.packetLen := by unfold PduHeader.packetLen; omega
  constructor
  · exact unpack_append hu hl rest (header_unpack_append rest (hp _))
  · have hu2 : PduHeader.unpack (d.take h.packetLen) = .ok h := by
      have := hp ((d.take h.packetLen).drop h.headerLen)
      have e2 : d.take h.headerLen = (d.take h.packetLen).take h.headerLen := by
        rw [List.take_take, Nat.min_eq_left hhl]
      rw [e2, List.take_append_drop] at this
      exact this
    have hl2 : h.packetLen ≤ (d.take h.packetLen).length := by simp; omega
    have := unpack_append hu2 hl2 (d.drop h.packetLen) (by rw [List.take_append_drop]; exact hu)
    rw [List.take_append_drop] at this
    exact this.symm

/-- body ‖ the two octets that make the CRC residue zero = body ‖ CRC trailer -/
private theorem octets_of_body (x : Pdu) (d : Bytes) (hl : x.header.packetLen ≤ d.length)
    (hb : Spec.body x = d.take (x.header.packetLen - crcLen x.header))
    (hc : x.header.conf.crcFlag = 1 → Crc.crc16 (d.take x.header.packetLen) = 0) :
    Spec.octets x = d.take x.header.packetLen := by
  have hcl := crcLen_le x.header
  have h4 := packetLen_ge x.header
  have e1 := List.take_append_drop (x.header.packetLen - crcLen x.header) (d.take x.header.packetLen)
  rw [List.take_take, Nat.min_eq_left (by omega), ← hb] at e1
  have hlen : ((d.take x.header.packetLen).drop (x.header.packetLen - crcLen x.header)).length
      = crcLen x.header := by
    rw [List.length_drop, List.length_take]; omega
  unfold Spec.octets Spec.trailer
  rw [← e1]
  congr 1
  generalize (d.take x.header.packetLen).drop (x.header.packetLen - crcLen x.header) = t at e1 hlen
  split <;> rename_i hf
  · match t, hlen.trans (if_pos hf), e1 with
    | [a, b], _, e1 => exact (Crc.crc16_trailer_unique _ _ _ (e1 ▸ hc hf)).symm
  · exact (List.eq_nil_of_length_eq_zero (hlen.trans (if_neg hf))).symm

/-- what the body decoder has read behind the header when it returns `x`: the metadata part as
    `Spec.meta` lays it out, then `T` = offset ‖ file data; `x` carries the header it was given,
    with the flag and the length that go with its params -/
private theorem parseBody_inv {h : PduHeader} {data : Bytes} {x : Pdu} (hb : parseBody h data = .ok x)
    (hm2 : h.segMeta < 2) :
    ∃ T, data.drop h.headerLen = Spec.meta x.params.segMeta ++ T ∧ offWidth h ≤ T.length ∧
      x.params.offset = beNat (T.take (offWidth h)) ∧ x.params.fileData = T.drop (offWidth h) ∧
      WFMeta x.params.segMeta ∧ h.segMeta = metaFlag x.params.segMeta ∧
      x.header = { h with dataFieldLen := x.calcLen } ∧ x.calcLen ≤ 65535 := by
  by_cases hm : h.segMeta = 0
  · rw [parseBody_none _ hm] at hb
    split at hb
    · cases hb
    · obtain ⟨hle, rfl⟩ := recalc_inv hb
      exact ⟨_, rfl, by omega, rfl, rfl, trivial, hm, rfl, hle⟩
  · obtain ⟨pt, sm, dfl, conf⟩ := h
    obtain rfl : sm = 1 := by simp only at hm hm2; omega
    rw [parseBody_some _ hm] at hb
    split at hb
    · cases hb
    · rename_i b t hd
      split at hb
      · cases hb
      · split at hb
        · cases hb
        · obtain ⟨hle, rfl⟩ := recalc_inv hb
          have htk : (t.take (b.toNat % 64)).length = b.toNat % 64 := by rw [List.length_take]; omega
          refine ⟨t.drop (b.toNat % 64), ?_, by omega, rfl, rfl,
            ⟨Nat.mod_lt _ (by omega), by simp only [htk]; omega⟩, rfl, rfl, hle⟩
          simp only [hd, Spec.meta, htk, ar_meta_inv _ (toNat_lt b), u8_toNat_self, List.cons_append,
            List.take_append_drop]

/-- what acceptance says about the octets: the result is in the domain, its header is what the
    header decoder reads, the declared PDU lies inside the buffer with a zero CRC-16 when flagged, and
    the octets before the CRC trailer are the layout of the result -/
theorem decode_sound (d : Bytes) (x : Pdu) (hx : Pdu.unpack d = .ok x) :
    WF x ∧ PduHeader.unpack d = .ok x.header ∧ x.packetLen ≤ d.length ∧
    (x.header.conf.crcFlag = 1 → Crc.crc16 (d.take x.packetLen) = 0) ∧
    Spec.body x = d.take (x.packetLen - crcLen x.header) := by
  obtain ⟨h, hu, hl, hc, hb⟩ := unpack_accept_crc hx
  obtain ⟨wh, _, hpk⟩ := C05.C05_decode_encode d h hu
  rw [C05.C05_pack_exact h wh] at hpk
  have hH : C05.Spec.octets h = d.take h.headerLen := Except.ok.inj hpk
  obtain ⟨T, hT, hTl, hoff, hfd, hmeta, hflag, hhdr, hle⟩ := parseBody_inv hb wh.2.2.2.2.2.2.1
  have hcl := crcLen_le h
  have hw := offWidth_pos h
  have hpl : h.packetLen = h.dataFieldLen + h.headerLen := rfl
  have hlen := congrArg List.length hT
  rw [List.length_drop, List.length_take, Nat.min_eq_left (by omega), List.length_append, meta_length] at hlen
  have ew : offWidth x.header = offWidth h := by rw [hhdr]; rfl
  have ec : crcLen x.header = crcLen h := by rw [hhdr]; rfl
  have hcalc : x.calcLen = h.dataFieldLen := by
    rw [calcLen_eq, hfd, List.length_drop, ew, ec]
    omega
  have e : x.header = h := hhdr.trans (by rw [hcalc])
  have htk : (T.take (offWidth h)).length = offWidth h := by rw [List.length_take]; omega
  subst e
  refine ⟨⟨wh, hflag, hcalc.symm, hoff ▸ beNat_lt_of_length htk, hmeta⟩, hu, hl, hc, ?_⟩
  have hDt : d.take x.header.headerLen = (d.take (x.header.packetLen - crcLen x.header)).take x.header.headerLen := by
    rw [List.take_take, Nat.min_eq_left (by omega)]
  rw [Spec.body, hoff, hfd, beBytes_beNat_of_length htk, List.append_assoc, List.take_append_drop,
    List.append_assoc, ← hT, hH, hDt, List.take_append_drop]
  rfl

/-- **encode ∘ decode = identity on the declared PDU**, for any accepted octet string whatever
    (with `C07_roundtrip`: a bijection between the domain and the accepted PDUs) -/
theorem C07_decode_encode (d : Bytes) (x : Pdu) (hx : Pdu.unpack d = .ok x) :
    WF x ∧ x.packetLen ≤ d.length ∧ x.pack = .ok (d.take x.packetLen) ∧
    PduHeader.unpack d = .ok x.header := by
  obtain ⟨wf, hu, hl, hc, hbody⟩ := decode_sound d x hx
  refine ⟨wf, hl, ?_, hu⟩
  rw [C07_pack_exact x wf]
  exact congrArg _ (octets_of_body x d hl hbody hc)

/-- acceptance implies: the declared PDU lies inside the buffer and, with the CRC flag, the CRC-16
    over exactly the declared PDU is zero (C04) -/
theorem C07_accept_sound (d : Bytes) (x : Pdu) (hx : Pdu.unpack d = .ok x) :
    ∃ h, PduHeader.unpack d = .ok h ∧ h.packetLen ≤ d.length ∧
      (h.conf.crcFlag = 1 → Crc.crc16 (d.take h.packetLen) = 0) ∧ x.header.conf = h.conf ∧
      x.header.pduType = h.pduType := by
  obtain ⟨_, hu, hl, hc, _⟩ := decode_sound d x hx
  exact ⟨_, hu, hl, hc, rfl, rfl⟩

/-- the decoded file data, offset and metadata are functions of the declared PDU without its CRC
    trailer only (C09 "no fold"): nothing after `packet_len - crc` is ever part of them -/
theorem C07_no_fold (d : Bytes) (x : Pdu) (hx : Pdu.unpack d = .ok x) :
    Spec.body x = d.take (x.packetLen - crcLen x.header) :=
  (decode_sound d x hx).2.2.2.2

/-- `get_max_file_seg_len…`: what is left of `max_packet_len` after header, metadata, offset and
    CRC; `ValueError` when not even the base packet fits -/
theorem C07_max_seg (c : PduConfig) (n : Nat) (m : Option SegMeta) :
    maxFileSegLen c (n : Int) m =
      if n < c.headerLen + metaLen m + (if c.fileFlag = 1 then 8 else 4) + (if c.crcFlag = 1 then 2 else 0)
      then .error .value
      else .ok (n - (c.headerLen + metaLen m + (if c.fileFlag = 1 then 8 else 4) + (if c.crcFlag = 1 then 2 else 0))) := by
  unfold maxFileSegLen
  simp only
  generalize c.headerLen + metaLen m + (if c.fileFlag = 1 then 8 else 4) + (if c.crcFlag = 1 then 2 else 0) = s
  by_cases h : n < s
  · have : (n : Int) < (s : Int) := by omega
    simp [h, this]
  · have : ¬ (n : Int) < (s : Int) := by omega
    simp only [h, this, ↓reduceIte]
    congr 1
    omega

theorem C07_max_seg_negative (c : PduConfig) (v : Int) (m : Option SegMeta) (hv : v < 0) :
    maxFileSegLen c v m = .error .value := by
  unfold maxFileSegLen
  simp only
  rw [if_pos (by omega)]

theorem C07_max_seg_fits (x : Pdu) (wf : WF x) (n k : Nat)
    (hk : maxFileSegLen x.header.conf (n : Int) x.params.segMeta = .ok k)
    (hd : x.params.fileData.length = k) : (Spec.octets x).length = n := by
  have hl := C07_len x wf
  have hc := (C05.C05_len x.header wf.1).2
  rw [C07_max_seg] at hk
  have e1 : x.header.conf.headerLen = x.header.headerLen := by rw [hc.1, hc.2]
  rw [hl.1, hl.2.1, hl.2.2, hd]
  rw [offWidth_eq]
  rw [e1] at hk
  generalize (if x.header.conf.crcFlag = 1 then 2 else 0) = cr at hk ⊢
  generalize (if x.header.conf.fileFlag = 1 then 8 else 4) = ow at hk ⊢
  by_cases g : n < x.header.headerLen + metaLen x.params.segMeta + ow + cr
  · rw [if_pos g] at hk; cases hk
  · rw [if_neg g] at hk
    have := Except.ok.inj hk
    omega

/-- the cached length and the flag agree with the params -/
def Consistent (x : Pdu) : Prop :=
  x.header.dataFieldLen = x.calcLen ∧ x.header.segMeta = metaFlag x.params.segMeta

instance (x : Pdu) : Decidable (Consistent x) := by unfold Consistent; infer_instance

/-- a setter is refused (`ValueError`) exactly when the new data-field length exceeds 16 bits, and
    then the object is **unchanged** (the setter restores the old attribute; the header flag and the
    cached length were never touched); when it is accepted only the assigned attribute, the flag and
    the length change -/
theorem C07_step (x : Pdu) (s : Setter) :
    x.step s = if 65535 < (x.put s).calcLen then (x, some .value)
      else ({ x.put s with header := { (x.put s).header with dataFieldLen := (x.put s).calcLen } }, none) := by
  unfold Pdu.step
  rw [recalc_eq]
  symm; split <;> rfl

theorem C07_step_refused (x : Pdu) (s : Setter) (h : (x.step s).2 ≠ none) :
    (x.step s).1 = x ∧ (x.step s).2 = some .value ∧ 65535 < (x.put s).calcLen := by
  rw [C07_step] at h ⊢
  split
  · rename_i g; exact ⟨rfl, rfl, g⟩
  · rename_i g; rw [if_neg g] at h; exact absurd rfl h

theorem C07_step_accepted_iff (x : Pdu) (s : Setter) :
    (x.step s).2 = none ↔ (x.put s).calcLen ≤ 65535 := by
  rw [C07_step]
  split
  · rename_i g; exact ⟨fun h => (by cases h), fun h => (by omega)⟩
  · rename_i g; exact ⟨fun _ => (by omega), fun _ => rfl⟩

theorem C07_step_consistent (x : Pdu) (s : Setter) (hflag : x.header.segMeta = metaFlag x.params.segMeta)
    (h : (x.step s).2 = none) : Consistent (x.step s).1 := by
  rw [C07_step] at h ⊢
  split at h
  · cases h
  · rename_i g
    rw [if_neg g]
    cases s with
    | fileData d => exact ⟨rfl, hflag⟩
    | segMeta m => exact ⟨rfl, rfl⟩

theorem C07_step_inv (x : Pdu) (s : Setter) (hx : Consistent x) : Consistent (x.step s).1 := by
  by_cases h : (x.step s).2 = none
  · exact C07_step_consistent x s hx.2 h
  · rw [(C07_step_refused x s h).1]; exact hx

theorem C07_run_refused (x : Pdu) (s : Setter) (l : List Setter) (h : (x.step s).2 ≠ none) :
    x.run (s :: l) = x.run l ∧ x.trace (s :: l) = (x, some .value) :: x.trace l := by
  obtain ⟨h1, h2, _⟩ := C07_step_refused x s h
  refine ⟨?_, ?_⟩
  · simp only [Pdu.run, List.foldl_cons, h1]
  · have : x.step s = (x, some .value) := Prod.ext h1 h2
    simp only [Pdu.trace, this]

theorem C07_run_consistent (x : Pdu) (l : List Setter) (hx : Consistent x) : Consistent (x.run l) :=
  foldl_inv _ Consistent C07_step_inv l x hx

theorem C07_trace_consistent (x : Pdu) (l : List Setter) (hx : Consistent x) :
    ∀ p ∈ x.trace l, Consistent p.1 := by
  induction l generalizing x with
  | nil => intro p hp; cases hp
  | cons s rest ih =>
    intro p hp
    simp only [Pdu.trace, List.mem_cons] at hp
    rcases hp with rfl | hp
    · exact C07_step_inv x s hx
    · exact ih _ (C07_step_inv x s hx) p hp

theorem C07_run_conf (x : Pdu) (l : List Setter) :
    (x.run l).header.conf = x.header.conf ∧ (x.run l).header.pduType = x.header.pduType := by
  refine foldl_inv _ (fun r => r.header.conf = x.header.conf ∧ r.header.pduType = x.header.pduType) ?_ l x ⟨rfl, rfl⟩
  intro r s h
  rw [C07_step]
  split
  · exact h
  · cases s <;> exact h

theorem C07_fresh (a b : Pdu) (ha : Consistent a) (hb : Consistent b)
    (hc : a.header.conf = b.header.conf) (ht : a.header.pduType = b.header.pduType)
    (hp : a.params = b.params) : a = b := by
  obtain ⟨⟨t1, m1, n1, c1⟩, p1⟩ := a
  obtain ⟨⟨t2, m2, n2, c2⟩, p2⟩ := b
  obtain ⟨h1, h2⟩ := ha
  obtain ⟨h3, h4⟩ := hb
  simp only at hc ht hp h1 h2 h3 h4
  subst hc ht hp
  subst h2 h4
  have : n1 = n2 := by rw [h1, h3]; rfl
  subst this
  rfl

theorem C07_consistent_pack_len (x : Pdu) (hx : Consistent x)
    (hw : x.header.conf.dest.width = x.header.conf.source.width) (b : Bytes) (hp : x.pack = .ok b) :
    b.length = x.packetLen ∧
    (b.drop 1).take 2 = [u8 (x.header.dataFieldLen / 256 % 256), u8 (x.header.dataFieldLen % 256)] := by
  unfold Pdu.pack at hp
  obtain ⟨body, hbd, _⟩ := bind_ok_inv hp
  have hb := Except.ok.inj ((pack_eq_of hbd).symm.trans hp)
  unfold Pdu.packBody at hbd
  obtain ⟨hdr, hh, hbd⟩ := bind_ok_inv hbd
  obtain ⟨md, hm, hbd⟩ := bind_ok_inv hbd
  obtain ⟨off, ho, hbd⟩ := bind_ok_inv hbd
  have hbody : hdr ++ (md ++ (off ++ x.params.fileData)) = body := by
    rw [← pure_ok_inv hbd]; simp only [List.append_assoc]
  rw [← beBytes_2]
  refine PduHeader.pack_len_field hh hw hbody hb ?_
  rw [hx.1, calcLen_eq, List.length_append, List.length_append, packMeta_len hm, packBE_len ho]
  unfold crcLen
  omega

/-- an accepted setter with in-domain arguments stays in the domain (so `C07_pack_exact`,
    `C07_roundtrip` apply after any such sequence) -/
theorem C07_step_wf (x : Pdu) (wf : WF x) (s : Setter)
    (hs : match s with | .fileData _ => True | .segMeta m => WFMeta m)
    (hacc : (x.step s).2 = none) : WF (x.step s).1 ∧ (x.step s).1.params = (x.put s).params := by
  have hcons := C07_step_consistent x s wf.2.1 hacc
  rw [C07_step] at hacc hcons ⊢
  split at hacc
  · cases hacc
  · rename_i g
    rw [if_neg g] at hcons ⊢
    obtain ⟨⟨ht, hd, hm, hc, hl, hg, hsm, _, hids⟩, _, _, hoff, hmeta⟩ := wf
    have hn := Nat.lt_succ_of_le (Nat.le_of_not_lt g)
    cases s with
    | fileData d => exact ⟨⟨⟨ht, hd, hm, hc, hl, hg, hsm, hn, hids⟩, hcons.2, hcons.1, hoff, hmeta⟩, rfl⟩
    | segMeta m =>
      refine ⟨⟨⟨ht, hd, hm, hc, hl, hg, ?_, hn, hids⟩, hcons.2, hcons.1, hoff, hs⟩, rfl⟩
      simp only [Pdu.put, Pdu.putSegMeta]; split <;> omega

theorem C07_step_wf_any (x : Pdu) (wf : WF x) (s : Setter)
    (hs : match s with | .fileData _ => True | .segMeta m => WFMeta m) : WF (x.step s).1 := by
  by_cases h : (x.step s).2 = none
  · exact (C07_step_wf x wf s hs h).1
  · rw [(C07_step_refused x s h).1]; exact wf

theorem C07_wf_consistent (x : Pdu) (wf : WF x) : Consistent x := ⟨wf.2.2.1, wf.2.1⟩

-- 8-octet IDs, 4-octet sequence number, CRC, large file, segmentation control, 3 octets of metadata
def exA : Pdu :=
  ⟨⟨1, 1, 1 + 3 + 8 + 2 + 2, ⟨⟨8, 0x0102030405060708⟩, ⟨8, 0xF1F2F3F4F5F6F7F8⟩, ⟨4, 0xA1A2A3A4⟩, 1, 1, 1, 0, 1⟩⟩,
   ⟨[0xDE, 0xAD], 0x1122334455667788, some ⟨3, [7, 8, 9]⟩⟩⟩
-- default configuration, empty file data, no metadata
def exB : Pdu := ⟨⟨1, 0, 4, ⟨⟨1, 0⟩, ⟨1, 0⟩, ⟨1, 0⟩, 0, 0, 0, 0, 0⟩⟩, ⟨[], 0xFFFFFFFF, none⟩⟩

example : WF exA := by decide
example : WF exB := by decide
example : Spec.body exA =
    [0x37, 0, 16, 0xFB, 1, 2, 3, 4, 5, 6, 7, 8, 0xA1, 0xA2, 0xA3, 0xA4, 0xF1, 0xF2, 0xF3, 0xF4, 0xF5, 0xF6, 0xF7, 0xF8,
     0xC3, 7, 8, 9, 0x11, 0x22, 0x33, 0x44, 0x55, 0x66, 0x77, 0x88, 0xDE, 0xAD] := by decide
example : Spec.octets exB = [0x30, 0, 4, 0x00, 0, 0, 0, 0xFF, 0xFF, 0xFF, 0xFF] := by decide
example : (Spec.octets exA).length = 40 := (C07_len exA (by decide)).1.trans (by decide)
example : WFConf ⟨⟨2, 513⟩, ⟨2, 7⟩, ⟨1, 9⟩, 1, 0, 1, 1, 0⟩ := by decide
-- refusals are not vacuous
example : (Pdu.mk exB.header ⟨[], 0, some ⟨0, List.replicate 64 0⟩⟩).pack = .error .value :=
  C07_refuse_metadata _ _ rfl (by decide)
example : Pdu.unpack [0x30, 0, 4, 0x00, 0, 0, 0, 0xFF, 0xFF, 0xFF] = .error .value :=
  C07_truncated exB (by decide) 10 (by decide)
example : maxFileSegLen PduConfig.default 10 none = .error .value := by rfl
example : maxFileSegLen PduConfig.default 64 none = .ok 53 := by rfl
example : exB.step (.fileData (List.replicate 65532 0)) = (exB, some .value) := by
  rw [C07_step, if_pos (put_fileData_calcLen_gt _ _ (by rw [List.length_replicate]; decide))]
-- the sequence continues after the refusal, from the unchanged object
example : exB.run [.fileData (List.replicate 65532 0), .fileData [1, 2]] = exB.run [.fileData [1, 2]] :=
  (C07_run_refused exB _ _ (by
    rw [C07_step, if_pos (put_fileData_calcLen_gt _ _ (by rw [List.length_replicate]; decide))]
    exact fun h => by cases h)).1

end SpVerif.Props.C07
