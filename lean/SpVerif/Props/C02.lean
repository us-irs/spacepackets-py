import SpVerif.Model.PusTc
import SpVerif.Props.C01
import SpVerif.Proofs.PusFrame
/-!
# C02 — PUS-C telecommand encode/decode is exact and mutually inverse

`Spec.octets t` is the packet ECSS-E-ST-70-41C prescribes: CCSDS primary header ‖
[0x20 + ack, service, subservice, source id (16 bit BE)] ‖ application data ‖ CRC-16/CCITT-FALSE.
-/
namespace SpVerif.Props.C02
open SpVerif SpVerif.SpacePacket SpVerif.PusTc

/-- in-range secondary header -/
def WFSec (s : TcSec) : Prop := s.ack < 16 ∧ s.service < 256 ∧ s.subservice < 256 ∧ s.sourceId < 65536

/-- a telecommand whose fields are in range and whose length field matches its application data -/
def WF (t : Tc) : Prop := C01.WF t.sph ∧ WFSec t.sec ∧ t.sph.dlen = t.appData.length + 6

def Spec.sec (s : TcSec) : Bytes :=
  [u8 (32 + s.ack), u8 s.service, u8 s.subservice, u8 (s.sourceId / 256), u8 (s.sourceId % 256)]

def Spec.body (t : Tc) : Bytes := C01.Spec.octets t.sph ++ Spec.sec t.sec ++ t.appData
def Spec.octets (t : Tc) : Bytes := Spec.body t ++ Crc.crcTrailer (Spec.body t)

instance (s : TcSec) : Decidable (WFSec s) := by unfold WFSec; infer_instance
instance (t : Tc) : Decidable (WF t) := by unfold WF; infer_instance

theorem sec_pack (s : TcSec) (wf : WFSec s) : s.pack = .ok (Spec.sec s) := by
  obtain ⟨ha, hs, hb, hi⟩ := wf
  unfold TcSec.pack
  rw [byteOfN_ok (show 32 + s.ack < 256 by omega), byteOfN_ok hs, byteOfN_ok hb, packBE2_ok hi]
  rfl

/-- constructor: valid arguments give a TC header (type TC, secondary header flag, unsegmented,
    data length = |data| + 6) -/
theorem C02_new (service subservice apid count sourceId ack : Nat) (appData : Bytes)
    (ha : apid < 2048) (hc : count < 16384) (hl : appData.length ≤ 65529) :
    Tc.new service subservice (apid : Int) appData (count : Int) sourceId ack =
      .ok ⟨⟨0, 1, 1, apid, 3, count, appData.length + 6⟩, ⟨ack, service, subservice, sourceId⟩, appData⟩ := by
  unfold Tc.new
  rw [show dataLength appData.length 5 = appData.length + 6 by unfold dataLength; omega,
    C01.C01_accept _ _ _ _ _ _ _ ha hc (by omega)]
  rfl

/-- application data beyond what the 16-bit length field can describe is refused (ValueError) -/
theorem C02_too_long (service subservice sourceId ack : Nat) (apid count : Int) (appData : Bytes)
    (hl : 65529 < appData.length) :
    Tc.new service subservice apid appData count sourceId ack = .error .value := by
  unfold Tc.new
  rw [C01.C01_refuse _ _ _ _ _ _ _ (by unfold dataLength; omega)]
  rfl

/-- **pack = prescribed octets** -/
theorem C02_pack_exact (t : Tc) (wf : WF t) : t.pack = .ok (Spec.octets t) := by
  unfold Tc.pack Tc.packNoCrc
  rw [C01.C01_pack_exact t.sph wf.1, sec_pack t.sec wf.2.1]
  rfl

/-- total length is data-length field + 7 = reported packet length -/
theorem C02_len (t : Tc) (wf : WF t) : (Spec.octets t).length = t.packetLen ∧ t.packetLen = t.sph.dlen + 7 := by
  have := (PusFrame.cut (hdr := C01.Spec.octets t.sph) (sec := Spec.sec t.sec) (body := Spec.body t) rfl rfl rfl []).2.2.1
  rw [List.append_nil] at this
  refine ⟨this.trans ?_, C01.C01_len _⟩
  rw [Tc.packetLen, C01.C01_len, wf.2.2]; rfl

/-- the trailer is the CRC of all preceding octets: the packed packet has residue zero -/
theorem C02_crc_valid (t : Tc) : checkPusCrc (Spec.octets t) = true :=
  decide_eq_true (Crc.crc16_residue _)

theorem sec_unpack_cons (x0 x1 x2 x3 x4 : UInt8) (r : Bytes) :
    TcSec.unpack (x0 :: x1 :: x2 :: x3 :: x4 :: r) = if x0.toNat / 16 ≠ 2 then .error .value else
      .ok ⟨x0.toNat % 16, x1.toNat, x2.toNat, beNat [x3, x4]⟩ := by
  unfold TcSec.unpack
  rw [if_neg (c := (x0 :: x1 :: x2 :: x3 :: x4 :: r).length < 5) (Nat.not_lt.mpr (Nat.le_add_left 5 _))]
  rfl

theorem sec_unpack_documented (d : Bytes) : Documented (TcSec.unpack d) := by
  by_cases h : d.length < 5
  · unfold TcSec.unpack; rw [guard_pos h]; exact .err rfl
  · match d, Nat.le_of_not_lt h with
    | x0 :: x1 :: x2 :: x3 :: x4 :: r, _ => rw [sec_unpack_cons]; exact .ite (.err rfl) (.ok _)

theorem sec_unpack_spec (s : TcSec) (wf : WFSec s) (rest : Bytes) :
    TcSec.unpack (Spec.sec s ++ rest) = .ok s := by
  obtain ⟨ha, hs, hb, hi⟩ := wf
  obtain ⟨e1, e2⟩ := PusFrame.octet0 s.ack ha
  rw [show Spec.sec s ++ rest = u8 _ :: u8 _ :: u8 _ :: u8 _ :: u8 _ :: rest from rfl, sec_unpack_cons, beNat_two]
  simp only [u8_toNat]
  rw [e1, e2, if_neg (by decide), Nat.mod_eq_of_lt hs, Nat.mod_eq_of_lt hb, PusFrame.be16_join _ hi]

/-- **decode ∘ encode = id**, whatever follows the packet in the buffer -/
theorem C02_roundtrip (t : Tc) (wf : WF t) (rest : Bytes) :
    Tc.unpack (Spec.octets t ++ rest) = .ok t := by
  obtain ⟨wh, ws, hd⟩ := wf
  obtain ⟨e1, e2, e3, e4, e5⟩ :=
    PusFrame.cut (hdr := C01.Spec.octets t.sph) (sec := Spec.sec t.sec) (body := Spec.body t) (k := 5) rfl rfl rfl rest
  have hn : t.sph.packetLen = t.appData.length + (5 + 8) := by rw [C01.C01_len, hd]
  unfold Tc.unpack Spec.octets
  rw [e1, C01.C01_unpack_pack t.sph wh, bind_ok, ← e1, e2, sec_unpack_spec t.sec ws, bind_ok]
  dsimp only
  rw [hn, e3, if_neg (by omega), if_neg (by omega), e4, e5, if_neg fun h => h (Crc.crc16_residue _)]
  rfl

/-- re-packing the decoded packet reproduces the octets -/
theorem C02_repack (t : Tc) (wf : WF t) (rest : Bytes) :
    (Tc.unpack (Spec.octets t ++ rest) >>= Tc.pack) = .ok (Spec.octets t) := by
  rw [C02_roundtrip t wf rest, bind_ok]; exact C02_pack_exact t wf

/-- the generic space-packet view packs to the same octets -/
theorem C02_space_packet_view (t : Tc) (wf : WF t) (hs : t.sph.shf = 1) : t.spacePacketPack = t.pack := by
  rw [C02_pack_exact t wf]
  unfold Tc.spacePacketPack
  rw [C01.C01_pack_exact t.sph wf.1, sec_pack t.sec wf.2.1, bind_ok, bind_ok, C01.C01_sp_pack t.sph wf.1 _ _ hs]
  simp only [Spec.octets, Spec.body, List.append_assoc]

theorem beq_self (t : Tc) (wh : C01.WF t.sph) (ws : WFSec t.sec) : t.beq t = true := by
  unfold Tc.beq
  rw [C01.C01_pack_exact t.sph wh, sec_pack t.sec ws]
  simp only [pyEq, decide_true, Bool.and_self]

/-- equality is reflexive on valid telecommands (`==` of the library) -/
theorem C02_eq_refl (t : Tc) (wf : WF t) : t.beq t = true := beq_self t wf.1 wf.2.1

/-- **`==` is exactly equality of the compared fields**: for in-range telecommands `a == b` holds
    iff space packet header, secondary header and application data are all equal, i.e. iff the two
    objects are equal field by field (so `==` distinguishes any two different packets; together
    with `C02_roundtrip` this is "unpack(pack(x)) == x and nothing else is") -/
theorem C02_eq_iff (a b : Tc) (ha : C01.WF a.sph) (hb : C01.WF b.sph) (sa : WFSec a.sec) (sb : WFSec b.sec) :
    a.beq b = true ↔ a = b := by
  refine ⟨fun h => ?_, fun h => h ▸ beq_self a ha sa⟩
  unfold Tc.beq at h
  rw [C01.C01_pack_exact a.sph ha, C01.C01_pack_exact b.sph hb, sec_pack a.sec sa, sec_pack b.sec sb] at h
  simp only [pyEq, Bool.and_eq_true, decide_eq_true_eq] at h
  obtain ⟨x1, x2, x3⟩ := a
  obtain ⟨y1, y2, y3⟩ := b
  cases C01.C01_octets_injective _ _ ha hb h.1.1
  cases ok_unique (f := TcSec.unpack) (sec_unpack_spec _ sa []) (sec_unpack_spec _ sb []) (by rw [h.1.2])
  cases h.2
  rfl

/-- everything a returned telecommand says about the buffer -/
theorem unpack_ok {d : Bytes} {t : Tc} (h : Tc.unpack d = .ok t) :
    Sph.unpack d = .ok t.sph ∧ TcSec.unpack (d.drop 6) = .ok t.sec ∧ ¬ d.length < t.sph.packetLen ∧
    ¬ t.sph.packetLen < 6 + 5 + 2 ∧ Crc.crc16 (d.take t.sph.packetLen) = 0 ∧
    t.appData = slice d 11 (t.sph.packetLen - 2) := by
  unfold Tc.unpack at h
  obtain ⟨sph, h1, h⟩ := bind_ok_inv h
  obtain ⟨sec, h2, h⟩ := bind_ok_inv h
  dsimp only at h
  obtain ⟨g1, h⟩ := guard_ok_inv h
  obtain ⟨g2, h⟩ := guard_ok_inv h
  obtain ⟨g3, h⟩ := guard_ok_inv h
  cases h
  exact ⟨h1, h2, g1, g2, Decidable.of_not_not g3, rfl⟩

/-- what a successful decode guarantees: the declared length has room for secondary header and
    CRC, lies inside the buffer, the CRC over exactly the declared packet is zero, and the
    result is determined by the first `packetLen` octets only (never by neighbouring octets). -/
theorem C02_accept_sound (d : Bytes) (t : Tc) (h : Tc.unpack d = .ok t) :
    13 ≤ t.packetLen ∧ t.packetLen ≤ d.length ∧ Crc.crc16 (d.take t.packetLen) = 0 ∧
    t.appData = slice d 11 (t.packetLen - 2) ∧ Sph.unpack d = .ok t.sph := by
  obtain ⟨h1, _, g1, g2, g3, h4⟩ := unpack_ok h
  exact ⟨Nat.le_of_not_lt g2, Nat.le_of_not_lt g1, g3, h4, h1⟩

/-- any octet string: the decoder returns a telecommand or fails with a documented error (C10) -/
theorem C02_documented (d : Bytes) : Documented (Tc.unpack d) := by
  unfold Tc.unpack
  refine .bind (C01.C01_unpack_documented d) fun _ _ => .bind (sec_unpack_documented _) fun _ _ => ?_
  dsimp only
  exact .guard rfl fun _ => .guard rfl fun _ => .guard rfl fun _ => .ok _

/-- **a declared packet length too small to hold secondary header and CRC is rejected** -/
theorem C02_reject_small_len (d : Bytes) (sph : Sph) (h : Sph.unpack d = .ok sph)
    (hsmall : sph.packetLen < 13) : ∃ e, Tc.unpack d = .error e ∧ e.documented = true := by
  cases hu : Tc.unpack d with
  | error e => exact ⟨e, rfl, C02_documented d e hu⟩
  | ok t =>
    obtain ⟨h13, _, _, _, hs⟩ := C02_accept_sound d t hu
    cases Except.ok.inj (h.symm.trans hs)
    exact absurd h13 (Nat.not_le_of_lt hsmall)

-- non-vacuity
example : WF ⟨⟨0, 1, 1, 0x7FF, 3, 16383, 8⟩, ⟨0b1010, 17, 1, 0xBEEF⟩, [1, 2]⟩ := by decide

/-- **the encoding is injective on the domain**: two valid telecommands with the same octets are the
    same telecommand (corollary of `C02_roundtrip`) -/
theorem C02_pack_injective (a b : Tc) (wa : WF a) (wb : WF b)
    (h : Spec.octets a = Spec.octets b) : a = b :=
  ok_unique (f := Tc.unpack) (C02_roundtrip a wa []) (C02_roundtrip b wb []) (by rw [h])

/-- the same for the library's `pack()` and as an iff: valid telecommands are equal exactly when they
    pack to the same octets (so telecommands that differ in any field never share an encoding) -/
theorem C02_pack_eq_iff (a b : Tc) (wa : WF a) (wb : WF b) : a.pack = b.pack ↔ a = b := by
  rw [C02_pack_exact a wa, C02_pack_exact b wb]
  exact ⟨fun h => C02_pack_injective a b wa wb (Except.ok.inj h), fun h => by rw [h]⟩

-- non-vacuity of the injectivity hypotheses: two distinct valid telecommands (they differ in the
-- last application data octet only), whose encodings differ
example : WF ⟨⟨0, 1, 1, 0x7FF, 3, 16383, 8⟩, ⟨0b1010, 17, 1, 0xBEEF⟩, [1, 2]⟩ ∧
    WF ⟨⟨0, 1, 1, 0x7FF, 3, 16383, 8⟩, ⟨0b1010, 17, 1, 0xBEEF⟩, [1, 3]⟩ ∧
    Spec.octets ⟨⟨0, 1, 1, 0x7FF, 3, 16383, 8⟩, ⟨0b1010, 17, 1, 0xBEEF⟩, [1, 2]⟩ ≠
      Spec.octets ⟨⟨0, 1, 1, 0x7FF, 3, 16383, 8⟩, ⟨0b1010, 17, 1, 0xBEEF⟩, [1, 3]⟩ := by
  refine ⟨by decide, by decide, fun h => ?_⟩
  exact absurd (C02_pack_injective _ _ (by decide) (by decide) h) (by decide)

end SpVerif.Props.C02
