import SpVerif.Proofs.Mutation
import SpVerif.Props.C02
import SpVerif.Props.C03
import SpVerif.Props.C06Fixed
import SpVerif.Props.C06Var
import SpVerif.Props.C08
import SpVerif.Props.C07
import SpVerif.Props.C17
/-!
# C11 — lengths track mutations, pack is repeatable, caller inputs are not modified

Over the setter state machines of `Model/Mutation.lean`, which wrap the very models the owning
properties C02/C03/C06/C07/C17 are about. For each mutable class: an invariant "cached length and
flags agree with the field values", established by the constructor and the decoder and kept by
every setter call, accepted or refused, hence by every finite sequence (no bound on its length or
on the size of any argument); under it the packed length is the reported one and the length field
inside the octets says so; and after any sequence the object is the one the constructor builds from
its final values.

A functional model has no aliasing and no hidden caches: `C11_conf_untouched` and the `*_pack_idem`
theorems hold by construction and do not carry the property's clauses "caller inputs are not
modified" and "packing twice yields identical octets and does not change equality"; those rest on
the tie to the real objects.
-/
namespace SpVerif.Props.C11
open SpVerif SpVerif.Mutation

variable {S O : Type}

theorem C11_reach (m : Machine S O) (Inv : S → Prop) (hstep : ∀ s o, Inv s → Inv (m.step s o).1)
    (s : S) (ops : List O) (h : Inv s) : Inv (m.run s ops) :=
  foldl_inv _ Inv hstep ops s h

theorem C11_trace_run (m : Machine S O) (s : S) (ops : List O) (o : O) :
    (m.trace s ops).length = ops.length ∧ m.run s (ops ++ [o]) = (m.step (m.run s ops) o).1 := by
  refine ⟨?_, by simp [Machine.run, List.foldl_append]⟩
  induction ops generalizing s with
  | nil => rfl
  | cons o2 rest ih => simp [Machine.trace, ih]

section Tc
open SpVerif.PusTc SpVerif.SpacePacket

/-- the cached CCSDS data length field agrees with the application data -/
def TcInv (s : TcS) : Prop := s.obj.sph.dlen = dataLength s.obj.appData.length 5

instance (s : TcS) : Decidable (TcInv s) := by unfold TcInv; infer_instance

private theorem sph_new_inv {v t sh f : Nat} {a c d : Int} {h : Sph} (hn : Sph.new v t sh a f c d = .ok h) :
    ¬ (a > 2047 ∨ a < 0) ∧ ¬ (c > 16383 ∨ c < 0) ∧ h = ⟨v, t, sh, a.toNat, f, c.toNat, d.toNat⟩ := by
  unfold Sph.new at hn
  split at hn
  · cases hn
  · split at hn
    · cases hn
    · split at hn
      · cases hn
      · exact ⟨‹_›, ‹_›, (Except.ok.inj hn).symm⟩

private theorem sph_new_redo {v t sh f : Nat} {a c d : Int} {h : Sph} (hn : Sph.new v t sh a f c d = .ok h)
    (n : Nat) (hle : n ≤ 65535) : Sph.new v t sh a f c (n : Int) = .ok { h with dlen := n } := by
  obtain ⟨h2, h3, rfl⟩ := sph_new_inv hn
  unfold Sph.new
  rw [if_neg (by omega), if_neg h2, if_neg h3, Int.toNat_natCast]

theorem C11_tc_init (svc sub : Nat) (apid : Int) (d : Bytes) (cnt : Int) (src ack : Nat) (t : Tc)
    (h : Tc.new svc sub apid d cnt src ack = .ok t) :
    TcInv (TcS.ofNew t) ∧ t.appData = d ∧ (TcS.ofNew t).crc = none := by
  unfold Tc.new at h
  obtain ⟨sph, hs, h⟩ := bind_ok_inv h
  cases pure_ok_inv h
  obtain ⟨_, _, rfl⟩ := sph_new_inv hs
  exact ⟨by simp [TcInv, TcS.ofNew], rfl, rfl⟩

theorem C11_tc_step_spec (s : TcS) (d : Bytes) :
    tcStep s (.appData d) =
      if 65529 < d.length then (s, some .value)
      else ({ s with obj := { s.obj with appData := d, sph := { s.obj.sph with dlen := d.length + 6 } } }, none) := by
  rw [tcStep]
  unfold Tc.setAppData dataLength
  by_cases g : 65529 < d.length
  · rw [if_pos (by omega), if_pos g]
  · rw [if_neg (by omega), if_neg g, show 5 + d.length + 1 = d.length + 6 by omega]

theorem C11_tc_step (s : TcS) (o : TcOp) (h : TcInv s) :
    TcInv (tcStep s o).1 ∧ ((tcStep s o).2 ≠ none → (tcStep s o).1 = s) ∧
    (tcStep s o).1.obj.sec = s.obj.sec ∧ (tcStep s o).1.crc = s.crc := by
  cases o with
  | appData d =>
    rw [C11_tc_step_spec]
    split
    · exact ⟨h, fun _ => rfl, rfl, rfl⟩
    · refine ⟨?_, fun hne => absurd rfl hne, rfl, rfl⟩
      simp only [TcInv, dataLength]; omega

theorem C11_tc_reach (s : TcS) (ops : List TcOp) (h : TcInv s) : TcInv (tcMachine.run s ops) :=
  C11_reach tcMachine TcInv (fun s o hs => (C11_tc_step s o hs).1) s ops h

/-- the octets of the state machine's `pack` are those of the owning model's `Tc.pack` (so every
    C02 / C04 theorem about `Tc.pack` speaks about them): the cache never influences them -/
theorem C11_tc_pack_octets (s : TcS) : (s.pack).map Prod.fst = s.obj.pack := by
  unfold TcS.pack Tc.pack
  cases s.obj.packNoCrc <;> rfl

/-- **reported length = packed length, and the length field says so**: octets 4–5 hold the
    number of octets after the primary header, minus one -/
theorem C11_tc_pack_len (s : TcS) (h : TcInv s) (b : Bytes) (s' : TcS) (hp : s.pack = .ok (b, s')) :
    b.length = s.reported ∧ beNat ((b.drop 4).take 2) = b.length - 7 ∧
    b.length = 13 + s.obj.appData.length := by
  unfold TcS.pack at hp
  obtain ⟨p, hn, hp⟩ := bind_ok_inv hp
  cases pure_ok_inv hp
  unfold Tc.packNoCrc at hn
  obtain ⟨hb, hh, hn⟩ := bind_ok_inv hn
  obtain ⟨sb, hs, hn⟩ := bind_ok_inv hn
  cases pure_ok_inv hn
  have hinv : s.obj.sph.dlen = s.obj.appData.length + 6 := by rw [h, dataLength]; omega
  obtain ⟨h1, h2⟩ := sph_packet_len hh (List.append_assoc hb sb s.obj.appData).symm
    (by rw [List.length_append, tcsec_pack_len hs]; omega)
  refine ⟨h1, h2, ?_⟩
  rw [h1, Sph.packetLen, hinv]
  omega

theorem C11_tc_pack_idem (s : TcS) (b : Bytes) (s' : TcS) (hp : s.pack = .ok (b, s')) :
    s'.pack = .ok (b, s') ∧ s'.obj = s.obj ∧ TcS.beq s s' = true ∧ TcS.beq s' s = true ∧
    ∀ x, TcS.beq x s' = TcS.beq x s ∧ TcS.beq s' x = TcS.beq s x := by
  unfold TcS.pack at hp
  obtain ⟨p, hn, hp⟩ := bind_ok_inv hp
  cases pure_ok_inv hp
  have hrefl : s.obj.beq s.obj = true := by
    unfold Tc.packNoCrc at hn
    obtain ⟨hb, hh, hn⟩ := bind_ok_inv hn
    obtain ⟨sb, hs, _⟩ := bind_ok_inv hn
    rw [Tc.beq, hh, hs]
    simp [PusTc.pyEq]
  refine ⟨?_, rfl, hrefl, hrefl, fun x => ⟨rfl, rfl⟩⟩
  show (s.obj.packNoCrc >>= _) = _
  rw [hn]; rfl

private theorem tc_new_redo {svc sub : Nat} {apid : Int} {d : Bytes} {cnt : Int} {src ack : Nat} {t : Tc}
    (h : Tc.new svc sub apid d cnt src ack = .ok t) (d' : Bytes) (hle : dataLength d'.length 5 ≤ 65535) :
    Tc.new svc sub apid d' cnt src ack = .ok (t.setAppData d') := by
  unfold Tc.new at h ⊢
  obtain ⟨sph, hsp, h⟩ := bind_ok_inv h
  cases pure_ok_inv h
  rw [sph_new_redo hsp _ hle]; rfl

/-- **same as a fresh object** (hence the same octets, the same `packet_len`, and `==`) -/
theorem C11_tc_fresh (svc sub : Nat) (apid : Int) (d : Bytes) (cnt : Int) (src ack : Nat) (t : Tc)
    (h : Tc.new svc sub apid d cnt src ack = .ok t) (ops : List TcOp) :
    Tc.new svc sub apid (tcMachine.run (TcS.ofNew t) ops).obj.appData cnt src ack
      = .ok (tcMachine.run (TcS.ofNew t) ops).obj := by
  apply C11_reach tcMachine (fun s => Tc.new svc sub apid s.obj.appData cnt src ack = .ok s.obj)
  · intro s o hs
    cases o with
    | appData d2 =>
      simp only [tcMachine, tcStep]
      split
      · exact hs
      · exact tc_new_redo hs d2 (by omega)
  · exact (C11_tc_init svc sub apid d cnt src ack t h).2.1.symm ▸ h

end Tc

section Tm
open SpVerif.PusTm SpVerif.SpacePacket

/-- the cached CCSDS data length field agrees with timestamp and source data -/
def TmInv (s : TmS) : Prop := s.obj.sph.dlen = dataLen s.obj.sec.timestamp.length s.obj.sourceData.length

instance (s : TmS) : Decidable (TmInv s) := by unfold TmInv; infer_instance

private theorem tmsec_new_ts {svc sub mc : Int} {ts : Bytes} {dst ref : Nat} {sec : TmSec}
    (h : TmSec.new svc sub ts mc dst ref = .ok sec) : sec.timestamp = ts := by
  unfold TmSec.new at h
  split at h
  · cases h
  · split at h
    · cases h
    · split at h
      · cases h
      · cases h; rfl

theorem C11_tm_init (svc sub : Int) (ts d : Bytes) (apid cnt mc : Int) (ref dst ver : Nat) (t : Tm)
    (h : Tm.new svc sub ts d apid cnt mc ref dst ver = .ok t) :
    TmInv (TmS.ofNew t) ∧ t.sourceData = d ∧ t.sec.timestamp = ts ∧ (TmS.ofNew t).crc = none := by
  unfold Tm.new at h
  obtain ⟨sph, hs, h⟩ := bind_ok_inv h
  obtain ⟨sec, hsec, h⟩ := bind_ok_inv h
  cases pure_ok_inv h
  obtain ⟨_, _, rfl⟩ := sph_new_inv hs
  have hts := tmsec_new_ts hsec
  exact ⟨by simp [TmInv, TmS.ofNew, hts], rfl, hts, rfl⟩

theorem C11_tm_step_spec (s : TmS) (d : Bytes) :
    tmStep s (.tmData d) =
      if 65527 < s.obj.sec.timestamp.length + d.length then (s, some .value)
      else ({ s with obj :=
              { s.obj with sourceData := d, sph := { s.obj.sph with dlen := s.obj.sec.timestamp.length + d.length + 8 } } },
            none) := by
  rw [tmStep]
  unfold Tm.setTmData dataLen
  by_cases g : 65527 < s.obj.sec.timestamp.length + d.length
  · rw [if_pos (by omega), if_pos g]
  · rw [if_neg (by omega), if_neg g,
      show 7 + s.obj.sec.timestamp.length + d.length + 1 = s.obj.sec.timestamp.length + d.length + 8 by omega]

theorem C11_tm_step (s : TmS) (o : TmOp) (h : TmInv s) :
    TmInv (tmStep s o).1 ∧ ((tmStep s o).2 ≠ none → (tmStep s o).1 = s) ∧
    (tmStep s o).1.obj.sec = s.obj.sec ∧ (tmStep s o).1.crc = s.crc := by
  cases o with
  | tmData d =>
    rw [C11_tm_step_spec]
    split
    · exact ⟨h, fun _ => rfl, rfl, rfl⟩
    · refine ⟨?_, fun hne => absurd rfl hne, rfl, rfl⟩
      simp only [TmInv, dataLen]; omega

theorem C11_tm_reach (s : TmS) (ops : List TmOp) (h : TmInv s) : TmInv (tmMachine.run s ops) :=
  C11_reach tmMachine TmInv (fun s o hs => (C11_tm_step s o hs).1) s ops h

/-- the octets are those of the owning model's `Tm.pack` (C03 / C04 speak about them) -/
theorem C11_tm_pack_octets (s : TmS) : (s.pack).map Prod.fst = s.obj.pack := by
  unfold TmS.pack Tm.pack
  cases s.obj.packNoCrc <;> rfl

theorem C11_tm_pack_len (s : TmS) (h : TmInv s) (b : Bytes) (s' : TmS) (hp : s.pack = .ok (b, s')) :
    b.length = s.reported ∧ beNat ((b.drop 4).take 2) = b.length - 7 ∧
    b.length = 15 + s.obj.sec.timestamp.length + s.obj.sourceData.length := by
  unfold TmS.pack at hp
  obtain ⟨p, hn, hp⟩ := bind_ok_inv hp
  cases pure_ok_inv hp
  unfold Tm.packNoCrc at hn
  obtain ⟨hb, hh, hn⟩ := bind_ok_inv hn
  obtain ⟨sb, hs, hn⟩ := bind_ok_inv hn
  cases pure_ok_inv hn
  have hinv : s.obj.sph.dlen = s.obj.sec.timestamp.length + s.obj.sourceData.length + 8 := by
    rw [h, dataLen]; omega
  obtain ⟨h1, h2⟩ := sph_packet_len hh (List.append_assoc hb sb s.obj.sourceData).symm
    (by rw [List.length_append, tmsec_pack_len hs]; omega)
  refine ⟨h1, h2, ?_⟩
  rw [h1, Sph.packetLen, hinv]
  omega

theorem C11_tm_pack_idem (s : TmS) (b : Bytes) (s' : TmS) (hp : s.pack = .ok (b, s')) :
    s'.pack = .ok (b, s') ∧ s'.obj = s.obj ∧ TmS.beq s s' = true ∧ TmS.beq s' s = true ∧
    ∀ x, TmS.beq x s' = TmS.beq x s ∧ TmS.beq s' x = TmS.beq s x := by
  unfold TmS.pack at hp
  obtain ⟨p, hn, hp⟩ := bind_ok_inv hp
  cases pure_ok_inv hp
  have hrefl : s.obj.beq s.obj = true := by
    unfold Tm.packNoCrc at hn
    obtain ⟨hb, hh, hn⟩ := bind_ok_inv hn
    obtain ⟨sb, hs, _⟩ := bind_ok_inv hn
    rw [Tm.beq, hh, hs]
    simp [PusTm.pyEq]
  refine ⟨?_, rfl, hrefl, hrefl, fun x => ⟨rfl, rfl⟩⟩
  show (s.obj.packNoCrc >>= _) = _
  rw [hn]; rfl

private theorem tm_new_redo {svc sub : Int} {ts d : Bytes} {apid cnt mc : Int} {ref dst ver : Nat} {t : Tm}
    (h : Tm.new svc sub ts d apid cnt mc ref dst ver = .ok t) (d' : Bytes)
    (hle : dataLen t.sec.timestamp.length d'.length ≤ 65535) :
    Tm.new svc sub ts d' apid cnt mc ref dst ver = .ok (t.setTmData d') := by
  unfold Tm.new at h ⊢
  obtain ⟨sph, hsp, h⟩ := bind_ok_inv h
  obtain ⟨sec, hsec, h⟩ := bind_ok_inv h
  cases pure_ok_inv h
  have hts : sec.timestamp = ts := tmsec_new_ts hsec
  rw [sph_new_redo hsp _ (hts ▸ hle), hsec]
  simp only [bind_ok, Tm.setTmData, hts]
  rfl

theorem C11_tm_fresh (svc sub : Int) (ts d : Bytes) (apid cnt mc : Int) (ref dst ver : Nat) (t : Tm)
    (h : Tm.new svc sub ts d apid cnt mc ref dst ver = .ok t) (ops : List TmOp) :
    Tm.new svc sub ts (tmMachine.run (TmS.ofNew t) ops).obj.sourceData apid cnt mc ref dst ver
      = .ok (tmMachine.run (TmS.ofNew t) ops).obj := by
  apply C11_reach tmMachine (fun s => Tm.new svc sub ts s.obj.sourceData apid cnt mc ref dst ver = .ok s.obj)
  · intro s o hs
    cases o with
    | tmData d2 =>
      simp only [tmMachine, tmStep]
      split
      · exact hs
      · exact tm_new_redo hs d2 (by omega)
  · exact (C11_tm_init svc sub ts d apid cnt mc ref dst ver t h).2.1.symm ▸ h

end Tm

section Nak
open SpVerif.CfdpHeader SpVerif.FileDirective SpVerif.Nak

/-- the cached data-field length agrees with the large-file flag, the CRC flag and the number of
    segment requests (and fits its 16 bits); the flag is NORMAL or LARGE; ID widths agree -/
def NakInv (k : Nak) : Prop :=
  k.fd.header.conf.fileFlag < 2 ∧ k.fd.header.conf.dest.width = k.fd.header.conf.source.width ∧
  k.fd.header.dataFieldLen ≤ 65535 ∧
  k.fd.header.dataFieldLen = nakParamLen k.fd.header.conf.fileFlag k.fd.header.conf.crcFlag k.segs.length + 1

instance (k : Nak) : Decidable (NakInv k) := by unfold NakInv; infer_instance

/-- "is a constructor image": additionally file-directive type, NAK directive code, direction
    towards the sender -/
def NakBuilt (k : Nak) : Prop :=
  NakInv k ∧ k.fd.header.pduType = 0 ∧ k.fd.header.segMeta = 0 ∧ k.fd.code = 8 ∧ k.fd.header.conf.direction = 1

theorem C11_nak_init (c : PduConfig) (hf : c.fileFlag < 2) (s e : Int) (segs : List Seg) (k : Nak)
    (h : Nak.new c s e segs = .ok k) :
    NakBuilt k ∧ k.segs = segs ∧ k.fd.header.conf = { c with direction := 1 } := by
  rw [new_eq c s e segs hf] at h
  split at h
  · cases h
  · cases h
    exact ⟨⟨⟨hf, by simp only; omega, by simp only; omega, rfl⟩, rfl, rfl, rfl, rfl⟩, rfl, rfl⟩

theorem C11_nak_step_spec (k : Nak) (hf : k.fd.header.conf.fileFlag < 2) :
    (∀ l, nakStep k (.segs l) =
      if 65535 < nakParamLen k.fd.header.conf.fileFlag k.fd.header.conf.crcFlag l.length + 1 then (k, some .value)
      else ({ k with segs := l, fd := { k.fd with header := { k.fd.header with
        dataFieldLen := nakParamLen k.fd.header.conf.fileFlag k.fd.header.conf.crcFlag l.length + 1 } } }, none)) ∧
    (∀ f, f < 2 → nakStep k (.fileFlag f) =
      if 65535 < nakParamLen f k.fd.header.conf.crcFlag k.segs.length + 1 then (k, some .value)
      else ({ k with fd := { k.fd with header := { k.fd.header with
        dataFieldLen := nakParamLen f k.fd.header.conf.crcFlag k.segs.length + 1,
        conf := { k.fd.header.conf with fileFlag := f } } } }, none)) ∧
    (∀ f, 2 ≤ f → nakStep k (.fileFlag f) = (k, some .value)) := by
  refine ⟨fun l => ?_, fun f hf2 => ?_, fun f hf2 => ?_⟩
  · rw [nakStep, setSegs_eq k l hf]
    symm; split <;> rfl
  · rw [nakStep, setFileFlag_eq k f hf2]
    symm; split <;> rfl
  · rw [nakStep, Nak.setFileFlag, calcLen_bad_flag _ _ (by simpa [FileDirective.setFileFlag] using hf2)]
    rfl

theorem C11_nak_step (k : Nak) (o : NakOp) (h : NakInv k) :
    NakInv (nakStep k o).1 ∧ ((nakStep k o).2 ≠ none → (nakStep k o).1 = k) ∧
    (nakStep k o).1.startOfScope = k.startOfScope ∧ (nakStep k o).1.endOfScope = k.endOfScope ∧
    (nakStep k o).1.fd.code = k.fd.code ∧
    { (nakStep k o).1.fd.header.conf with fileFlag := 0 } = { k.fd.header.conf with fileFlag := 0 } ∧
    (nakStep k o).1.fd.header.pduType = k.fd.header.pduType ∧ (nakStep k o).1.fd.header.segMeta = k.fd.header.segMeta := by
  obtain ⟨h1, h2, h3⟩ := C11_nak_step_spec k h.1
  cases o with
  | segs l =>
    rw [h1 l]
    split
    · exact ⟨h, fun _ => rfl, rfl, rfl, rfl, rfl, rfl, rfl⟩
    · exact ⟨⟨h.1, h.2.1, Nat.le_of_not_lt ‹_›, rfl⟩, fun hne => absurd rfl hne, rfl, rfl, rfl, rfl, rfl, rfl⟩
  | fileFlag f =>
    by_cases hf2 : f < 2
    · rw [h2 f hf2]
      split
      · exact ⟨h, fun _ => rfl, rfl, rfl, rfl, rfl, rfl, rfl⟩
      · exact ⟨⟨hf2, h.2.1, Nat.le_of_not_lt ‹_›, rfl⟩, fun hne => absurd rfl hne, rfl, rfl, rfl, rfl, rfl, rfl⟩
    · rw [h3 f (by omega)]
      exact ⟨h, fun _ => rfl, rfl, rfl, rfl, rfl, rfl, rfl⟩

theorem C11_nak_reach (k : Nak) (ops : List NakOp) (h : NakInv k) : NakInv (nakMachine.run k ops) :=
  C11_reach nakMachine NakInv (fun s o hs => (C11_nak_step s o hs).1) k ops h

/-- **reported length = packed length, and the length field says so**: octets 1–2 hold the
    number of octets after the fixed header (directive code, scope, segment requests, CRC) -/
theorem C11_nak_pack_len (k : Nak) (h : NakInv k) (b : Bytes) (k' : Nak) (hp : nakPack k = .ok (b, k')) :
    b.length = k.packetLen ∧ beNat ((b.drop 1).take 2) = b.length - k.fd.header.headerLen ∧
    b.length = k.fd.header.headerLen + 1 + 2 * fssWidth k.fd.header.conf.fileFlag * (k.segs.length + 1)
      + (if k.fd.header.conf.crcFlag = 1 then 2 else 0) := by
  obtain ⟨_, hw, hle, hd⟩ := h
  unfold nakParamLen at hd
  obtain ⟨hp0, _⟩ := pack_self_inv hp
  unfold Nak.pack at hp0
  obtain ⟨d, hdp, hp0⟩ := bind_ok_inv hp0
  obtain ⟨sc, hsc, hp0⟩ := bind_ok_inv hp0
  obtain ⟨sg, hsg, hp0⟩ := bind_ok_inv hp0
  have eb := pure_ok_inv hp0
  rw [List.append_assoc] at eb
  have lP : (sc ++ sg).length = 2 * fssWidth k.fd.header.conf.fileFlag * (k.segs.length + 1) := by
    rw [List.length_append, packPair_len hsc, packSegs_len hsg, segW_eq, Nat.mul_add, Nat.mul_comm k.segs.length]
    omega
  obtain ⟨h1, h2⟩ := directive_pack_len hdp hw eb hle (by rw [lP]; exact hd)
  refine ⟨h1, h2, ?_⟩
  rw [h1, PduHeader.packetLen, hd]
  omega

theorem C11_nak_pack_idem (k : Nak) (b : Bytes) (k' : Nak) (hp : nakPack k = .ok (b, k')) :
    k' = k ∧ nakPack k' = .ok (b, k') ∧ k.beq k' = true ∧ k'.beq k = true := by
  obtain ⟨_, rfl⟩ := pack_self_inv hp
  have hr : k'.beq k' = true := by simp [Nak.beq, beq_refl]
  exact ⟨rfl, hp, hr, hr⟩

private theorem nak_built_new (k : Nak) (h : NakBuilt k) :
    Nak.new k.fd.header.conf k.startOfScope k.endOfScope k.segs = .ok k := by
  obtain ⟨⟨hf, hw, hle, hd⟩, h1, h2, h3, h4⟩ := h
  rw [new_eq _ _ _ _ hf, if_neg (by omega), ← hd, directive_built h1 h2 h3 h4]

theorem C11_nak_fresh (c : PduConfig) (hf : c.fileFlag < 2) (s e : Int) (segs : List Seg) (k : Nak)
    (h : Nak.new c s e segs = .ok k) (ops : List NakOp) :
    Nak.new (nakMachine.run k ops).fd.header.conf (nakMachine.run k ops).startOfScope
      (nakMachine.run k ops).endOfScope (nakMachine.run k ops).segs = .ok (nakMachine.run k ops) := by
  refine nak_built_new _ (C11_reach nakMachine NakBuilt ?_ k ops (C11_nak_init c hf s e segs k h).1)
  intro r o ⟨hi, h1, h2, h3, h4⟩
  obtain ⟨hi', _, _, _, hcode, hconf, hpt, hsm⟩ := C11_nak_step r o hi
  exact ⟨hi', hpt.trans h1, hsm.trans h2, hcode.trans h3, (congrArg PduConfig.direction hconf).trans h4⟩

end Nak

section KeepAlive
open SpVerif.CfdpHeader SpVerif.FileDirective SpVerif.KeepAlive

/-- the cached data-field length agrees with the large-file flag and the CRC flag (directive code,
    progress of 4 or 8 octets, CRC trailer); ID widths agree -/
def KaInv (k : KeepAlive) : Prop :=
  k.fd.header.conf.dest.width = k.fd.header.conf.source.width ∧
  k.fd.header.dataFieldLen = paramLenFor k.fd.header.conf.fileFlag k.fd.header.conf.crcFlag + 1

instance (k : KeepAlive) : Decidable (KaInv k) := by unfold KaInv; infer_instance

/-- "is a constructor image": additionally file-directive type, Keep Alive directive code,
    direction towards the sender -/
def KaBuilt (k : KeepAlive) : Prop :=
  KaInv k ∧ k.fd.header.pduType = 0 ∧ k.fd.header.segMeta = 0 ∧ k.fd.code = 12 ∧ k.fd.header.conf.direction = 1

theorem C11_ka_init (c : PduConfig) (progress : Int) (k : KeepAlive) (h : KeepAlive.new c progress = .ok k) :
    KaBuilt k ∧ k.progress = progress ∧ k.fd.header.conf = { c with direction := 1 } := by
  rw [SpVerif.KeepAlive.new_eq] at h
  split at h
  · cases h
  · cases h
    exact ⟨⟨⟨by simp only; omega, rfl⟩, rfl, rfl, rfl, rfl⟩, rfl, rfl⟩

theorem C11_ka_step_spec (k : KeepAlive) (f : Nat) :
    kaStep k (.fileFlag f) = ({ k with fd := { k.fd with header := { k.fd.header with
      dataFieldLen := paramLenFor f k.fd.header.conf.crcFlag + 1,
      conf := { k.fd.header.conf with fileFlag := f } } } }, none) := by
  rw [kaStep, setFileFlag_eq]

theorem C11_ka_step (k : KeepAlive) (o : KaOp) (h : KaInv k) :
    KaInv (kaStep k o).1 ∧ (kaStep k o).2 = none ∧ (kaStep k o).1.progress = k.progress ∧
    (kaStep k o).1.fd.code = k.fd.code ∧
    { (kaStep k o).1.fd.header.conf with fileFlag := 0 } = { k.fd.header.conf with fileFlag := 0 } := by
  cases o with
  | fileFlag f =>
    rw [C11_ka_step_spec]
    exact ⟨⟨h.1, rfl⟩, rfl, rfl, rfl, rfl⟩

theorem C11_ka_reach (k : KeepAlive) (ops : List KaOp) (h : KaInv k) : KaInv (kaMachine.run k ops) :=
  C11_reach kaMachine KaInv (fun s o hs => (C11_ka_step s o hs).1) k ops h

/-- **reported length = packed length, and the length field says so** (16 vs 18: the CRC trailer
    is counted after a flag change as well) -/
theorem C11_ka_pack_len (k : KeepAlive) (h : KaInv k) (b : Bytes) (k' : KeepAlive) (hp : kaPack k = .ok (b, k')) :
    b.length = k.packetLen ∧ beNat ((b.drop 1).take 2) = b.length - k.fd.header.headerLen ∧
    b.length = k.fd.header.headerLen + 1 + (if k.fd.header.conf.fileFlag = 1 then 8 else 4)
      + (if k.fd.header.conf.crcFlag = 1 then 2 else 0) := by
  obtain ⟨hw, hd⟩ := h
  obtain ⟨hp0, _⟩ := pack_self_inv hp
  rw [SpVerif.KeepAlive.pack_eq] at hp0
  obtain ⟨d, hdp, hp0⟩ := bind_ok_inv hp0
  obtain ⟨pr, hpr, hp0⟩ := bind_ok_inv hp0
  split at hpr
  · cases hpr
  have lpr := packInt_len hpr
  have eb := pure_ok_inv hp0
  have hle := paramLenFor_le k.fd.header.conf.fileFlag k.fd.header.conf.crcFlag
  obtain ⟨h1, h2⟩ := directive_pack_len hdp hw eb (by omega) (by rw [lpr]; exact hd)
  refine ⟨h1, h2, ?_⟩
  rw [h1, PduHeader.packetLen, hd, paramLenFor]
  omega

theorem C11_ka_pack_idem (k : KeepAlive) (b : Bytes) (k' : KeepAlive) (hp : kaPack k = .ok (b, k')) :
    k' = k ∧ kaPack k' = .ok (b, k') ∧ k.beq k' = true ∧ k'.beq k = true := by
  obtain ⟨_, rfl⟩ := pack_self_inv hp
  have hr : k'.beq k' = true := by simp [KeepAlive.beq, beq_refl]
  exact ⟨rfl, hp, hr, hr⟩

private theorem ka_built_new (k : KeepAlive) (h : KaBuilt k) : KeepAlive.new k.fd.header.conf k.progress = .ok k := by
  obtain ⟨⟨hw, hd⟩, h1, h2, h3, h4⟩ := h
  rw [SpVerif.KeepAlive.new_eq, if_neg (by omega), ← hd, directive_built h1 h2 h3 h4]

theorem C11_ka_fresh (c : PduConfig) (progress : Int) (k : KeepAlive) (h : KeepAlive.new c progress = .ok k)
    (ops : List KaOp) :
    KeepAlive.new (kaMachine.run k ops).fd.header.conf (kaMachine.run k ops).progress = .ok (kaMachine.run k ops) := by
  refine ka_built_new _ (C11_reach kaMachine KaBuilt ?_ k ops (C11_ka_init c progress k h).1)
  intro r o ⟨hi, h1, h2, h3, h4⟩
  cases o with
  | fileFlag f =>
    show KaBuilt (kaStep r (.fileFlag f)).1
    rw [C11_ka_step_spec]
    exact ⟨⟨hi.1, rfl⟩, h1, h2, h3, h4⟩

end KeepAlive

section FileData
open SpVerif.CfdpHeader SpVerif.FileData

/-- C07's consistency (cached data-field length = metadata + offset + data + CRC, flag in step
    with the presence of segment metadata), the length fitting its 16 bits, ID widths agreeing -/
def FdInv (p : Pdu) : Prop :=
  C07.Consistent p ∧ p.header.conf.dest.width = p.header.conf.source.width ∧ p.header.dataFieldLen ≤ 65535

instance (p : Pdu) : Decidable (FdInv p) := by unfold FdInv; infer_instance

private theorem fd_new_inv {c : PduConfig} {ps : Params} {p : Pdu} (h : Pdu.new c ps = .ok p) :
    c.source.width = c.dest.width ∧
    (Pdu.mk ⟨1, C07.metaFlag ps.segMeta, 0, { c with direction := 0 }⟩ ps).calcLen ≤ 65535 ∧
    p = ⟨⟨1, C07.metaFlag ps.segMeta, (Pdu.mk ⟨1, C07.metaFlag ps.segMeta, 0, { c with direction := 0 }⟩ ps).calcLen,
      { c with direction := 0 }⟩, ps⟩ := by
  rw [FileData.new_eq] at h
  by_cases g : c.source.width ≠ c.dest.width
  · rw [if_pos g] at h; cases h
  · rw [if_neg g] at h
    exact ⟨by omega, recalc_inv h⟩

theorem C11_fd_init (c : PduConfig) (ps : Params) (p : Pdu) (h : Pdu.new c ps = .ok p) :
    FdInv p ∧ p.params = ps ∧ p.header.conf = { c with direction := 0 } := by
  obtain ⟨hw, hle, rfl⟩ := fd_new_inv h
  exact ⟨⟨⟨rfl, rfl⟩, hw.symm, hle⟩, rfl, rfl⟩

theorem C11_fd_step_spec (p : Pdu) (s : Setter) :
    fdStep p s = if 65535 < (p.put s).calcLen then (p, some .value)
      else ({ p.put s with header := { (p.put s).header with dataFieldLen := (p.put s).calcLen } }, none) :=
  C07.C07_step p s

theorem C11_fd_step (p : Pdu) (s : Setter) (h : FdInv p) :
    FdInv (fdStep p s).1 ∧ ((fdStep p s).2 ≠ none → (fdStep p s).1 = p) ∧
    (fdStep p s).1.header.conf = p.header.conf ∧ (fdStep p s).1.header.pduType = p.header.pduType ∧
    (fdStep p s).1.params.offset = p.params.offset := by
  rw [C11_fd_step_spec]
  split
  · exact ⟨h, fun _ => rfl, rfl, rfl, rfl⟩
  · cases s with
    | fileData d => exact ⟨⟨⟨rfl, h.1.2⟩, h.2.1, Nat.le_of_not_lt ‹_›⟩, fun hne => absurd rfl hne, rfl, rfl, rfl⟩
    | segMeta m => exact ⟨⟨⟨rfl, rfl⟩, h.2.1, Nat.le_of_not_lt ‹_›⟩, fun hne => absurd rfl hne, rfl, rfl, rfl⟩

theorem C11_fd_reach (p : Pdu) (ops : List Setter) (h : FdInv p) : FdInv (fdMachine.run p ops) :=
  C11_reach fdMachine FdInv (fun s o hs => (C11_fd_step s o hs).1) p ops h

theorem C11_fd_pack_len (p : Pdu) (h : FdInv p) (b : Bytes) (p' : Pdu) (hp : fdPack p = .ok (b, p')) :
    b.length = p.packetLen ∧ beNat ((b.drop 1).take 2) = b.length - p.header.headerLen := by
  obtain ⟨hc, hw, hle⟩ := h
  obtain ⟨hp0, _⟩ := pack_self_inv hp
  obtain ⟨h1, h2⟩ := C07.C07_consistent_pack_len p hc hw b hp0
  refine ⟨h1, ?_⟩
  rw [h2, ← beBytes_2, beNat_beBytes 2 _ (by omega), h1]
  simp only [Pdu.packetLen, PduHeader.packetLen]
  omega

theorem C11_fd_pack_idem (p : Pdu) (b : Bytes) (p' : Pdu) (hp : fdPack p = .ok (b, p')) :
    p' = p ∧ fdPack p' = .ok (b, p') ∧ p.beq p' = true ∧ p'.beq p = true := by
  obtain ⟨_, rfl⟩ := pack_self_inv hp
  have hr : p'.beq p' = true := by simp [Pdu.beq, hdrBeq]
  exact ⟨rfl, hp, hr, hr⟩

/-- "is a constructor image", spelled out: PDU type File Data, direction towards the receiver, flag
    in step with the metadata, ID widths agreeing, the cached length being the computed one and
    fitting 16 bits -/
def FdBuilt (p : Pdu) : Prop :=
  p.header.pduType = 1 ∧ p.header.segMeta = C07.metaFlag p.params.segMeta ∧ p.header.conf.direction = 0 ∧
  p.header.conf.source.width = p.header.conf.dest.width ∧ p.header.dataFieldLen = p.calcLen ∧ p.calcLen ≤ 65535

instance (p : Pdu) : Decidable (FdBuilt p) := by unfold FdBuilt; infer_instance

private theorem fd_built_new (p : Pdu) (h : FdBuilt p) : Pdu.new p.header.conf p.params = .ok p := by
  obtain ⟨⟨pt, sm, dfl, ⟨src, dst, seq, tm, ff, crc, dir, sc⟩⟩, ps⟩ := p
  obtain ⟨h1, h2, h3, h4, h5, h6⟩ := h
  simp only at h1 h2 h3 h4
  subst h1 h2 h3
  have h5' : dfl = (Pdu.mk ⟨1, C07.metaFlag ps.segMeta, 0, ⟨src, dst, seq, tm, ff, crc, 0, sc⟩⟩ ps).calcLen := h5
  have h6' : (Pdu.mk ⟨1, C07.metaFlag ps.segMeta, 0, ⟨src, dst, seq, tm, ff, crc, 0, sc⟩⟩ ps).calcLen ≤ 65535 := h6
  subst h5'
  rw [FileData.new_eq, if_neg (show ¬ src.width ≠ dst.width by omega)]
  exact recalc_ok h6'

theorem C11_fd_fresh (c : PduConfig) (ps : Params) (p : Pdu) (h : Pdu.new c ps = .ok p) (ops : List Setter) :
    FdBuilt (fdMachine.run p ops) ∧
    Pdu.new (fdMachine.run p ops).header.conf (fdMachine.run p ops).params = .ok (fdMachine.run p ops) := by
  have key : FdBuilt (fdMachine.run p ops) := by
    refine C11_reach fdMachine FdBuilt ?_ p ops ?_
    · intro r o hb
      show FdBuilt (fdStep r o).1
      rw [C11_fd_step_spec]
      split
      · exact hb
      · obtain ⟨h1, h2, h3, h4, _, _⟩ := hb
        cases o with
        | fileData d => exact ⟨h1, h2, h3, h4, rfl, Nat.le_of_not_lt ‹_›⟩
        | segMeta m => exact ⟨h1, rfl, h3, h4, rfl, Nat.le_of_not_lt ‹_›⟩
    · obtain ⟨hw, hle, rfl⟩ := fd_new_inv h
      exact ⟨rfl, rfl, rfl, hw, rfl, hle⟩
  exact ⟨key, fd_built_new _ key⟩

end FileData

section Uslp
open SpVerif.Uslp

/-- the size cached by the data field agrees with its header and data zone, and the frame is a
    frame of type `ft` in C17's sense (identifiers in range, pointer present exactly when the type
    requires it, OCF present exactly when flagged) -/
def FrameInv (ft : FrameType) (s : FrameS) : Prop := s.size = s.frame.tfdf.len ∧ C17.WFFrame s.frame ft

instance (ft : FrameType) (s : FrameS) : Decidable (FrameInv ft s) := by unfold FrameInv; infer_instance

theorem C11_frame_init (ft : FrameType) (f : Frame) (wf : C17.WFFrame f ft) : FrameInv ft (FrameS.ofNew f) :=
  ⟨rfl, wf⟩

theorem C11_frame_len (ft : FrameType) (s : FrameS) (h : FrameInv ft s) : s.len = s.frame.len := by
  unfold FrameS.len Frame.len
  rw [h.1]

theorem C11_frame_step_spec (s : FrameS) :
    (∀ d, frameStep s (.tfdz d) =
      if tfdfMaxSize - s.frame.tfdf.headerLen < s.frame.tfdf.headerLen + d.length then (s, some .value)
      else ({ frame := { s.frame with tfdf := { s.frame.tfdf with tfdz := d } },
              size := s.frame.tfdf.headerLen + d.length }, none)) ∧
    (∀ h, s.frame.header = .primary h → frameStep s .setFrameLen =
      if 65535 < s.len - 1 then (s, some .value)
      else ({ s with frame := { s.frame with header := .primary { h with frameLen := s.len - 1 } } }, none)) ∧
    (∀ h, s.frame.header = .truncated h → frameStep s .setFrameLen = (s, none)) := by
  refine ⟨fun d => rfl, fun h hh => ?_, fun h hh => ?_⟩
  · simp only [frameStep, Frame.setFrameLenWith, hh]
    symm; split <;> rfl
  · simp only [frameStep, Frame.setFrameLenWith, hh]

theorem C11_frame_set_len_is_c17 (ft : FrameType) (s : FrameS) (h : FrameInv ft s) :
    frameStep s .setFrameLen =
      match s.frame.setFrameLenInHeader with
      | .ok f => ({ s with frame := f }, none)
      | .error e => (s, some e.toErr) := by
  simp only [frameStep, Frame.setFrameLenInHeader, C11_frame_len ft s h]
  rfl

private theorem wf_set_len {f : Frame} {ft : FrameType} (wf : C17.WFFrame f ft) (h : PrimaryHeader)
    (hh : f.header = .primary h) (n : Nat) (hn : n ≤ 65535) :
    C17.WFFrame { f with header := .primary { h with frameLen := n } } ft := by
  obtain ⟨hdr, tfdf, iz, ocf, fecf⟩ := f
  simp only at hh
  subst hh
  obtain ⟨wh, wt, wtr, wo⟩ := wf
  refine ⟨?_, wt, wtr, ?_⟩
  · obtain ⟨w1, _, w3, w4⟩ := wh
    exact ⟨w1, by show n < 65536; omega, w3, w4⟩
  · cases ocf <;> exact wo

theorem C11_frame_step (ft : FrameType) (s : FrameS) (o : FrameOp) (h : FrameInv ft s) :
    FrameInv ft (frameStep s o).1 ∧ ((frameStep s o).2 ≠ none → (frameStep s o).1 = s) ∧
    (frameStep s o).1.frame.insertZone = s.frame.insertZone ∧ (frameStep s o).1.frame.ocf = s.frame.ocf ∧
    (frameStep s o).1.frame.fecf = s.frame.fecf ∧
    (o = .setFrameLen → (frameStep s o).2 = none → C17.LenSet (frameStep s o).1.frame) := by
  obtain ⟨h1, h2, h3⟩ := C11_frame_step_spec s
  cases o with
  | tfdz d =>
    rw [h1 d]
    split
    · exact ⟨h, fun _ => rfl, rfl, rfl, rfl, fun e => by cases e⟩
    · exact ⟨⟨rfl, h.2⟩, fun hne => absurd rfl hne, rfl, rfl, rfl, fun e => by cases e⟩
  | setFrameLen =>
    cases hh : s.frame.header with
    | truncated t =>
      rw [h3 t hh]
      exact ⟨h, fun _ => rfl, rfl, rfl, rfl, fun _ _ => by simp [C17.LenSet, hh]⟩
    | primary p =>
      rw [h2 p hh]
      split
      · exact ⟨h, fun _ => rfl, rfl, rfl, rfl, fun _ e => by cases e⟩
      · refine ⟨⟨h.1, wf_set_len h.2 p hh _ (Nat.le_of_not_lt ‹_›)⟩, fun hne => absurd rfl hne, rfl, rfl, rfl, fun _ _ => ?_⟩
        have hl := C11_frame_len ft s h
        have h1 : 1 ≤ s.frame.len := by
          unfold Frame.len Tfdf.len Tfdf.headerLen
          split <;> omega
        simp only [C17.LenSet, Frame.len, Header.len, PrimaryHeader.len]
        simp only [Frame.len, hh, Header.len, PrimaryHeader.len] at h1 hl
        omega

theorem C11_frame_reach (ft : FrameType) (s : FrameS) (ops : List FrameOp) (h : FrameInv ft s) :
    FrameInv ft (frameMachine.run s ops) :=
  C11_reach frameMachine (FrameInv ft) (fun s o hs => (C11_frame_step ft s o hs).1) s ops h

/-- **reported length = packed length; the length field holds what the header holds**, and after an
    accepted frame-length update (`LenSet`) that is the number of packed octets minus one -/
theorem C11_frame_pack_len (ft : FrameType) (s : FrameS) (h : FrameInv ft s) :
    ∃ b, framePack s = .ok (b, s) ∧ b.length = s.len ∧
      (∀ p, s.frame.header = .primary p → beNat ((b.drop 4).take 2) = p.frameLen ∧
        (C17.LenSet s.frame → beNat ((b.drop 4).take 2) = b.length - 1)) := by
  obtain ⟨hs, wf⟩ := h
  obtain ⟨hp, hl⟩ := C17.C17_frame_order s.frame ft none wf (Or.inl rfl)
  refine ⟨C17.Spec.frameOctets s.frame, by simp [framePack, hp], ?_, fun p hh => ?_⟩
  · rw [hl, C11_frame_len ft s ⟨hs, wf⟩]
  · have hlt : p.frameLen < 65536 := by
      have := wf.1; rw [hh] at this; exact this.2.1
    have hv : beNat (((C17.Spec.frameOctets s.frame).drop 4).take 2) = p.frameLen := by
      simp only [C17.Spec.frameOctets, C17.Spec.headerOctets, hh, C17.Spec.hdrOctets, C17.Spec.commonOctets]
      simp only [List.cons_append, List.nil_append, List.drop_succ_cons, List.drop_zero, List.take_succ_cons,
        List.take_zero, beNat_two, u8_toNat]
      omega
    refine ⟨hv, fun hset => ?_⟩
    rw [hv, hl]
    simp only [C17.LenSet, hh] at hset
    omega

theorem C11_frame_pack_idem (s : FrameS) (b : Bytes) (s' : FrameS) (hp : framePack s = .ok (b, s')) :
    s' = s ∧ framePack s' = .ok (b, s') := by
  have hk : s' = s := by
    unfold framePack at hp
    split at hp
    · exact (congrArg Prod.snd (Except.ok.inj hp)).symm
    · cases hp
  subst hk
  exact ⟨rfl, hp⟩

/-- "is a constructor image": the data field is what `TransferFrameDataField(rules, upid, tfdz, fhp)`
    builds from its own values (in particular within the size bound), and the cached size is the
    one that constructor caches -/
def FrameBuilt (r : FrameS) : Prop :=
  Tfdf.new r.frame.tfdf.rules r.frame.tfdf.upid r.frame.tfdf.tfdz r.frame.tfdf.fhp = .ok r.frame.tfdf ∧
  FrameS.ofNew r.frame = r

theorem C11_frame_fresh (f : Frame)
    (hnew : Tfdf.new f.tfdf.rules f.tfdf.upid f.tfdf.tfdz f.tfdf.fhp = .ok f.tfdf) (ops : List FrameOp) :
    FrameBuilt (frameMachine.run (FrameS.ofNew f) ops) := by
  refine C11_reach frameMachine FrameBuilt ?_ _ ops ⟨hnew, rfl⟩
  intro r o ⟨hr, hsz⟩
  obtain ⟨fr, sz⟩ := r
  obtain rfl : fr.tfdf.len = sz := congrArg FrameS.size hsz
  obtain ⟨h1, h2, h3⟩ := C11_frame_step_spec ⟨fr, fr.tfdf.len⟩
  cases o with
  | tfdz d =>
    show FrameBuilt (frameStep _ (.tfdz d)).1
    rw [h1 d]
    split
    · exact ⟨hr, rfl⟩
    · exact ⟨by unfold Tfdf.new; exact if_neg ‹_›, rfl⟩
  | setFrameLen =>
    show FrameBuilt (frameStep _ .setFrameLen).1
    cases hh : fr.header with
    | truncated t => rw [h3 t hh]; exact ⟨hr, rfl⟩
    | primary p => rw [h2 p hh]; split <;> exact ⟨hr, rfl⟩

end Uslp

section Eof
open SpVerif.CfdpHeader SpVerif.FileDirective SpVerif.Eof SpVerif.Tlv

/-- the cached data-field length agrees with large-file flag, CRC flag and fault location (and
    fits 16 bits); the checksum has its four octets; ID widths agree -/
def EofInv (k : Eof) : Prop :=
  k.fd.header.conf.dest.width = k.fd.header.conf.source.width ∧ k.fd.header.dataFieldLen ≤ 65535 ∧
  k.checksum.length = 4 ∧
  k.fd.header.dataFieldLen = eofParamLen k.fd.header.conf.fileFlag k.fd.header.conf.crcFlag k.faultLoc + 1

instance (k : Eof) : Decidable (EofInv k) := by unfold EofInv; infer_instance

/-- "is a constructor image": additionally file-directive type, EOF directive code, direction
    towards the receiver -/
def EofBuilt (k : Eof) : Prop :=
  EofInv k ∧ k.fd.header.pduType = 0 ∧ k.fd.header.segMeta = 0 ∧ k.fd.code = 4 ∧ k.fd.header.conf.direction = 0

instance (k : Eof) : Decidable (EofBuilt k) := by unfold EofBuilt; infer_instance

theorem C11_eof_init (c : PduConfig) (cs : Bytes) (size : Int) (fl : Option EntityIdTlv) (cond : Int) (k : Eof)
    (h : Eof.new c cs size fl cond = .ok k) :
    EofBuilt k ∧ k.faultLoc = fl ∧ k.fd.header.conf = { c with direction := 0 } := by
  rw [Eof.new_eq] at h
  split at h
  · cases h
  · split at h
    · cases h
    · cases h
      exact ⟨⟨⟨by simp only; omega, by simp only; omega, by simp only; omega, rfl⟩, rfl, rfl, rfl, rfl⟩, rfl, rfl⟩

theorem C11_eof_step_spec (k : Eof) (fl : Option EntityIdTlv) :
    eofStep k (.faultLoc fl) =
      if 65535 < eofParamLen k.fd.header.conf.fileFlag k.fd.header.conf.crcFlag fl + 1 then (k, some .value)
      else ({ k with faultLoc := fl, fd := { k.fd with header := { k.fd.header with
        dataFieldLen := eofParamLen k.fd.header.conf.fileFlag k.fd.header.conf.crcFlag fl + 1 } } }, none) := by
  rw [eofStep, setFaultLoc_eq]
  symm; split <;> rfl

theorem C11_eof_step (k : Eof) (o : EofOp) (h : EofBuilt k) :
    EofBuilt (eofStep k o).1 ∧ ((eofStep k o).2 ≠ none → (eofStep k o).1 = k) ∧
    (eofStep k o).1.cond = k.cond ∧ (eofStep k o).1.checksum = k.checksum ∧ (eofStep k o).1.fileSize = k.fileSize ∧
    (eofStep k o).1.fd.header.conf = k.fd.header.conf := by
  cases o with
  | faultLoc fl =>
    rw [C11_eof_step_spec]
    split
    · exact ⟨h, fun _ => rfl, rfl, rfl, rfl, rfl⟩
    · exact ⟨⟨⟨h.1.1, Nat.le_of_not_lt ‹_›, h.1.2.2.1, rfl⟩, h.2⟩, fun hne => absurd rfl hne, rfl, rfl, rfl, rfl⟩

theorem C11_eof_reach (k : Eof) (ops : List EofOp) (h : EofBuilt k) : EofBuilt (eofMachine.run k ops) :=
  C11_reach eofMachine EofBuilt (fun s o hs => (C11_eof_step s o hs).1) k ops h

private theorem eof_packFault_len {fl : Option EntityIdTlv} {b : Bytes} (h : Eof.packFaultLoc fl = .ok b) :
    b.length = Eof.faultLen fl := by
  cases fl with
  | none => cases h; rfl
  | some t => exact CfdpTlv.pack_length t.tlv b h

theorem C11_eof_pack_len (k : Eof) (h : EofInv k) (b : Bytes) (k' : Eof) (hp : eofPack k = .ok (b, k')) :
    b.length = k.packetLen ∧ beNat ((b.drop 1).take 2) = b.length - k.fd.header.headerLen := by
  obtain ⟨hw, hle, hcs, hd⟩ := h
  obtain ⟨hp0, _⟩ := pack_self_inv hp
  unfold Eof.pack at hp0
  obtain ⟨d, hdp, hp0⟩ := bind_ok_inv hp0
  obtain ⟨c, _, hp0⟩ := bind_ok_inv hp0
  obtain ⟨sz, hsz, hp0⟩ := bind_ok_inv hp0
  obtain ⟨fl, hfl, hp0⟩ := bind_ok_inv hp0
  have eb := pure_ok_inv hp0
  simp only [List.append_assoc] at eb
  refine directive_pack_len hdp hw eb hle ?_
  have lsz := packInt_len hsz
  rw [width_of_large] at lsz
  simp only [List.length_append, List.length_cons, List.length_nil, lsz, eof_packFault_len hfl, hcs]
  unfold eofParamLen at hd
  omega

theorem C11_eof_pack_idem (k : Eof) (b : Bytes) (k' : Eof) (hp : eofPack k = .ok (b, k')) :
    k' = k ∧ eofPack k' = .ok (b, k') := by
  obtain ⟨_, rfl⟩ := pack_self_inv hp
  exact ⟨rfl, hp⟩

private theorem eof_built_new (k : Eof) (h : EofBuilt k) :
    Eof.new k.fd.header.conf k.checksum k.fileSize k.faultLoc k.cond = .ok k := by
  obtain ⟨⟨hw, hle, hcs, hd⟩, h1, h2, h3, h4⟩ := h
  rw [Eof.new_eq, if_neg (by omega), if_neg (by omega), ← hd, directive_built h1 h2 h3 h4]

theorem C11_eof_fresh (c : PduConfig) (cs : Bytes) (size : Int) (fl : Option EntityIdTlv) (cond : Int) (k : Eof)
    (h : Eof.new c cs size fl cond = .ok k) (ops : List EofOp) :
    Eof.new (eofMachine.run k ops).fd.header.conf (eofMachine.run k ops).checksum (eofMachine.run k ops).fileSize
      (eofMachine.run k ops).faultLoc (eofMachine.run k ops).cond = .ok (eofMachine.run k ops) :=
  eof_built_new _ (C11_eof_reach k ops (C11_eof_init c cs size fl cond k h).1)

end Eof

section Finished
open SpVerif.CfdpHeader SpVerif.FileDirective SpVerif.Finished SpVerif.Tlv

/-- the cached data-field length agrees with CRC flag, condition code (a fault location is
    counted only when the code can have one), responses and fault location, and fits 16 bits -/
def FinInv (s : FinS) : Prop :=
  s.obj.fd.header.conf.dest.width = s.obj.fd.header.conf.source.width ∧ s.obj.fd.header.dataFieldLen ≤ 65535 ∧
  s.obj.fd.header.dataFieldLen
    = finParamLen s.obj.fd.header.conf.crcFlag s.obj.cond s.obj.responses s.obj.faultLoc + 1

instance (s : FinS) : Decidable (FinInv s) := by unfold FinInv; infer_instance

def FinBuilt (s : FinS) : Prop :=
  FinInv s ∧ s.obj.fd.header.pduType = 0 ∧ s.obj.fd.header.segMeta = 0 ∧ s.obj.fd.code = 5 ∧
  s.obj.fd.header.conf.direction = 1

instance (s : FinS) : Decidable (FinBuilt s) := by unfold FinBuilt; infer_instance

theorem C11_fin_init (c : PduConfig) (cond : Int) (dc fs : Nat) (rs : List FileStoreResponseTlv)
    (fl : Option EntityIdTlv) (k : Finished) (h : Finished.new c cond dc fs rs fl = .ok k) :
    FinBuilt (FinS.ofNew k) ∧ k.responses = rs ∧ k.faultLoc = fl ∧ k.fd.header.conf = { c with direction := 1 } := by
  rw [Finished.new_eq] at h
  split at h
  · cases h
  · cases h
    exact ⟨⟨⟨by simp only [FinS.ofNew]; omega, by simp only [FinS.ofNew]; omega, rfl⟩, rfl, rfl, rfl, rfl⟩, rfl, rfl, rfl⟩

theorem C11_fin_step_spec (s : FinS) :
    (∀ c, finStep s (.cond c) =
      if 65535 < finParamLen s.obj.fd.header.conf.crcFlag c s.obj.responses s.obj.faultLoc + 1 then (s, some .value)
      else ({ s with obj := { s.obj with cond := c, fd := { s.obj.fd with header := { s.obj.fd.header with
        dataFieldLen := finParamLen s.obj.fd.header.conf.crcFlag c s.obj.responses s.obj.faultLoc + 1 } } } }, none)) ∧
    (∀ rs, finStep s (.responses rs) =
      if 65535 < finParamLen s.obj.fd.header.conf.crcFlag s.obj.cond (rs.getD []) s.obj.faultLoc + 1 then (s, some .value)
      else (FinS.ofNew { s.obj with responses := rs.getD [], fd := { s.obj.fd with header := { s.obj.fd.header with
        dataFieldLen := finParamLen s.obj.fd.header.conf.crcFlag s.obj.cond (rs.getD []) s.obj.faultLoc + 1 } } }, none)) ∧
    (∀ fl, finStep s (.faultLoc fl) =
      if 65535 < finParamLen s.obj.fd.header.conf.crcFlag s.obj.cond s.obj.responses fl + 1 then (s, some .value)
      else ({ s with obj := { s.obj with faultLoc := fl, fd := { s.obj.fd with header := { s.obj.fd.header with
        dataFieldLen := finParamLen s.obj.fd.header.conf.crcFlag s.obj.cond s.obj.responses fl + 1 } } } }, none)) := by
  refine ⟨fun c => ?_, fun rs => ?_, fun fl => ?_⟩
  · rw [finStep, setCond_eq]
    symm; split <;> rfl
  · rw [finStep, setResponses_eq]
    symm; split <;> rfl
  · rw [finStep, setFaultLoc_eq]
    symm; split <;> rfl

theorem C11_fin_step (s : FinS) (o : FinOp) (h : FinBuilt s) :
    FinBuilt (finStep s o).1 ∧ ((finStep s o).2 ≠ none → (finStep s o).1 = s) ∧
    (finStep s o).1.obj.delivery = s.obj.delivery ∧ (finStep s o).1.obj.status = s.obj.status ∧
    (finStep s o).1.obj.fd.header.conf = s.obj.fd.header.conf := by
  obtain ⟨s1, s2, s3⟩ := C11_fin_step_spec s
  cases o <;> simp only [s1, s2, s3]
  all_goals
    split
    · exact ⟨h, fun _ => rfl, rfl, rfl, rfl⟩
    · exact ⟨⟨⟨h.1.1, Nat.le_of_not_lt ‹_›, rfl⟩, h.2⟩, fun hne => absurd rfl hne, rfl, rfl, rfl⟩

theorem C11_fin_reach (s : FinS) (ops : List FinOp) (h : FinBuilt s) : FinBuilt (finMachine.run s ops) :=
  C11_reach finMachine FinBuilt (fun s o hs => (C11_fin_step s o hs).1) s ops h

/-- the octets of the state machine's `pack` are those of the owning model's `Finished.pack`: the
    caches never influence them -/
theorem C11_fin_pack_octets (s : FinS) (b : Bytes) (s' : FinS) (hp : s.pack = .ok (b, s')) : s.obj.pack = .ok b := by
  unfold FinS.pack at hp
  obtain ⟨b0, hp0, hp⟩ := bind_ok_inv hp
  obtain ⟨cs, _, hp⟩ := bind_ok_inv hp
  cases pure_ok_inv hp
  exact hp0

theorem C11_fin_pack_len (s : FinS) (h : FinInv s) (b : Bytes) (s' : FinS) (hp : s.pack = .ok (b, s')) :
    b.length = s.reported ∧ beNat ((b.drop 1).take 2) = b.length - s.obj.fd.header.headerLen := by
  obtain ⟨hw, hle, hd⟩ := h
  have hp0 := C11_fin_pack_octets s b s' hp
  unfold Finished.pack at hp0
  obtain ⟨d, hdp, hp0⟩ := bind_ok_inv hp0
  split at hp0
  · cases hp0
  · obtain ⟨x, _, hp0⟩ := bind_ok_inv hp0
    obtain ⟨rs, hrs, hp0⟩ := bind_ok_inv hp0
    obtain ⟨fl, hfl, hp0⟩ := bind_ok_inv hp0
    have eb := pure_ok_inv hp0
    simp only [List.append_assoc] at eb
    refine directive_pack_len hdp hw eb hle ?_
    simp only [List.length_append, List.length_cons, List.length_nil, packResponses_length hrs, packFaultLoc_length hfl]
    unfold finParamLen at hd
    split at hd <;> rename_i hc
    · rw [if_pos hc]; omega
    · rw [if_neg hc]; omega

theorem C11_fin_pack_idem (s : FinS) (b : Bytes) (s' : FinS) (hp : s.pack = .ok (b, s')) :
    s'.pack = .ok (b, s') ∧ s'.obj = s.obj ∧ ∀ x, FinS.beq x s' = FinS.beq x s ∧ FinS.beq s' x = FinS.beq s x := by
  unfold FinS.pack at hp
  obtain ⟨b0, hp0, hp⟩ := bind_ok_inv hp
  obtain ⟨cs, hcs, hp⟩ := bind_ok_inv hp
  cases pure_ok_inv hp
  refine ⟨?_, rfl, fun x => ⟨rfl, rfl⟩⟩
  show (s.obj.pack >>= _) = _
  rw [hp0, bind_ok, hcs]; rfl

private theorem fin_built_new (s : FinS) (h : FinBuilt s) :
    Finished.new s.obj.fd.header.conf s.obj.cond s.obj.delivery s.obj.status s.obj.responses s.obj.faultLoc = .ok s.obj := by
  obtain ⟨⟨hw, hle, hd⟩, h1, h2, h3, h4⟩ := h
  rw [Finished.new_eq, if_neg (by omega), ← hd, directive_built h1 h2 h3 h4]

theorem C11_fin_fresh (c : PduConfig) (cond : Int) (dc fs : Nat) (rs : List FileStoreResponseTlv)
    (fl : Option EntityIdTlv) (k : Finished) (h : Finished.new c cond dc fs rs fl = .ok k) (ops : List FinOp) :
    Finished.new (finMachine.run (FinS.ofNew k) ops).obj.fd.header.conf (finMachine.run (FinS.ofNew k) ops).obj.cond
      (finMachine.run (FinS.ofNew k) ops).obj.delivery (finMachine.run (FinS.ofNew k) ops).obj.status
      (finMachine.run (FinS.ofNew k) ops).obj.responses (finMachine.run (FinS.ofNew k) ops).obj.faultLoc
        = .ok (finMachine.run (FinS.ofNew k) ops).obj :=
  fin_built_new _ (C11_fin_reach _ ops (C11_fin_init c cond dc fs rs fl k h).1)

end Finished

section Metadata
open SpVerif.CfdpHeader SpVerif.FileDirective SpVerif.Metadata SpVerif.Tlv SpVerif.Lv

/-- the cached data-field length agrees with the flags, both file-name LVs and the options, and
    fits 16 bits -/
def MdInv (k : Metadata) : Prop :=
  k.fd.header.conf.dest.width = k.fd.header.conf.source.width ∧ k.fd.header.dataFieldLen ≤ 65535 ∧
  k.fd.header.dataFieldLen
    = mdParamLen k.fd.header.conf.fileFlag k.fd.header.conf.crcFlag k.srcLv k.dstLv k.options + 1

instance (k : Metadata) : Decidable (MdInv k) := by unfold MdInv; infer_instance

def MdBuilt (k : Metadata) : Prop :=
  MdInv k ∧ k.fd.header.pduType = 0 ∧ k.fd.header.segMeta = 0 ∧ k.fd.code = 7 ∧ k.fd.header.conf.direction = 0 ∧
  k.srcLv.value.length ≤ 255 ∧ k.dstLv.value.length ≤ 255

instance (k : Metadata) : Decidable (MdBuilt k) := by unfold MdBuilt; infer_instance

theorem C11_md_init (c : PduConfig) (cl : Bool) (ct : Nat) (size : Int) (src dst : Option Bytes)
    (opts : Option (List AnyTlv)) (k : Metadata) (h : Metadata.new c cl ct size src dst opts = .ok k) :
    MdBuilt k ∧ k.options = opts ∧ k.srcLv.value = nameOctets src ∧ k.dstLv.value = nameOctets dst ∧
    k.fd.header.conf = { c with direction := 0 } := by
  rw [Metadata.new_eq] at h
  split at h
  · cases h
  · split at h
    · cases h
    · cases h
      exact ⟨⟨⟨by simp only; omega, by simp only; omega, rfl⟩, rfl, rfl, rfl, rfl, by simp only; omega, by simp only; omega⟩,
        rfl, rfl, rfl, rfl⟩

theorem C11_md_step_spec (k : Metadata) :
    (∀ o, mdStep k (.options o) =
      if 65535 < mdParamLen k.fd.header.conf.fileFlag k.fd.header.conf.crcFlag k.srcLv k.dstLv o + 1 then (k, some .value)
      else ({ k with options := o, fd := { k.fd with header := { k.fd.header with
        dataFieldLen := mdParamLen k.fd.header.conf.fileFlag k.fd.header.conf.crcFlag k.srcLv k.dstLv o + 1 } } }, none)) ∧
    (∀ n, mdStep k (.srcName n) =
      if 255 < (nameOctets n).length ∨
        65535 < mdParamLen k.fd.header.conf.fileFlag k.fd.header.conf.crcFlag ⟨nameOctets n⟩ k.dstLv k.options + 1
      then (k, some .value)
      else ({ k with srcLv := ⟨nameOctets n⟩, fd := { k.fd with header := { k.fd.header with
        dataFieldLen :=
          mdParamLen k.fd.header.conf.fileFlag k.fd.header.conf.crcFlag ⟨nameOctets n⟩ k.dstLv k.options + 1 } } }, none)) ∧
    (∀ n, mdStep k (.dstName n) =
      if 255 < (nameOctets n).length ∨
        65535 < mdParamLen k.fd.header.conf.fileFlag k.fd.header.conf.crcFlag k.srcLv ⟨nameOctets n⟩ k.options + 1
      then (k, some .value)
      else ({ k with dstLv := ⟨nameOctets n⟩, fd := { k.fd with header := { k.fd.header with
        dataFieldLen :=
          mdParamLen k.fd.header.conf.fileFlag k.fd.header.conf.crcFlag k.srcLv ⟨nameOctets n⟩ k.options + 1 } } }, none)) := by
  refine ⟨fun o => ?_, fun n => ?_, fun n => ?_⟩
  · rw [mdStep, setOptions_eq]
    symm; split <;> rfl
  · rw [mdStep, setSrcName_eq]
    symm; split <;> rfl
  · rw [mdStep, setDstName_eq]
    symm; split <;> rfl

theorem C11_md_step (k : Metadata) (o : MdOp) (h : MdBuilt k) :
    MdBuilt (mdStep k o).1 ∧ ((mdStep k o).2 ≠ none → (mdStep k o).1 = k) ∧
    (mdStep k o).1.closure = k.closure ∧ (mdStep k o).1.checksumType = k.checksumType ∧
    (mdStep k o).1.fileSize = k.fileSize ∧ (mdStep k o).1.fd.header.conf = k.fd.header.conf := by
  obtain ⟨s1, s2, s3⟩ := C11_md_step_spec k
  obtain ⟨h1, h2, h3, h4, h5, h6⟩ := h.2
  cases o with
  | options o =>
    rw [s1 o]
    split
    · exact ⟨h, fun _ => rfl, rfl, rfl, rfl, rfl⟩
    · exact ⟨⟨⟨h.1.1, Nat.le_of_not_lt ‹_›, rfl⟩, h.2⟩, fun hne => absurd rfl hne, rfl, rfl, rfl, rfl⟩
  | srcName n =>
    rw [s2 n]
    split
    · exact ⟨h, fun _ => rfl, rfl, rfl, rfl, rfl⟩
    · exact ⟨⟨⟨h.1.1, by simp only; omega, rfl⟩, h1, h2, h3, h4, by simp only; omega, h6⟩,
        fun hne => absurd rfl hne, rfl, rfl, rfl, rfl⟩
  | dstName n =>
    rw [s3 n]
    split
    · exact ⟨h, fun _ => rfl, rfl, rfl, rfl, rfl⟩
    · exact ⟨⟨⟨h.1.1, by simp only; omega, rfl⟩, h1, h2, h3, h4, h5, by simp only; omega⟩,
        fun hne => absurd rfl hne, rfl, rfl, rfl, rfl⟩

theorem C11_md_reach (k : Metadata) (ops : List MdOp) (h : MdBuilt k) : MdBuilt (mdMachine.run k ops) :=
  C11_reach mdMachine MdBuilt (fun s o hs => (C11_md_step s o hs).1) k ops h

private theorem packOptions_len : ∀ {l : List AnyTlv} {b : Bytes}, packOptions l = .ok b → b.length = optionsLen l
  | [], b, h => by cases h; rfl
  | t :: l, b, h => by
    unfold packOptions at h
    obtain ⟨x, hx, h⟩ := bind_ok_inv h
    obtain ⟨rest, hr, h⟩ := bind_ok_inv h
    cases pure_ok_inv h
    simp only [List.length_append, optionsLen, C08.C08_packet_len t x hx, packOptions_len hr]

theorem C11_md_pack_len (k : Metadata) (h : MdInv k) (b : Bytes) (k' : Metadata) (hp : mdPack k = .ok (b, k')) :
    b.length = k.packetLen ∧ beNat ((b.drop 1).take 2) = b.length - k.fd.header.headerLen := by
  obtain ⟨hw, hle, hd⟩ := h
  obtain ⟨hp0, _⟩ := pack_self_inv hp
  unfold Metadata.pack at hp0
  obtain ⟨_, _, hp0⟩ := bind_ok_inv hp0
  obtain ⟨d, hdp, hp0⟩ := bind_ok_inv hp0
  obtain ⟨x, _, hp0⟩ := bind_ok_inv hp0
  obtain ⟨sz, hsz, hp0⟩ := bind_ok_inv hp0
  obtain ⟨sv, hsv, hp0⟩ := bind_ok_inv hp0
  obtain ⟨tv, htv, hp0⟩ := bind_ok_inv hp0
  obtain ⟨ov, hov, hp0⟩ := bind_ok_inv hp0
  have eb := pure_ok_inv hp0
  simp only [List.append_assoc] at eb
  refine directive_pack_len hdp hw eb hle ?_
  have lsz := packInt_len hsz
  rw [width_of_large] at lsz
  simp only [List.length_append, List.length_cons, List.length_nil, lsz, CfdpLv.pack_length _ _ hsv,
    CfdpLv.pack_length _ _ htv, packOptions_len hov]
  unfold mdParamLen at hd
  omega

theorem C11_md_pack_idem (k : Metadata) (b : Bytes) (k' : Metadata) (hp : mdPack k = .ok (b, k')) :
    k' = k ∧ mdPack k' = .ok (b, k') := by
  obtain ⟨_, rfl⟩ := pack_self_inv hp
  exact ⟨rfl, hp⟩

private theorem md_built_new (k : Metadata) (h : MdBuilt k) :
    Metadata.new k.fd.header.conf k.closure k.checksumType k.fileSize (some k.srcLv.value) (some k.dstLv.value) k.options
      = .ok k := by
  obtain ⟨⟨⟨pt, sm, dfl, ⟨src, dst, seq, tm, ff, crc, dir, sc⟩⟩, code⟩, cl, ct, size, ⟨sv⟩, ⟨dv⟩, opts⟩ := k
  obtain ⟨⟨hw, hle, hd⟩, h1, h2, h3, h4, h5, h6⟩ := h
  simp only at hw hle hd h1 h2 h3 h4 h5 h6
  subst h1 h2 h3 h4 hd
  rw [Metadata.new_eq]
  refine (if_neg ?_).trans ?_
  · simp only [nameOctets]; omega
  · refine (if_neg ?_).trans rfl
    simp only [nameOctets]
    omega

theorem C11_md_fresh (c : PduConfig) (cl : Bool) (ct : Nat) (size : Int) (src dst : Option Bytes)
    (opts : Option (List AnyTlv)) (k : Metadata) (h : Metadata.new c cl ct size src dst opts = .ok k) (ops : List MdOp) :
    Metadata.new (mdMachine.run k ops).fd.header.conf (mdMachine.run k ops).closure (mdMachine.run k ops).checksumType
      (mdMachine.run k ops).fileSize (some (mdMachine.run k ops).srcLv.value) (some (mdMachine.run k ops).dstLv.value)
      (mdMachine.run k ops).options = .ok (mdMachine.run k ops) :=
  md_built_new _ (C11_md_reach k ops (C11_md_init c cl ct size src dst opts k h).1)

end Metadata

section Decoded
open SpVerif.PusTc SpVerif.PusTm SpVerif.SpacePacket SpVerif.CfdpHeader SpVerif.FileDirective

/-- a decoded telecommand satisfies the invariant (so every theorem above applies to setter
    sequences that start from `PusTc.unpack`) -/
theorem C11_tc_unpack_inv (d : Bytes) (s : TcS) (h : TcS.ofUnpack d = .ok s) : TcInv s := by
  unfold TcS.ofUnpack at h
  obtain ⟨t, ht, h⟩ := bind_ok_inv h
  cases pure_ok_inv h
  obtain ⟨h13, hle, _, hdata, _⟩ := C02.C02_accept_sound d t ht
  have hl : t.appData.length = t.packetLen - 13 := by
    rw [hdata]; simp only [slice_length]; omega
  simp only [TcInv, PusTc.dataLength]
  simp only [Tc.packetLen, Sph.packetLen] at hl h13
  omega

theorem C11_tm_unpack_inv (d : Bytes) (n : Nat) (s : TmS) (h : TmS.ofUnpack d n = .ok s) : TmInv s := by
  unfold TmS.ofUnpack at h
  obtain ⟨t, ht, h⟩ := bind_ok_inv h
  cases pure_ok_inv h
  obtain ⟨h13, hle, _, hts, hdata⟩ := C03.C03_accept_sound d n t ht
  have hl : t.sourceData.length = t.packetLen - (15 + n) := by
    rw [hdata]; simp only [slice_length]; omega
  simp only [TmInv, PusTm.dataLen, hts]
  simp only [Tm.packetLen, Sph.packetLen] at hl h13
  omega

theorem C11_fd_unpack_inv (d : Bytes) (p : FileData.Pdu) (h : FileData.Pdu.unpack d = .ok p) : FdInv p := by
  obtain ⟨wf, _, _, _⟩ := C07.C07_decode_encode d p h
  obtain ⟨wh, hflag, hdfl, _, _⟩ := wf
  obtain ⟨_, _, _, _, _, _, _, hlt, _, _, _, hw⟩ := wh
  exact ⟨⟨hdfl, hflag⟩, hw, by omega⟩

theorem C11_nak_unpack_inv (d : Bytes) (k : Nak.Nak) (h : Nak.Nak.unpack d = .ok k) : NakInv k := by
  obtain ⟨hp, _, _, _, _, hdfl, _⟩ := Nak.unpack_inv d k h
  obtain ⟨wh, _, _, _, _, _⟩ := prelude_facts d _ _ hp
  obtain ⟨_, _, _, _, hff, _, _, hlt, _, _, _, hw⟩ := wh
  exact ⟨hff, hw, by omega, hdfl⟩

end Decoded

section Caller
open SpVerif.CfdpHeader

/-- **the caller's configuration after a constructor call** — *partial*: in the functional model
    the constructor receives a value, so "not modified" is true by construction (`withCaller`
    returns the caller's argument as it was). What the theorem adds is the other half of the
    copy-on-construct contract for the six mutable CFDP kinds: the object's own configuration is the
    caller's with the direction forced (NAK, Keep Alive, Finished: towards the sender; File Data,
    EOF, Metadata: towards the receiver) — so a constructor that stored the caller's object and
    then forced the direction on it (the former `NakPdu.__init__`) would have changed the caller's
    `direction`, which is what the tie observes on the real objects. -/
theorem C11_conf_untouched (c : PduConfig) :
    (∀ s e segs k, Nak.Nak.new c s e segs = .ok k → c.fileFlag < 2 →
      withCaller c (Nak.Nak.new c s e segs) = .ok (k, c) ∧ k.fd.header.conf = { c with direction := 1 }) ∧
    (∀ pr k, KeepAlive.KeepAlive.new c pr = .ok k →
      withCaller c (KeepAlive.KeepAlive.new c pr) = .ok (k, c) ∧ k.fd.header.conf = { c with direction := 1 }) ∧
    (∀ ps p, FileData.Pdu.new c ps = .ok p →
      withCaller c (FileData.Pdu.new c ps) = .ok (p, c) ∧ p.header.conf = { c with direction := 0 }) ∧
    (∀ cs size fl cond k, Eof.Eof.new c cs size fl cond = .ok k →
      withCaller c (Eof.Eof.new c cs size fl cond) = .ok (k, c) ∧ k.fd.header.conf = { c with direction := 0 }) ∧
    (∀ cond dc fs rs fl k, Finished.Finished.new c cond dc fs rs fl = .ok k →
      withCaller c (Finished.Finished.new c cond dc fs rs fl) = .ok (k, c) ∧
      k.fd.header.conf = { c with direction := 1 }) ∧
    (∀ cl ct size src dst opts k, Metadata.Metadata.new c cl ct size src dst opts = .ok k →
      withCaller c (Metadata.Metadata.new c cl ct size src dst opts) = .ok (k, c) ∧
      k.fd.header.conf = { c with direction := 0 }) := by
  refine ⟨fun s e segs k h hf => ⟨h ▸ rfl, (C11_nak_init c hf s e segs k h).2.2⟩,
    fun pr k h => ⟨h ▸ rfl, (C11_ka_init c pr k h).2.2⟩,
    fun ps p h => ⟨h ▸ rfl, (C11_fd_init c ps p h).2.2⟩,
    fun cs size fl cond k h => ⟨h ▸ rfl, (C11_eof_init c cs size fl cond k h).2.2⟩,
    fun cond dc fs rs fl k h => ⟨h ▸ rfl, (C11_fin_init c cond dc fs rs fl k h).2.2.2⟩,
    fun cl ct size src dst opts k h => ⟨h ▸ rfl, (C11_md_init c cl ct size src dst opts k h).2.2.2.2⟩⟩

end Caller

section Examples
open SpVerif.PusTc SpVerif.CfdpHeader

private def tc0 : Tc := ⟨⟨0, 1, 1, 0x42, 3, 7, 8⟩, ⟨15, 17, 1, 0⟩, [1, 2]⟩
private def nak0 : Nak.Nak := ⟨⟨⟨0, 0, 19, ⟨⟨1, 1⟩, ⟨1, 2⟩, ⟨1, 3⟩, 0, 0, 1, 1, 0⟩⟩, 8⟩, 0, 640, [(0, 128)]⟩
private def fd0 : FileData.Pdu :=
  ⟨⟨1, 1, 1 + 3 + 8 + 2 + 2, ⟨⟨2, 1⟩, ⟨2, 2⟩, ⟨1, 3⟩, 0, 1, 1, 0, 0⟩⟩, ⟨[0xDE, 0xAD], 5, some ⟨3, [7, 8, 9]⟩⟩⟩

example : Tc.new 17 1 0x42 [1, 2] 7 0 15 = .ok tc0 := rfl
example : TcInv (TcS.ofNew tc0) := by decide
example : NakInv nak0 := by decide
example : FdInv fd0 ∧ FdBuilt fd0 := by decide
-- a refused call in the middle of a sequence: the object stays as it was and the sequence goes on
example : (tcStep (TcS.ofNew tc0) (.appData (List.replicate 65530 0))) = (TcS.ofNew tc0, some .value) := by
  rw [C11_tc_step_spec, if_pos (by rw [List.length_replicate]; omega)]
example : (tcMachine.run (TcS.ofNew tc0) [.appData [9], .appData (List.replicate 65530 0), .appData [3, 4, 5]]).obj.sph.dlen = 9 := by
  have h2 : 65529 < (List.replicate 65530 (0 : UInt8)).length := by rw [List.length_replicate]; decide
  have step : ∀ s o, tcMachine.step s o = tcStep s o := fun _ _ => rfl
  rw [Machine.run_cons, step, C11_tc_step_spec, if_neg (by decide), Machine.run_cons, step, C11_tc_step_spec,
    if_pos h2, Machine.run_cons, step, C11_tc_step_spec, if_neg (by decide)]
  rfl
example : (nakStep nak0 (.segs (List.replicate 8191 (0, 0)))).2 = some .value := by
  rw [(C11_nak_step_spec nak0 (by decide)).1, if_pos (by rw [List.length_replicate]; decide)]
example : (nakStep nak0 (.fileFlag 1)).1.fd.header.dataFieldLen = 35 := by decide
example : (kaStep ⟨⟨⟨0, 0, 7, ⟨⟨1, 1⟩, ⟨1, 2⟩, ⟨1, 3⟩, 0, 0, 1, 1, 0⟩⟩, 12⟩, 5⟩ (.fileFlag 1)).1.fd.header.dataFieldLen = 11 := by
  decide
example : (fdStep fd0 (.fileData (List.replicate 65535 0))).2 = some .value := by
  rw [C11_fd_step_spec, if_pos (FileData.put_fileData_calcLen_gt _ _ (by rw [List.length_replicate]; decide))]

end Examples

end SpVerif.Props.C11
