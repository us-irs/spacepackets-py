import SpVerif.Model.SeqCount
import SpVerif.Model.SpacePacket
import SpVerif.Proofs.SeqCount
/-!
# C19 — Sequence counters count modulo 2^width, stay in range and survive restarts

Property theorems only. The in-memory provider is `Mem`; the file-backed provider is a state machine
over the file (`Option (List Char)`, ASCII) with the steps `call` (`get_and_increment` / `next`),
`current`, `restart` (a new instance on the same file) and `delete` (file removed under a live
instance). `Spec.nth w n = n % 2^w` is what the statement prescribes for the n-th call.

The code rewrites the file from offset 0 **without truncating it**, so after a wrap (`"16383\n"`
overwritten by `"0\n"`) the file is `"0\n383\n"`. The theorems below show that this is harmless:
the text written always ends in `"\n"`, hence the first line is exactly the number written, whatever
stale characters follow (`C19_file_valid_call` holds for every previous ASCII content).

**Domain: ASCII file content.** The model's `isDigit` / `isSpace` / `readline` are CPython's
`str.isdigit()` / `str.rstrip()` / text-mode `readline()` on ASCII text only (CPython accepts every
Unicode decimal digit: a UTF-8 file `"٣\n"` reads as 3; non-ASCII white space is stripped;
undecodable octets raise `UnicodeDecodeError`; and "one character = one octet" fails for the
overwrite). Every theorem below that says what a reader obtains from a file it did not write itself
therefore carries the hypothesis `Ascii s` / `AsciiFile f` (`∀ c ∈ s, c.toNat < 128`), and
`C19_ascii_step` / `C19_ascii_trace` show that the providers never leave that domain. Theorems that
start from a file the provider created (`C19_file_valid_create`, `C19_file_valid_fresh`,
`C19_file_seq`) need no such hypothesis; `C19_restart_step` / `C19_restart` (a new instance does
not touch an existing file) do not depend on what the content is.
-/
namespace SpVerif.Props.C19
open SpVerif SpVerif.SeqCount

/-- what the statement prescribes: the n-th call (counted from 0) returns `n mod 2^w` -/
def Spec.nth (w n : Nat) : Nat := n % 2 ^ w

private theorem memRun_from (w k n : Nat) :
    memRun ⟨k % 2 ^ w, w⟩ n = (List.range' k n).map (Spec.nth w) := by
  induction n generalizing k with
  | zero => simp [memRun]
  | succ n ih =>
    have := ih (k + 1)
    simp only [memRun, Mem.next, Mem.getAndIncrement, List.range'_succ, List.map_cons, Nat.mod_add_mod]
    rw [this]; rfl

/-- **the n-th call returns n mod 2^w**: the list of values returned by `n` successive calls on a
    new provider of any width, for every `n` (in particular beyond `2^w`). -/
theorem C19_mem (w n : Nat) : memRun (Mem.new w) n = (List.range n).map (Spec.nth w) := by
  rw [List.range_eq_range', ← memRun_from w 0 n, Nat.zero_mod]; rfl

/-- pointwise form of `C19_mem` -/
theorem C19_mem_nth (w n k : Nat) (h : k < n) : (memRun (Mem.new w) n)[k]? = some (k % 2 ^ w) := by
  rw [C19_mem]; simp [h, Spec.nth]

/-- the first call returns 0 -/
theorem C19_mem_first (w n : Nat) : (memRun (Mem.new w) (n + 1)).head? = some 0 := by
  simp [memRun, Mem.new, Mem.next, Mem.getAndIncrement]

/-- every returned value lies in `[0, 2^w - 1]` -/
theorem C19_mem_range (w n v : Nat) (h : v ∈ memRun (Mem.new w) n) : v < 2 ^ w := by
  rw [C19_mem] at h
  simp [Spec.nth] at h
  obtain ⟨a, _, rfl⟩ := h
  exact Nat.mod_lt _ (Nat.two_pow_pos w)

/-- `__next__` is `get_and_increment` -/
theorem C19_mem_next (m : Mem) : m.next = m.getAndIncrement := rfl

/-- a value below `2^w`, `w ≤ 14`, is accepted as a packet sequence count (`PacketSeqCtrl`) -/
theorem C19_acceptable (w v flags : Nat) (hw : w ≤ 14) (hv : v < 2 ^ w) :
    SpacePacket.Psc.new flags (v : Int) = .ok ⟨flags, v⟩ := by
  have : 2 ^ w ≤ 2 ^ 14 := Nat.pow_le_pow_right (by decide) hw
  have h : ¬ ((v : Int) > 16383 ∨ (v : Int) < 0) := by omega
  simp [SpacePacket.Psc.new, h]

/-- the content is ASCII text (the domain on which the model's text primitives are CPython's) -/
def Ascii (s : List Char) : Prop := ∀ c ∈ s, c.toNat < 128

instance (s : List Char) : Decidable (Ascii s) := by unfold Ascii; infer_instance

/-- the file is absent or holds ASCII text -/
def AsciiFile (f : File) : Prop := ∀ s, f = some s → Ascii s

instance (f : File) : Decidable (AsciiFile f) := by
  cases f with
  | none => exact isTrue (fun s h => by cases h)
  | some t =>
    exact decidable_of_iff (Ascii t) ⟨fun h s e => by cases e; exact h, fun h => h t rfl⟩

example : Ascii ['1', '6', '3', '8', '3', '\n'] := by decide
example : ¬ Ascii ['٣', '\n'] := by decide

private theorem ascii_render (n : Nat) : Ascii (render n ++ ['\n']) := by
  intro c hc
  rcases List.mem_append.1 hc with h | h
  · have hd := render_all_digit n c h
    simp only [isDigit, Bool.and_eq_true, decide_eq_true_eq] at hd
    omega
  · simp only [List.mem_singleton] at h
    subst h; decide

/-- **the providers never leave the ASCII domain**: whatever step is taken on an ASCII (or absent)
    file, the file afterwards is ASCII (or absent) — what is written is decimal digits and `"\n"`,
    and a stale tail is a suffix of the old content -/
theorem C19_ascii_step (w : Nat) (f : File) (st : Step) (ha : AsciiFile f) : AsciiFile (step w f st).2 := by
  cases st with
  | current => exact ha
  | delete => intro s h; cases h
  | restart =>
    cases f with
    | none => intro s h; cases h; decide
    | some t => exact ha
  | call =>
    cases f with
    | none => intro s h; cases h
    | some t =>
      simp only [step, getAndIncrement]
      split
      · exact ha
      · intro s h
        cases h
        intro c hc
        simp only [overwrite] at hc
        rcases List.mem_append.1 hc with h | h
        · exact ascii_render _ c h
        · exact ha t rfl c (List.mem_of_mem_drop h)

/-- every file in the trace of any history from an ASCII (or absent) file is ASCII (or absent) -/
theorem C19_ascii_trace (w : Nat) (f : File) (steps : List Step) (ha : AsciiFile f) :
    ∀ p ∈ trace w f steps, AsciiFile p.2 := by
  induction steps generalizing f with
  | nil => simp [trace]
  | cons s ss ih =>
    intro p hp
    simp only [trace, List.mem_cons] at hp
    rcases hp with rfl | hp
    · exact C19_ascii_step w f s ha
    · exact ih _ (C19_ascii_step w f s ha) p hp

/-- `int(str(n)) = n`, and `str(n)` is accepted by `isdigit` -/
theorem C19_render_parse (n : Nat) : parseDec (render n) = some n := by
  simp [parseDec, isDigitStr_render, parseNat_render]

/-- the line a reader examines: the characters before the first LF / CR, without trailing white space -/
def firstLine (s : List Char) : List Char :=
  ((s.takeWhile (fun c => !isNl c)).reverse.dropWhile isSpace).reverse

private theorem first_line (s : List Char) : rstrip (readline s) = firstLine s := by
  rw [rstrip_readline, rstrip_eq_reverse]; rfl

/-- the operational `readline` + `rstrip` of the model compute `firstLine` (stated on ASCII text,
    where the model's `readline` / `rstrip` are CPython's) -/
theorem C19_first_line (s : List Char) (_ha : Ascii s) : rstrip (readline s) = firstLine s := first_line s

/-- decidable well-formedness of the file: it exists and its first line is a decimal number `< 2^w` -/
def WF (w : Nat) (f : File) : Bool :=
  match f with
  | none => false
  | some s => isDigitStr (firstLine s) && decide (parseNat (firstLine s) < 2 ^ w)

/-- "the file holds a valid count": a reader obtains a value, and it is in range -/
def Valid (w : Nat) (f : File) : Prop := ∃ v, current w f = .ok v ∧ v < 2 ^ w

/-- acceptance, exactly (ASCII content): a reader obtains `v` iff the first line is a non-empty
    string of ASCII digits whose decimal value is `v`, and `v < 2^w` -/
theorem C19_accept_iff (w : Nat) (s : List Char) (_ha : Ascii s) (v : Nat) :
    current w (some s) = .ok v ↔
      (firstLine s ≠ [] ∧ (∀ c ∈ firstLine s, isDigit c = true) ∧ parseNat (firstLine s) = v ∧ v < 2 ^ w) := by
  simp only [current, checkCount_eq, first_line, isDigitStr_iff]
  constructor
  · intro h
    split at h <;> cases h
    rename_i hc
    exact ⟨hc.1.1, hc.1.2, rfl, hc.2⟩
  · rintro ⟨h1, h2, rfl, h4⟩
    rw [if_pos ⟨⟨h1, h2⟩, h4⟩]

theorem C19_wf_iff (w : Nat) (f : File) (_ha : AsciiFile f) : WF w f = true ↔ Valid w f := by
  cases f with
  | none => simp [WF, Valid, current]
  | some s =>
    simp only [WF, Valid, current, checkCount_eq, first_line, Bool.and_eq_true, decide_eq_true_eq]
    constructor
    · intro h; exact ⟨_, by simp [h], h.2⟩
    · rintro ⟨v, h, _⟩
      split at h
      · assumption
      · cases h

example : WF 14 (some ['1', '6', '3', '8', '3', '\n']) = true := by decide
example : WF 14 (some ['0', '\n', '3', '8', '3', '\n']) = true := by decide   -- stale tail after the wrap
example : WF 14 (some ['0', '0', '7', ' ', '\t', '\r', '\n', 'x']) = true := by decide
example : WF 14 (some ['1', '6', '3', '8', '4', '\n']) = false := by decide
example : WF 3 (some [' ', '7']) = false := by decide

/-- a new provider on a missing file creates `"0\n"`: a reader obtains 0 -/
theorem C19_file_valid_create (w : Nat) : current w (init none) = .ok 0 :=
  current_create w

/-- **after every successful call the file holds a valid count, whatever it held before** (any
    stale tail, any earlier content): a reader obtains `(v + 1) mod 2^w`. This is where "overwrite
    without truncation" is shown harmless. -/
theorem C19_file_valid_call (w : Nat) (f f' : File) (_ha : AsciiFile f) (v : Nat)
    (h : getAndIncrement w f = (.ok v, f')) :
    current w f' = .ok ((v + 1) % 2 ^ w) ∧ Valid w f' := by
  obtain ⟨s, _, hg⟩ := call_of_current w f v (call_ok_current w f f' v h)
  obtain rfl := (Prod.mk.inj (h.symm.trans hg)).2
  have hlt : (v + 1) % 2 ^ w < 2 ^ w := Nat.mod_lt _ (Nat.two_pow_pos w)
  have := current_canon w _ (s.drop ((render ((v + 1) % 2 ^ w)).length + 1)) hlt
  exact ⟨this, _, this, hlt⟩

theorem call_step (w : Nat) (f : File) (ha : AsciiFile f) (v : Nat) (hc : current w f = .ok v) :
    ∃ f', getAndIncrement w f = (.ok v, f') ∧ AsciiFile f' ∧ current w f' = .ok ((v + 1) % 2 ^ w) := by
  obtain ⟨t, _, hg⟩ := call_of_current w f v hc
  have ha' := C19_ascii_step w f .call ha
  rw [step, hg] at ha'
  exact ⟨_, hg, ha', (C19_file_valid_call w f _ ha v hg).1⟩

/-- a failing call or a `current()` leaves the file as it is -/
theorem C19_file_error_unchanged (w : Nat) (f : File) (_ha : AsciiFile f) (e : Err) (h : current w f = .error e) :
    getAndIncrement w f = (.error e, f) := call_err w f e h

/-- validity is preserved by every step other than deleting the file -/
theorem C19_file_valid_step (w : Nat) (f : File) (ha : AsciiFile f) (s : Step) (hs : s ≠ .delete) (hv : Valid w f) :
    Valid w (step w f s).2 := by
  obtain ⟨v, hc, hlt⟩ := hv
  cases s with
  | delete => exact absurd rfl hs
  | current => exact ⟨v, hc, hlt⟩
  | restart =>
    cases f with
    | none => simp [current] at hc
    | some t => exact ⟨v, hc, hlt⟩
  | call =>
    obtain ⟨t, _, hg⟩ := call_of_current w f v hc
    have := (C19_file_valid_call w f _ ha v hg).2
    simpa [step, hg] using this

/-- **invariant over any history**: from a valid file, after every step of any sequence of calls,
    `current()`s and restarts, the file holds a valid count -/
theorem C19_file_valid (w : Nat) (f : File) (ha : AsciiFile f) (steps : List Step) (hd : Step.delete ∉ steps)
    (hv : Valid w f) : ∀ p ∈ trace w f steps, Valid w p.2 := by
  induction steps generalizing f with
  | nil => simp [trace]
  | cons s ss ih =>
    rw [List.mem_cons, not_or] at hd
    have h1 := C19_file_valid_step w f ha s (Ne.symm hd.1) hv
    intro p hp
    simp only [trace, List.mem_cons] at hp
    rcases hp with rfl | hp
    · exact h1
    · exact ih _ (C19_ascii_step w f s ha) hd.2 h1 p hp

/-- the same from scratch: first instance on a missing file, then any history -/
theorem C19_file_valid_fresh (w : Nat) (steps : List Step) (hd : Step.delete ∉ steps) :
    ∀ p ∈ trace w (init none) steps, Valid w p.2 :=
  C19_file_valid w _ (by decide) steps hd ⟨0, C19_file_valid_create w, Nat.two_pow_pos w⟩

/-- expected outputs when `k` calls have been made so far: a call returns `k mod 2^w`, `current()`
    shows the same value without consuming it, a restart returns nothing and changes nothing -/
def Spec.outs (w : Nat) : Nat → List Step → List Out
  | _, [] => []
  | k, .call :: ss => .val (Spec.nth w k) :: Spec.outs w (k + 1) ss
  | k, .current :: ss => .val (Spec.nth w k) :: Spec.outs w k ss
  | k, _ :: ss => .none :: Spec.outs w k ss

/-- **the sequence continues exactly, across restarts at any inter-call point**: if a reader of the
    file would obtain `k mod 2^w`, then for every sequence of calls, `current()`s and restarts the
    outputs are those of the modulo counter -/
theorem C19_file_trace (w : Nat) (f : File) (ha : AsciiFile f) (k : Nat) (steps : List Step)
    (hd : Step.delete ∉ steps) (hc : current w f = .ok (k % 2 ^ w)) :
    (trace w f steps).map (·.1) = Spec.outs w k steps := by
  induction steps generalizing f k with
  | nil => simp [trace, Spec.outs]
  | cons s ss ih =>
    rw [List.mem_cons, not_or] at hd
    cases s with
    | delete => exact absurd rfl hd.1
    | current =>
      simp only [trace, List.map_cons, Spec.outs, step, hc, Out.ofPy, Spec.nth]
      rw [ih f ha k hd.2 hc]
    | restart =>
      cases f with
      | none => cases hc
      | some t =>
        simp only [trace, List.map_cons, Spec.outs, step, init]
        rw [ih (some t) ha k hd.2 hc]
    | call =>
      obtain ⟨f', hg, ha', hn⟩ := call_step w f ha _ hc
      rw [Nat.mod_add_mod] at hn
      simp only [trace, List.map_cons, Spec.outs, step, hg, Out.ofPy, Spec.nth]
      rw [ih f' ha' (k + 1) hd.2 hn]

private theorem outs_calls (w k n : Nat) :
    Spec.outs w k (List.replicate n .call) = (List.range' k n).map (fun i => Out.val (i % 2 ^ w)) := by
  induction n generalizing k with
  | zero => simp [Spec.outs]
  | succ n ih => simp [List.replicate_succ, Spec.outs, ih, List.range'_succ, Spec.nth]

/-- **starting from creation, the n-th call returns n mod 2^w** (all `n`, all `w`) -/
theorem C19_file_seq (w n : Nat) :
    (trace w (init none) (List.replicate n .call)).map (·.1)
      = (List.range n).map (fun i => Out.val (i % 2 ^ w)) := by
  rw [C19_file_trace w _ (by decide) 0 _ (by simp) (by rw [Nat.zero_mod]; exact current_create w), outs_calls,
    List.range_eq_range']

/-- every value returned by the file-backed provider is in range -/
theorem C19_file_range (w : Nat) (f f' : File) (_ha : AsciiFile f) (v : Nat) (h : getAndIncrement w f = (.ok v, f')) :
    v < 2 ^ w := current_ok_lt w f v (call_ok_current w f f' v h)

/-- **re-instantiating is the identity**: a provider instance holds no state besides the width and
    the file, so a new instance on an existing file changes nothing -/
theorem C19_restart_step (w : Nat) (s : List Char) : step w (some s) .restart = (.none, some s) := rfl

/-- outputs that carry a value or an error (restarts produce none) -/
def observed (t : List (Out × File)) : List Out := (t.map (·.1)).filter (· ≠ .none)

private theorem observed_cons_keep (p : Out × File) (t : List (Out × File)) (h : p.1 ≠ .none) :
    observed (p :: t) = p.1 :: observed t := by
  simp [observed, h]

private theorem step_isSome (w : Nat) (f : File) (s : Step) (hs : s ≠ .delete) (hf : f.isSome = true) :
    (step w f s).2.isSome = true := by
  cases f with
  | none => simp at hf
  | some t =>
    cases s with
    | delete => exact absurd rfl hs
    | current => rfl
    | restart => rfl
    | call =>
      simp only [step, getAndIncrement]
      split <;> rfl

private theorem step_not_none (w : Nat) (f : File) (s : Step) (h1 : s ≠ .restart) (h2 : s ≠ .delete) :
    (step w f s).1 ≠ .none := by
  cases s with
  | call => simp only [step]; cases (getAndIncrement w f).1 <;> simp [Out.ofPy]
  | current => simp only [step]; cases current w f <;> simp [Out.ofPy]
  | restart => exact absurd rfl h1
  | delete => exact absurd rfl h2

/-- **restarts are unobservable**: on an existing file, any history with restarts inserted at any
    points yields the same values, the same errors and the same final file as the history without them -/
theorem C19_restart (w : Nat) (f : File) (steps : List Step) (hd : Step.delete ∉ steps)
    (hf : f.isSome = true) :
    observed (trace w f steps) = observed (trace w f (steps.filter (· ≠ .restart)))
    ∧ finalFile w f steps = finalFile w f (steps.filter (· ≠ .restart)) := by
  induction steps generalizing f with
  | nil => simp [trace, finalFile]
  | cons s ss ih =>
    rw [List.mem_cons, not_or] at hd
    by_cases hr : s = .restart
    · subst hr
      obtain ⟨t, rfl⟩ := Option.isSome_iff_exists.1 hf
      rw [List.filter_cons_of_neg (by simp)]
      exact ih (some t) hd.2 hf
    · obtain ⟨h1, h2⟩ := ih _ hd.2 (step_isSome w f s (Ne.symm hd.1) hf)
      have hn := step_not_none w f s hr (Ne.symm hd.1)
      rw [List.filter_cons_of_pos (by simpa using hr)]
      simp only [trace, finalFile]
      rw [observed_cons_keep _ _ hn, observed_cons_keep _ _ hn, h1]
      exact ⟨rfl, h2⟩

/-- a missing file is reported with `FileNotFoundError` by both entry points -/
theorem C19_reject_absent (w : Nat) :
    getAndIncrement w none = (.error .fileNotFound, none) ∧ current w none = .error .fileNotFound :=
  ⟨rfl, rfl⟩

/-- **unreadable or out-of-range ASCII content is reported with `ValueError`**, the file is left
    as it is: first line empty (empty file, blank line), containing a character that is not a digit
    (sign, inner or leading blank, letter, exponent …), or denoting a value `≥ 2^w`. (The ASCII
    hypothesis is essential for the claim about the code: CPython reads the non-ASCII `"٣\n"` as 3.) -/
theorem C19_reject (w : Nat) (s : List Char) (_ha : Ascii s)
    (h : firstLine s = [] ∨ (∃ c ∈ firstLine s, isDigit c = false) ∨ 2 ^ w ≤ parseNat (firstLine s)) :
    current w (some s) = .error .value ∧ getAndIncrement w (some s) = (.error .value, some s) := by
  have hc : current w (some s) = .error .value := by
    simp only [current, checkCount_eq, first_line, isDigitStr_iff]
    rw [if_neg]
    rintro ⟨⟨h1, h2⟩, h3⟩
    rcases h with h | ⟨c, hc, hcd⟩ | h
    · exact h1 h
    · rw [h2 c hc] at hcd; cases hcd
    · omega
  exact ⟨hc, call_err w _ _ hc⟩

/-- no other failure exists: an existing ASCII file fails only with `ValueError`, a missing one only
    with `FileNotFoundError` (undecodable octets, `UnicodeDecodeError`, are outside the ASCII domain) -/
theorem C19_errors (w : Nat) (f : File) (_ha : AsciiFile f) (e : Err) (h : current w f = .error e) :
    (f = none ∧ e = .fileNotFound) ∨ (f ≠ none ∧ e = .value) := by
  cases f with
  | none => simp [current] at h; exact Or.inl ⟨rfl, h.symm⟩
  | some s =>
    simp only [current, checkCount_eq] at h
    split at h
    · cases h
    · cases h; exact Or.inr ⟨by simp, rfl⟩

example : Out.ofPy (current 14 (some ['0', '\n', '3', '8', '3', '\n'])) = .val 0 := by decide
example : Out.ofPy (current 14 (some ['-', '1'])) = .err .value := by decide
example : Out.ofPy (current 14 (some [])) = .err .value := by decide
example : Out.ofPy (current 1 (some ['2', '\n'])) = .err .value := by decide

/-- width 14, file `"16383\n"`: the call returns 16383 and leaves `"0\n383\n"` — the stale digits stay
    in the file, behind the newline -/
example : getAndIncrement 14 (some ['1', '6', '3', '8', '3', '\n'])
    = (.ok 16383, some ['0', '\n', '3', '8', '3', '\n']) := by
  have h : current 14 (some ['1', '6', '3', '8', '3', '\n']) = .ok 16383 :=
    (C19_accept_iff 14 _ (by decide) 16383).2 (by decide)
  obtain ⟨s, hs, hg⟩ := call_of_current 14 _ 16383 h
  cases hs
  have r0 : render 0 = ['0'] := by rw [render]; simp [digitChar]
  rw [hg]
  simp [r0]

end SpVerif.Props.C19
