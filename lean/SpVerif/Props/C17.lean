import SpVerif.Proofs.Uslp
set_option linter.unusedVariables false
set_option linter.unusedSimpArgs false
/-!
# C17 — USLP headers and transfer frames encode exactly per CCSDS 732.1-B-2 and round-trip

`Spec.*` are the layouts of the Blue Book as arithmetic:
octet 0 = TFVN `1100` | SCID[15:12], octet 1 = SCID[11:4], octet 2 = SCID[3:0] | source/dest |
VCID[5:3], octet 3 = VCID[2:0] | MAP ID | end-of-header flag, octets 4–5 = frame length,
octet 6 = bypass | protocol-command | spare(2) | OCF flag | VCF count length(3), then the VCF count
big-endian in 0..7 octets; data field header = construction rule(3) | protocol id(5), optional
16-bit pointer; frame = header ‖ insert zone ‖ data field ‖ OCF ‖ FECF.

Errors: `UErr.uslp k` is the individual `Uslp*` exception class, `UErr.py .value` is `ValueError`.
-/
namespace SpVerif.Props.C17
open SpVerif SpVerif.Uslp

/-- the VCF count fits its declared length (a count of length 0 carries no value) -/
def vcfOk (n : Nat) : Option Nat → Prop
  | some c => n = 0 ∨ c < 256 ^ n
  | none => n = 0

instance (n : Nat) (c : Option Nat) : Decidable (vcfOk n c) := by
  cases c <;> unfold vcfOk <;> infer_instance

def WFIds (scid vcid mapId : Int) : Prop :=
  0 ≤ scid ∧ scid ≤ 65535 ∧ 0 ≤ vcid ∧ vcid ≤ 63 ∧ 0 ≤ mapId ∧ mapId ≤ 15

def WFHdr (h : PrimaryHeader) : Prop :=
  WFIds h.scid h.vcid h.mapId ∧ h.frameLen < 65536 ∧ h.vcfLen ≤ 7 ∧ vcfOk h.vcfLen h.vcfCount

instance (h : PrimaryHeader) : Decidable (WFHdr h) := by unfold WFHdr WFIds; infer_instance

def WFTHdr (h : TruncatedHeader) : Prop := WFIds h.scid h.vcid h.mapId
instance (h : TruncatedHeader) : Decidable (WFTHdr h) := by unfold WFTHdr WFIds; infer_instance

/-- CCSDS 732.1-B-2 §4.1.2.2–4.1.2.5 -/
def Spec.commonOctets (scid : Nat) (srcDest : Bool) (vcid mapId : Nat) (endOfHeader : Bool) : Bytes :=
  [u8 (12 * 16 + scid / 4096), u8 (scid / 16 % 256),
   u8 (scid % 16 * 16 + b2n srcDest * 8 + vcid / 8), u8 (vcid % 8 * 32 + mapId * 2 + b2n endOfHeader)]

def Spec.thdrOctets (h : TruncatedHeader) : Bytes :=
  Spec.commonOctets h.scid.toNat h.srcDest h.vcid.toNat h.mapId.toNat true

def Spec.hdrOctets (h : PrimaryHeader) : Bytes :=
  Spec.commonOctets h.scid.toNat h.srcDest h.vcid.toNat h.mapId.toNat false ++
  [u8 (h.frameLen / 256), u8 (h.frameLen % 256),
   u8 (b2n h.bypass * 128 + b2n h.protCmd * 64 + b2n h.ocf * 8 + h.vcfLen)] ++
  beBytes h.vcfLen (h.vcfCount.getD 0)

def normHdr (h : PrimaryHeader) : PrimaryHeader :=
  if h.vcfLen = 0 then { h with vcfCount := some 0 } else h

private theorem b2n_le (b : Bool) : b2n b ≤ 1 := by cases b <;> simp [b2n]

/-- in-range identifiers are natural numbers -/
private theorem WFIds.nat {a b c : Int} (h : WFIds a b c) :
    ∃ s v m : Nat, a = s ∧ b = v ∧ c = m ∧ s ≤ 65535 ∧ v ≤ 63 ∧ m ≤ 15 := by
  obtain ⟨s0, s1, v0, v1, m0, m1⟩ := h
  exact ⟨a.toNat, b.toNat, c.toNat, by omega, by omega, by omega, by omega, by omega, by omega⟩

private theorem packVcf_ok (n : Nat) (c : Option Nat) (hc : vcfOk n c) :
    packVcf n c = .ok (beBytes n (c.getD 0)) := by
  unfold packVcf
  cases c with
  | none =>
    have : n = 0 := hc
    subst this; simp [beBytes]
  | some c =>
    have hc' : n = 0 ∨ c < 256 ^ n := hc
    by_cases h1 : n = 1
    · subst h1
      have : c < 256 := by omega
      simp [byteOfN_ok this, beBytes_1, bind, Except.bind, pure, Except.pure, Nat.mod_eq_of_lt this]
    · by_cases h2 : n = 2
      · subst h2
        have : c < 256 ^ 2 := by omega
        simp [packBE_ok this]
      · by_cases h4 : n = 4
        · subst h4
          have : c < 256 ^ 4 := by omega
          simp [packBE_ok this]
        · by_cases h0 : n = 0
          · subst h0; simp [beBytes]
          · simp [h1, h2, h4, h0]

private theorem common_ok {a b c : Int} (wf : WFIds a b c) (sd tr : Bool) :
    packCommon a sd b c tr = .ok (Spec.commonOctets a.toNat sd b.toNat c.toNat tr) := by
  obtain ⟨s, v, m, rfl, rfl, rfl, hs, hv, hm⟩ := wf.nat
  rw [packCommon_nat]
  have g : ¬ (65535 < s ∨ 63 < v ∨ 15 < m) := by omega
  have e1 : s / 4096 % 16 = s / 4096 := by omega
  have e2 : v / 8 % 8 = v / 8 := by omega
  simp only [g, ↓reduceIte, Spec.commonOctets, versionNumber, e1, e2, Int.toNat_natCast]

theorem C17_thdr_exact (h : TruncatedHeader) (wf : WFTHdr h) :
    h.pack = .ok (Spec.thdrOctets h) ∧ (Spec.thdrOctets h).length = 4 ∧ h.len = 4 :=
  ⟨common_ok wf h.srcDest true, rfl, rfl⟩

theorem C17_hdr_exact (h : PrimaryHeader) (wf : WFHdr h) :
    h.pack = .ok (Spec.hdrOctets h) ∧ (Spec.hdrOctets h).length = 7 + h.vcfLen ∧ h.len = 7 + h.vcfLen := by
  obtain ⟨wi, hf, hn, hc⟩ := wf
  refine ⟨?_, by simp [Spec.hdrOctets, Spec.commonOctets]; omega, rfl⟩
  have hb := b2n_le h.bypass
  have hp := b2n_le h.protCmd
  have ho := b2n_le h.ocf
  have e6 : (8 * (b2n h.bypass * 16 + b2n h.protCmd * 8 + b2n h.ocf)) ||| h.vcfLen =
      b2n h.bypass * 128 + b2n h.protCmd * 64 + b2n h.ocf * 8 + h.vcfLen := by
    rw [or8 _ _ (by omega)]; omega
  have l6 : b2n h.bypass * 128 + b2n h.protCmd * 64 + b2n h.ocf * 8 + h.vcfLen < 256 := by omega
  have e4 : h.frameLen / 256 % 256 = h.frameLen / 256 := by omega
  simp only [PrimaryHeader.pack, Spec.hdrOctets, common_ok wi, e6, byteOfN_ok l6, liftPy_ok,
    packVcf_ok _ _ hc, bind, Except.bind, pure, Except.pure, e4]

private theorem b2n_beq (b : Bool) : (b2n b == 1) = b := by cases b <;> rfl

/-- the fields `unpackBase` reads back from the four common octets (`d`, `t` stand for the
    source/destination and end-of-header bits) -/
private theorem common_fields {a b c : Int} (wf : WFIds a b c) (d t : Nat) (hd : d ≤ 1) (ht : t ≤ 1) :
    (12 * 16 + a.toNat / 4096) % 256 / 16 = 12 ∧
    (b.toNat % 8 * 32 + c.toNat * 2 + t) % 256 % 2 = t ∧
    (((12 * 16 + a.toNat / 4096) % 256 % 16 * 4096 + a.toNat / 16 % 256 % 256 * 16 +
      (a.toNat % 16 * 16 + d * 8 + b.toNat / 8) % 256 / 16 : Nat) : Int) = a ∧
    (a.toNat % 16 * 16 + d * 8 + b.toNat / 8) % 256 / 8 % 2 = d ∧
    (((a.toNat % 16 * 16 + d * 8 + b.toNat / 8) % 256 % 8 * 8 +
      (b.toNat % 8 * 32 + c.toNat * 2 + t) % 256 / 32 % 8 : Nat) : Int) = b ∧
    (((b.toNat % 8 * 32 + c.toNat * 2 + t) % 256 / 2 % 16 : Nat) : Int) = c := by
  obtain ⟨s, v, m, rfl, rfl, rfl, hs, hv, hm⟩ := wf.nat
  simp only [Int.toNat_natCast, Int.natCast_inj]
  -- without the reductions mod 256 the arithmetic is much cheaper to decide
  rw [Nat.mod_eq_of_lt (show 12 * 16 + s / 4096 < 256 by omega),
    Nat.mod_eq_of_lt (show s % 16 * 16 + d * 8 + v / 8 < 256 by omega),
    Nat.mod_eq_of_lt (show v % 8 * 32 + m * 2 + t < 256 by omega), Nat.mod_mod]
  omega

/-- a 16-bit value from its two octets -/
private theorem be16 (p : Nat) (hp : p < 65536) : p / 256 % 256 * 256 + p % 256 % 256 = p := by omega

/-- the flags and the VCF count length read back from octet 6 -/
private theorem flag_fields (b p o n : Nat) (hb : b ≤ 1) (hp : p ≤ 1) (ho : o ≤ 1) (hn : n ≤ 7) :
    (b * 128 + p * 64 + o * 8 + n) % 256 / 128 % 2 = b ∧ (b * 128 + p * 64 + o * 8 + n) % 256 / 64 % 2 = p ∧
    (b * 128 + p * 64 + o * 8 + n) % 256 / 8 % 2 = o ∧ (b * 128 + p * 64 + o * 8 + n) % 256 % 8 = n := by
  omega

theorem C17_thdr_roundtrip (h : TruncatedHeader) (wf : WFTHdr h) (rest : Bytes) :
    TruncatedHeader.unpack (Spec.thdrOctets h ++ rest) = .ok h := by
  obtain ⟨c0, c3, cs, cd, cv, cm⟩ := common_fields wf (b2n h.srcDest) (b2n true) (b2n_le _) (b2n_le _)
  rw [TruncatedHeader.unpack_eq _ _ (by simp [Spec.thdrOctets, Spec.commonOctets])]
  simp only [Spec.thdrOctets, Spec.commonOctets, List.cons_append, List.getElem_cons_zero,
    List.getElem_cons_succ, u8_toNat, versionNumber, c0, c3, cs, cd, cv, cm, b2n_beq]
  simp [b2n]

private theorem slice7 (x0 x1 x2 x3 x4 x5 x6 : UInt8) (vc rest : Bytes) {n : Nat} (hn : vc.length = n) :
    slice (x0 :: x1 :: x2 :: x3 :: x4 :: x5 :: x6 :: (vc ++ rest)) 7 (7 + n) = vc :=
  slice_of_decomp (a := [x0, x1, x2, x3, x4, x5, x6]) (m := vc) (c := rest) (by simp) rfl (by rw [hn]; rfl)

theorem C17_hdr_roundtrip (h : PrimaryHeader) (wf : WFHdr h) (rest : Bytes) :
    PrimaryHeader.unpack (Spec.hdrOctets h ++ rest) = .ok (normHdr h) := by
  obtain ⟨wi, hf, hn, hc⟩ := wf
  obtain ⟨scid, sd, vcid, mapId, fl, by_, pc, oc, n, c⟩ := h
  simp only at wi hf hn hc
  obtain ⟨c0, c3, cs, cd, cv, cm⟩ := common_fields wi (b2n sd) (b2n false) (b2n_le _) (b2n_le _)
  obtain ⟨fb, fp, fo, fn⟩ := flag_fields _ _ _ n (b2n_le by_) (b2n_le pc) (b2n_le oc) hn
  have hlen : (beBytes n (c.getD 0)).length = n := beBytes_length _ _
  rw [PrimaryHeader.unpack_eq _ _ (by simp [Spec.hdrOctets, Spec.commonOctets])]
  simp only [hdrOf, Spec.hdrOctets, Spec.commonOctets, List.cons_append, List.nil_append,
    List.append_assoc, List.getElem_cons_zero, List.getElem_cons_succ, u8_toNat, versionNumber, List.length_cons,
    List.length_append, hlen]
  simp only [c0, c3, cs, cd, cv, cm, b2n_beq, be16 fl hf, fb, fp, fo, fn, slice7 _ _ _ _ _ _ _ _ _ hlen]
  have hg : ¬ (n + rest.length + 1 + 1 + 1 + 1 + 1 + 1 + 1 - 7 < n) := by omega
  simp only [hg, ↓reduceIte, ne_eq, not_true_eq_false, show b2n false = 0 from rfl, Nat.zero_ne_one]
  unfold normHdr
  cases c with
  | none =>
    obtain rfl : n = 0 := hc
    simp [beBytes]
  | some c =>
    by_cases h0 : n = 0
    · subst h0; simp [beBytes]
    · simp [h0, beNat_beBytes n c ((hc : n = 0 ∨ c < 256 ^ n).resolve_left h0)]

/-- CCSDS 732.1-B-2 §4.1.4.2: construction rule (3 bits), protocol id (5 bits), optional 16-bit
    first-header / last-valid-octet pointer, then the data zone -/
def Spec.tfdfOctets (t : Tfdf) : Bytes :=
  [u8 (t.rules * 32 + t.upid)] ++
  (match t.fhp with
   | some p => [u8 (p / 256), u8 (p % 256)]
   | none => []) ++ t.tfdz

/-- a data field that belongs to frame type `ft`: rule and protocol id in range, the rule is one
    of the type's rules, and the pointer is present exactly when that type requires it -/
def WFTfdf (t : Tfdf) (truncated : Bool) (ft : FrameType) : Prop :=
  t.rules < 8 ∧ t.upid < 32 ∧ verifyFrameType t.rules ft = true ∧
  (match t.fhp with
   | some p => shouldHaveFhp t.rules truncated (some ft) = true ∧ p < 65536
   | none => shouldHaveFhp t.rules truncated (some ft) = false)

instance (t : Tfdf) (tr : Bool) (ft : FrameType) : Decidable (WFTfdf t tr ft) := by
  unfold WFTfdf; cases t.fhp <;> infer_instance

private theorem auto_of_verify (rules : Nat) (ft : FrameType) (h : verifyFrameType rules ft = true) :
    autoFrameType rules = some ft := by
  cases ft
  · simp only [verifyFrameType] at h
    simp [autoFrameType, h]
  · simp only [verifyFrameType] at h
    have hfp : rulesForFp rules = false := by
      simp only [rulesForVp, rulesForFp, Bool.or_eq_true, beq_iff_eq] at h
      simp only [rulesForFp, Bool.or_eq_false_iff, beq_eq_false_iff_ne]
      omega
    simp [autoFrameType, h, hfp]

private theorem tfdfOctets_length (t : Tfdf) : (Spec.tfdfOctets t).length = t.len := by
  obtain ⟨r, u, fhp, z⟩ := t
  cases fhp <;> simp [Spec.tfdfOctets, Tfdf.len, Tfdf.headerLen] <;> omega

theorem C17_tfdf_exact (t : Tfdf) (tr : Bool) (ft : FrameType) (fto : Option FrameType)
    (wf : WFTfdf t tr ft) (hft : fto = none ∨ fto = some ft) :
    t.pack tr fto = .ok (Spec.tfdfOctets t) ∧ (Spec.tfdfOctets t).length = t.len := by
  obtain ⟨hr, hu, hv, hp⟩ := wf
  obtain ⟨r, u, fhp, z⟩ := t
  simp only at hr hu hv hp
  have e0 : (32 * r) ||| u = r * 32 + u := by rw [or32 _ _ hu]; omega
  have l0 : r * 32 + u < 256 := by omega
  have hft' : effectiveFt fto r = some ft := by
    rcases hft with rfl | rfl
    · exact auto_of_verify r ft hv
    · rfl
  refine ⟨?_, tfdfOctets_length _⟩
  cases fhp with
  | none =>
    simp only at hp
    simp only [Tfdf.pack, e0, byteOfN_ok l0, liftPy_ok, bind, Except.bind, hft', hp, pure, Except.pure,
      Spec.tfdfOctets]
    simp
  | some p =>
    simp only at hp
    obtain ⟨hs, hp⟩ := hp
    simp only [Tfdf.pack, e0, byteOfN_ok l0, liftPy_ok, bind, Except.bind, hft', hs, pure, Except.pure,
      Spec.tfdfOctets, packBE2_ok hp, ↓reduceIte]

theorem C17_tfdf_roundtrip (t : Tfdf) (tr : Bool) (ft : FrameType) (wf : WFTfdf t tr ft) (rest : Bytes) :
    Tfdf.unpack (Spec.tfdfOctets t ++ rest) tr t.len (some ft) = .ok t := by
  obtain ⟨hr, hu, hv, hp⟩ := wf
  obtain ⟨r, u, fhp, z⟩ := t
  simp only at hr hu hv hp
  have e : (u8 (r * 32 + u)).toNat / 32 % 8 = r ∧ (u8 (r * 32 + u)).toNat % 32 = u := by
    rw [u8_toNat]; omega
  cases fhp with
  | none =>
    simp only at hp
    have hs : slice (u8 (r * 32 + u) :: (z ++ rest)) 1 (Tfdf.len ⟨r, u, none, z⟩) = z :=
      slice_of_decomp (a := [u8 (r * 32 + u)]) (c := rest) rfl rfl (by simp [Tfdf.len, Tfdf.headerLen])
    show Tfdf.unpack (u8 (r * 32 + u) :: (z ++ rest)) tr _ (some ft) = _
    rw [Tfdf.unpack_nofhp _ _ tr _ (some ft) (by rw [e.1]; exact hv) (by rw [e.1]; exact hp), e.1, e.2, hs]
  | some p =>
    simp only at hp
    have ep : (u8 (p / 256)).toNat * 256 + (u8 (p % 256)).toNat = p := by
      rw [u8_toNat, u8_toNat]; exact be16 p hp.2
    have hs : slice (u8 (r * 32 + u) :: u8 (p / 256) :: u8 (p % 256) :: (z ++ rest)) 3
        (Tfdf.len ⟨r, u, some p, z⟩) = z :=
      slice_of_decomp (a := [u8 (r * 32 + u), u8 (p / 256), u8 (p % 256)]) (c := rest) rfl rfl
        (by simp [Tfdf.len, Tfdf.headerLen])
    show Tfdf.unpack (u8 (r * 32 + u) :: u8 (p / 256) :: u8 (p % 256) :: (z ++ rest)) tr _ (some ft) = _
    rw [Tfdf.unpack_fhp _ _ _ _ tr _ (by simp [Tfdf.len, Tfdf.headerLen]) (some ft) (by rw [e.1]; exact hv)
      (by rw [e.1]; exact hp.1), e.1, e.2, ep, hs]

def Spec.headerOctets : Header → Bytes
  | .truncated h => Spec.thdrOctets h
  | .primary h => Spec.hdrOctets h

/-- CCSDS 732.1-B-2 §4.1.1: primary header, insert zone, data field (header, data zone),
    operational control field, frame error control field — in this order -/
def Spec.frameOctets (f : Frame) : Bytes :=
  Spec.headerOctets f.header ++ (optBytes f.insertZone ++ (Spec.tfdfOctets f.tfdf ++
    (optBytes f.ocf ++ optBytes f.fecf)))

def WFHeader : Header → Prop
  | .truncated h => WFTHdr h
  | .primary h => WFHdr h

instance (h : Header) : Decidable (WFHeader h) := by cases h <;> unfold WFHeader <;> infer_instance

/-- the OCF is present (4 octets) exactly when the regular header's OCF flag is set; a truncated
    frame has none -/
def OcfOk : Header → Option Bytes → Prop
  | .primary h, some o => h.ocf = true ∧ o.length = 4
  | .primary h, none => h.ocf = false
  | .truncated _, o => o = none

instance (h : Header) (o : Option Bytes) : Decidable (OcfOk h o) := by
  cases h <;> cases o <;> unfold OcfOk <;> infer_instance

/-- a frame of frame type `ft` (truncated frames exist only for the variable type) -/
def WFFrame (f : Frame) (ft : FrameType) : Prop :=
  WFHeader f.header ∧ WFTfdf f.tfdf f.header.isTruncated ft ∧
  (f.header.isTruncated = true → ft = .variable) ∧ OcfOk f.header f.ocf

instance (f : Frame) (ft : FrameType) : Decidable (WFFrame f ft) := by unfold WFFrame; infer_instance

/-- the frame-length field of a regular header holds the total length minus one -/
def LenSet (f : Frame) : Prop :=
  match f.header with
  | .primary h => h.frameLen + 1 = f.len
  | .truncated _ => True

instance (f : Frame) : Decidable (LenSet f) := by unfold LenSet; cases f.header <;> infer_instance

/-- managed parameters matching the frame: insert-zone and FECF sizes, the fixed length for the
    fixed type, the truncated length for a truncated frame (for a variable frame with a regular
    header neither the class nor the length parameter is consulted) -/
def Matching (f : Frame) (ft : FrameType) (p : FrameProps) : Prop :=
  p.insertZone = f.insertZone.map List.length ∧ p.fecf = f.fecf.map List.length ∧
  (ft = .fixed → p.kind = .fixed ∧ p.lenParam = f.len) ∧
  (f.header.isTruncated = true → p.kind = .variable ∧ p.lenParam = f.len)

instance (f : Frame) (ft : FrameType) (p : FrameProps) : Decidable (Matching f ft p) := by
  unfold Matching; infer_instance

def normHeader : Header → Header
  | .primary h => .primary (normHdr h)
  | .truncated h => .truncated h

def normFrame (f : Frame) : Frame := { f with header := normHeader f.header }

private theorem tfdf_len_pos (t : Tfdf) : 1 ≤ t.len := by unfold Tfdf.len Tfdf.headerLen; split <;> omega

private theorem optLen_eq (o : Option Bytes) : optLen o = (optBytes o).length := by cases o <;> rfl

theorem C17_header_exact (h : Header) (wf : WFHeader h) :
    h.pack = .ok (Spec.headerOctets h) ∧ (Spec.headerOctets h).length = h.len := by
  cases h with
  | truncated t => exact ⟨(C17_thdr_exact t wf).1, rfl⟩
  | primary t => exact ⟨(C17_hdr_exact t wf).1, (C17_hdr_exact t wf).2.1.trans (C17_hdr_exact t wf).2.2.symm⟩

/-- **order of the fields**: header ‖ insert zone ‖ data-field header ‖ data zone ‖ OCF ‖ FECF,
    and the packed size is what `len()` reports -/
theorem C17_frame_order (f : Frame) (ft : FrameType) (fto : Option FrameType) (wf : WFFrame f ft)
    (hft : fto = none ∨ fto = some ft) :
    f.pack f.header.isTruncated fto = .ok (Spec.frameOctets f) ∧ (Spec.frameOctets f).length = f.len := by
  obtain ⟨wh, wt, _, wo⟩ := wf
  have hh := C17_header_exact f.header wh
  have ht := C17_tfdf_exact f.tfdf f.header.isTruncated ft fto wt hft
  refine ⟨?_, ?_⟩
  · obtain ⟨hdr, tfdf, iz, ocf, fecf⟩ := f
    simp only at wh wt wo hh ht
    simp only [Frame.pack, hh.1, ht.1, bind, Except.bind, Spec.frameOctets]
    cases hdr with
    | truncated t =>
      obtain rfl : ocf = none := wo
      simp [optLen, optBytes, Header.isTruncated, pure, Except.pure]
    | primary t =>
      cases ocf with
      | none =>
        have : t.ocf = false := wo
        simp [optLen, optBytes, Header.isTruncated, Header.opCtrlFlag, this, pure, Except.pure, bind, Except.bind]
      | some o =>
        have : t.ocf = true ∧ o.length = 4 := wo
        simp [optLen, optBytes, Header.isTruncated, Header.opCtrlFlag, this.1, this.2, pure, Except.pure, bind,
          Except.bind]
  · simp only [Spec.frameOctets, List.length_append, hh.2, ht.2, Frame.len, optLen_eq]
    omega

/-- `set_frame_len_in_header()` on a frame whose length minus one fits the 16-bit field (or whose
    header is truncated: it has no length field and nothing is checked) succeeds, stores the total
    length minus one and changes no length and no other field -/
theorem C17_set_frame_len (f : Frame) (hb : f.header.isTruncated = true ∨ f.len - 1 ≤ 65535) :
    ∃ g, f.setFrameLenInHeader = .ok g ∧ g.len = f.len ∧ LenSet g ∧
    g.tfdf = f.tfdf ∧ g.insertZone = f.insertZone ∧ g.ocf = f.ocf ∧ g.fecf = f.fecf ∧
    (∀ h, f.header = .primary h → g.header = .primary { h with frameLen := f.len - 1 }) ∧
    (∀ h, f.header = .truncated h → g = f) := by
  obtain ⟨hdr, tfdf, iz, ocf, fecf⟩ := f
  cases hdr with
  | truncated t =>
    exact ⟨_, rfl, rfl, (by simp [LenSet]), rfl, rfl, rfl, rfl, fun h e => (by cases e), fun _ _ => rfl⟩
  | primary t =>
    have hle : (Frame.mk (.primary t) tfdf iz ocf fecf).len - 1 ≤ 65535 := hb.resolve_left nofun
    have h1 := tfdf_len_pos tfdf
    refine ⟨⟨.primary { t with frameLen := (Frame.mk (.primary t) tfdf iz ocf fecf).len - 1 }, tfdf, iz, ocf, fecf⟩,
      ?_, ?_⟩
    · simp only [Frame.setFrameLenInHeader, Frame.setFrameLenWith]
      rw [if_neg (by omega)]
    · simp [LenSet, Frame.len, Header.len, PrimaryHeader.len]
      simp only [Frame.len, Header.len, PrimaryHeader.len] at hle
      omega

/-- `set_frame_len_in_header()` on a regular frame longer than 65536 octets is refused with
    `ValueError` (the frame object, in particular its header, is unchanged: no new state is
    returned); the length field is never silently truncated -/
theorem C17_set_frame_len_refused (f : Frame) (h : PrimaryHeader) (hh : f.header = .primary h)
    (hb : 65535 < f.len - 1) : f.setFrameLenInHeader = .error (.py .value) := by
  simp only [Frame.setFrameLenInHeader, Frame.setFrameLenWith, hh]
  rw [if_pos hb]

/-- exactly these two outcomes: accepted iff truncated header or `len() - 1 ≤ 0xFFFF` -/
theorem C17_set_frame_len_ok_iff (f : Frame) :
    (∃ g, f.setFrameLenInHeader = .ok g) ↔ (f.header.isTruncated = true ∨ f.len - 1 ≤ 65535) := by
  constructor
  · rintro ⟨g, hg⟩
    cases hh : f.header with
    | truncated t => exact Or.inl rfl
    | primary p =>
      refine Or.inr ?_
      by_cases hb : 65535 < f.len - 1
      · rw [C17_set_frame_len_refused f p hh hb] at hg; cases hg
      · omega
  · intro hb
    obtain ⟨g, hg, _⟩ := C17_set_frame_len f hb
    exact ⟨g, hg⟩

private theorem normHdr_vcfLen (h : PrimaryHeader) : (normHdr h).vcfLen = h.vcfLen := by
  unfold normHdr; split <;> rfl
private theorem normHdr_ocf (h : PrimaryHeader) : (normHdr h).ocf = h.ocf := by
  unfold normHdr; split <;> rfl
private theorem normHdr_frameLen (h : PrimaryHeader) : (normHdr h).frameLen = h.frameLen := by
  unfold normHdr; split <;> rfl

private theorem map_const_optBytes (o : Option Bytes) :
    (o.map List.length).map (fun _ => optBytes o) = o := by
  cases o <;> rfl

/-- the end-of-header flag is the low bit of octet 3 -/
private theorem common_flag {a b c : Int} (wf : WFIds a b c) (sd tr : Bool) (x : Bytes)
    (h : 3 < (Spec.commonOctets a.toNat sd b.toNat c.toNat tr ++ x).length) :
    (Spec.commonOctets a.toNat sd b.toNat c.toNat tr ++ x)[3].toNat % 2 = b2n tr := by
  have := (common_fields wf 0 (b2n tr) (Nat.zero_le _) (b2n_le tr)).2.1
  simpa [Spec.commonOctets] using this

private theorem roundtrip_truncated (t : TruncatedHeader) (tfdf : Tfdf) (iz fecf : Option Bytes)
    (p : FrameProps) (rest raw : Bytes)
    (hraw : raw = Spec.thdrOctets t ++ (optBytes iz ++ (Spec.tfdfOctets tfdf ++ ([] ++ (optBytes fecf ++ rest)))))
    (wh : WFTHdr t) (wt : WFTfdf tfdf true .variable)
    (miz : p.insertZone = iz.map List.length) (mfe : p.fecf = fecf.map List.length)
    (mk : p.kind = .variable) (ml : p.lenParam = Frame.len ⟨.truncated t, tfdf, iz, none, fecf⟩) :
    Frame.unpack raw .variable p = .ok ⟨.truncated t, tfdf, iz, none, fecf⟩ := by
  have htl := tfdfOctets_length tfdf
  have hhl : (Spec.thdrOctets t).length = 4 := rfl
  have hlen : p.lenParam = 4 + tfdf.len + (optBytes iz).length + (optBytes fecf).length := by
    rw [ml]; simp [Frame.len, Header.len, TruncatedHeader.len, optLen_eq, optBytes] <;> omega
  have hL : raw.length = 4 + (optBytes iz).length + tfdf.len + (optBytes fecf).length + rest.length := by
    rw [hraw]; simp [hhl, htl]; omega
  have hH : Frame.unpackHeader raw .variable p = .ok (.truncated t) := by
    refine Frame.unpackHeader_truncated_ok raw p t (by omega) ?_ (hraw ▸ C17_thdr_roundtrip t wh _) mk (by omega)
    subst hraw
    exact common_flag wh _ true _ _
  have hB := Frame.unpackBody_assemble (.truncated t) (Spec.thdrOctets t) (Spec.tfdfOctets tfdf) [] rest iz fecf
    .variable p tfdf hhl miz mfe rfl rfl
    (by
      rw [tfdfLen_truncated _ _ _ mk, htl, hlen, optSizeI, optSizeI, mfe, miz, optSize_map, optSize_map]
      exact congrArg _ (by omega))
    (htl ▸ tfdf_len_pos tfdf) (htl ▸ C17_tfdf_roundtrip tfdf true .variable wt _)
  unfold Frame.unpack
  rw [hH, ubind_ok, hraw, hB]
  rfl

private theorem roundtrip_primary (h : PrimaryHeader) (tfdf : Tfdf) (iz ocf fecf : Option Bytes)
    (ft : FrameType) (p : FrameProps) (rest raw : Bytes)
    (hraw : raw = Spec.hdrOctets h ++ (optBytes iz ++ (Spec.tfdfOctets tfdf ++ (optBytes ocf ++ (optBytes fecf ++ rest)))))
    (wh : WFHdr h) (wt : WFTfdf tfdf false ft) (wo : OcfOk (.primary h) ocf)
    (hl : h.frameLen + 1 = Frame.len ⟨.primary h, tfdf, iz, ocf, fecf⟩)
    (miz : p.insertZone = iz.map List.length) (mfe : p.fecf = fecf.map List.length)
    (mfix : ft = .fixed → p.kind = .fixed ∧ p.lenParam = Frame.len ⟨.primary h, tfdf, iz, ocf, fecf⟩) :
    Frame.unpack raw ft p = .ok ⟨.primary (normHdr h), tfdf, iz, ocf, fecf⟩ := by
  have htl := tfdfOctets_length tfdf
  have hhl : (Spec.hdrOctets h).length = 7 + h.vcfLen := (C17_hdr_exact h wh).2.1
  have hocf : ((optBytes ocf).length = if h.ocf then 4 else 0) ∧
      (if h.ocf then some (optBytes ocf) else none) = ocf := by
    cases ocf with
    | none => have : h.ocf = false := wo; simp [optBytes, this]
    | some o => have : h.ocf = true ∧ o.length = 4 := wo; simp [optBytes, this.1, this.2]
  have hflen : h.frameLen + 1 = 7 + h.vcfLen + tfdf.len + (optBytes iz).length + (optBytes ocf).length + (optBytes fecf).length := by
    rw [hl]; simp [Frame.len, Header.len, PrimaryHeader.len, optLen_eq] <;> omega
  have hL : raw.length = h.frameLen + 1 + rest.length := by
    rw [hraw]; simp [hhl, htl]; omega
  have hH : Frame.unpackHeader raw ft p = .ok (.primary (normHdr h)) := by
    refine Frame.unpackHeader_primary_ok raw ft p (normHdr h) (by omega) ?_ (hraw ▸ C17_hdr_roundtrip h wh _)
      (fun hf => ⟨(mfix hf).1, by rw [(mfix hf).2, ← hl, hL]; omega⟩)
    subst hraw
    simp only [Spec.hdrOctets, List.append_assoc]
    exact common_flag wh.1 _ false _ _
  have hB := Frame.unpackBody_assemble (.primary (normHdr h)) (Spec.hdrOctets h) (Spec.tfdfOctets tfdf)
    (optBytes ocf) rest iz fecf ft p tfdf
    (by rw [hhl, Header.len, PrimaryHeader.len, normHdr_vcfLen]) miz mfe
    (by rw [Header.hasOcf, normHdr_ocf]; exact hocf.1)
    (frameLenCheck_primary_ok _ ft p (normHdr h) (by rw [normHdr_frameLen, ← hraw, hL]; omega)
      (fun hf => by rw [normHdr_frameLen, (mfix hf).2, hl]))
    (by
      rw [htl]
      apply tfdfLen_primary_ok
      · rw [normHdr_frameLen, ← hraw, hL]; omega
      · rw [normHdr_frameLen, normHdr_ocf, ← hocf.1, miz, mfe, optSize_map, optSize_map, PrimaryHeader.len,
          normHdr_vcfLen]
        omega)
    (htl ▸ tfdf_len_pos tfdf) (htl ▸ C17_tfdf_roundtrip tfdf false ft wt _)
  unfold Frame.unpack
  rw [hH, ubind_ok, hraw, hB, Header.hasOcf, normHdr_ocf, hocf.2]

/-- **decode ∘ encode = id** with the matching managed parameters, for every construction rule,
    protocol id, header kind, VCF length and combination of insert zone / OCF / FECF, with any
    octets following the frame. (`normFrame`: a VCF count of length 0 is reported as 0.) -/
theorem C17_frame_roundtrip (f : Frame) (ft : FrameType) (p : FrameProps) (wf : WFFrame f ft)
    (hl : LenSet f) (hm : Matching f ft p) (rest : Bytes) :
    Frame.unpack (Spec.frameOctets f ++ rest) ft p = .ok (normFrame f) := by
  obtain ⟨wh, wt, wtr, wo⟩ := wf
  obtain ⟨miz, mfe, mfix, mtr⟩ := hm
  obtain ⟨hdr, tfdf, iz, ocf, fecf⟩ := f
  simp only at wh wt wtr wo miz mfe mfix mtr
  cases hdr with
  | truncated t =>
    obtain rfl : ft = .variable := wtr rfl
    obtain rfl : ocf = none := wo
    obtain ⟨mk, ml⟩ := mtr rfl
    have := roundtrip_truncated t tfdf iz fecf p rest _ rfl wh wt miz mfe mk ml
    simpa [Spec.frameOctets, Spec.headerOctets, optBytes, normFrame, normHeader] using this
  | primary h =>
    have := roundtrip_primary h tfdf iz ocf fecf ft p rest _ rfl wh wt wo hl miz mfe mfix
    simpa [Spec.frameOctets, Spec.headerOctets, normFrame, normHeader, List.append_assoc] using this

/-- out-of-range spacecraft / virtual channel / MAP identifiers (negative ones included) are
    refused with `ValueError` by both header encoders -/
theorem C17_hdr_refuse (h : PrimaryHeader)
    (bad : h.scid < 0 ∨ 65535 < h.scid ∨ h.vcid < 0 ∨ 63 < h.vcid ∨ h.mapId < 0 ∨ 15 < h.mapId) :
    h.pack = .error (.py .value) := by
  simp [PrimaryHeader.pack, packCommon_refuse _ _ _ _ _ bad, bind, Except.bind]

theorem C17_thdr_refuse (h : TruncatedHeader)
    (bad : h.scid < 0 ∨ 65535 < h.scid ∨ h.vcid < 0 ∨ 63 < h.vcid ∨ h.mapId < 0 ∨ 15 < h.mapId) :
    h.pack = .error (.py .value) := by
  simp [TruncatedHeader.pack, packCommon_refuse _ _ _ _ _ bad]

/-- … and so is a frame carrying such a header -/
theorem C17_frame_refuse_ids (f : Frame) (tr : Bool) (fto : Option FrameType) (h : PrimaryHeader)
    (hh : f.header = .primary h)
    (bad : h.scid < 0 ∨ 65535 < h.scid ∨ h.vcid < 0 ∨ 63 < h.vcid ∨ h.mapId < 0 ∨ 15 < h.mapId) :
    f.pack tr fto = .error (.py .value) := by
  simp [Frame.pack, hh, Header.pack, C17_hdr_refuse h bad, bind, Except.bind]

/-- buffer shorter than the smallest header: `UslpInvalidRawPacketOrFrameLen` -/
theorem C17_mismatch_too_short (raw : Bytes) (ft : FrameType) (p : FrameProps) (h : raw.length < 4) :
    Frame.unpack raw ft p = .error (.uslp .invalidLen) := by
  simp [Frame.unpack, Frame.unpackHeader_short raw ft p h, bind, Except.bind]

/-- fixed frame type with variable-frame properties: `ValueError` -/
theorem C17_mismatch_fixed_var_props (raw : Bytes) (p : FrameProps) (h4 : 4 ≤ raw.length)
    (hk : p.kind = .variable) : Frame.unpack raw .fixed p = .error (.py .value) := by
  simp [Frame.unpack, Frame.unpackHeader_eq raw .fixed p h4, hk, bind, Except.bind]

/-- fixed frame type, buffer shorter than the managed fixed length: `UslpInvalidRawPacketOrFrameLen` -/
theorem C17_mismatch_fixed_short (raw : Bytes) (p : FrameProps) (hk : p.kind = .fixed)
    (hl : raw.length < p.lenParam) : Frame.unpack raw .fixed p = .error (.uslp .invalidLen) := by
  by_cases h4 : 4 ≤ raw.length
  · simp [Frame.unpack, Frame.unpackHeader_eq raw .fixed p h4, hk, hl, bind, Except.bind]
  · exact C17_mismatch_too_short raw .fixed p (by omega)

/-- truncated header with the fixed frame type: `UslpTruncatedFrameNotAllowed` -/
theorem C17_mismatch_truncated_fixed (raw : Bytes) (p : FrameProps) (h4 : 4 ≤ raw.length)
    (ht : raw[3].toNat % 2 = 1) (hk : p.kind = .fixed) (hl : p.lenParam ≤ raw.length) :
    Frame.unpack raw .fixed p = .error (.uslp .truncatedNotAllowed) := by
  have g : ¬ raw.length < p.lenParam := by omega
  simp [Frame.unpack, Frame.unpackHeader_eq raw .fixed p h4, hk, g, ht, bind, Except.bind]

/-- truncated header, variable frame type, fixed-frame properties: `ValueError` -/
theorem C17_mismatch_truncated_fixed_props (raw : Bytes) (p : FrameProps) (h4 : 4 ≤ raw.length)
    (ht : raw[3].toNat % 2 = 1) (hk : p.kind = .fixed) :
    Frame.unpack raw .variable p = .error (.py .value) := by
  simp [Frame.unpack, Frame.unpackHeader_eq raw .variable p h4, hk, ht, bind, Except.bind]

/-- truncated header, buffer shorter than the managed truncated length:
    `UslpInvalidRawPacketOrFrameLen` -/
theorem C17_mismatch_truncated_short (raw : Bytes) (p : FrameProps) (h4 : 4 ≤ raw.length)
    (ht : raw[3].toNat % 2 = 1) (hk : p.kind = .variable) (hl : raw.length < p.lenParam) :
    Frame.unpack raw .variable p = .error (.uslp .invalidLen) := by
  simp [Frame.unpack, Frame.unpackHeader_eq raw .variable p h4, hk, hl, ht, bind, Except.bind]

/-- fixed frame type: a regular header whose frame-length field + 1 differs from the managed fixed
    length is refused with `UslpInvalidRawPacketOrFrameLen`, whatever else the buffer holds -/
theorem C17_mismatch_fixed_len (raw : Bytes) (p : FrameProps) (h : PrimaryHeader) (h4 : 4 ≤ raw.length)
    (h3 : raw[3].toNat % 2 = 0) (hu : PrimaryHeader.unpack raw = .ok h) (hk : p.kind = .fixed)
    (hne : h.frameLen + 1 ≠ p.lenParam) :
    Frame.unpack raw .fixed p = .error (.uslp .invalidLen) := by
  by_cases hl : raw.length < p.lenParam
  · exact C17_mismatch_fixed_short raw p hk hl
  · -- one of the two frame-length checks fails
    have hc : frameLenCheck raw .fixed p (.primary h) = .error (.uslp .invalidLen) := by
      rw [frameLenCheck_primary]
      split
      · rfl
      · rw [if_pos ⟨rfl, hne⟩]
    unfold Frame.unpack
    rw [Frame.unpackHeader_primary_ok raw .fixed p h h4 h3 hu (fun _ => ⟨hk, by omega⟩), ubind_ok,
      Frame.unpackBody_eq, hc]
    rfl

/-- **what acceptance guarantees** (contrapositive of the mismatch clauses): an accepted frame has
    a header that decodes from the buffer, a frame length (header field + 1, resp. the managed
    truncated length) inside the buffer, for the fixed type fixed-frame properties whose length
    equals it, and room for header, insert zone, at least one data-field octet, OCF and FECF
    inside that length. Hence a buffer shorter than the declared frame, a fixed length different
    from the frame length, a truncated header with the fixed type, the wrong class of properties,
    and zone sizes that leave no data field are all refused. -/
theorem C17_unpack_sound (raw : Bytes) (ft : FrameType) (p : FrameProps) (f : Frame)
    (hu : Frame.unpack raw ft p = .ok f) :
    match f.header with
    | .primary h =>
      PrimaryHeader.unpack raw = .ok h ∧ h.frameLen + 1 ≤ raw.length ∧
      (ft = .fixed → p.kind = .fixed ∧ p.lenParam = h.frameLen + 1) ∧
      h.len + optSize p.insertZone + 1 + (if h.ocf then 4 else 0) + optSize p.fecf ≤ h.frameLen + 1
    | .truncated h =>
      TruncatedHeader.unpack raw = .ok h ∧ ft = .variable ∧ p.kind = .variable ∧ p.lenParam ≤ raw.length ∧
      4 + optSize p.insertZone + 1 + optSize p.fecf ≤ p.lenParam := by
  obtain ⟨hdr, hh, hu⟩ := ubind_ok_inv hu
  obtain ⟨hc, e, hlen, hpos, hin, hhdr, _⟩ := Frame.unpackBody_inv raw ft p hdr f hu
  rw [hhdr]
  cases hdr with
  | primary h =>
    obtain ⟨-, hfix, hup⟩ := Frame.unpackHeader_ok hh
    obtain ⟨hfl, hfl2⟩ := frameLenCheck_primary_inv raw ft p h hc
    refine ⟨hup, hfl, fun hf => ⟨(hfix hf).1, (hfl2 hf).symm⟩, ?_⟩
    rw [tfdfLen_primary] at hlen
    split at hlen
    · cases hlen
    · simp only [Except.ok.injEq] at hlen
      subst hlen
      simp only [optSizeI] at hpos
      split at hpos <;> simp_all <;> omega
  | truncated t =>
    obtain ⟨-, -, hft, hk, hl, hut⟩ := Frame.unpackHeader_ok hh
    refine ⟨hut, hft, hk, hl, ?_⟩
    subst hft
    rw [tfdfLen_truncated _ _ _ hk] at hlen
    simp only [Except.ok.injEq] at hlen
    subst hlen
    simp only [optSizeI] at hpos
    omega

/-- **only the documented errors** (C10 for this unit): for every buffer, frame type and
    managed-parameter object the frame decoder fails with a `Uslp*` class or `ValueError` only -/
theorem C17_unpack_errors (raw : Bytes) (ft : FrameType) (p : FrameProps) (e : UErr)
    (h : Frame.unpack raw ft p = .error e) : e = .py .value ∨ ∃ k, e = .uslp k := by
  have := Frame.unpack_err raw ft p e h
  cases e with
  | uslp k => exact Or.inr ⟨k, rfl⟩
  | py e => cases e <;> simp [UErr.isUslpOrValue] at this; exact Or.inl rfl

/-- both header decoders fail with `Uslp*` classes only; fewer than 4 / 7 octets give
    `UslpInvalidRawPacketOrFrameLen` -/
theorem C17_hdr_errors (raw : Bytes) (ver : Nat) (e : UErr) :
    (PrimaryHeader.unpack raw ver = .error e ∨ TruncatedHeader.unpack raw ver = .error e) →
    e = .uslp .invalidLen ∨ e = .uslp .versionMismatch ∨ e = .uslp .typeMismatch := by
  rintro (h | h)
  · exact PrimaryHeader.unpack_err raw ver e h
  · exact TruncatedHeader.unpack_err raw ver e h

theorem C17_hdr_short (raw : Bytes) (ver : Nat) :
    (raw.length < 7 → PrimaryHeader.unpack raw ver = .error (.uslp .invalidLen)) ∧
    (raw.length < 4 → TruncatedHeader.unpack raw ver = .error (.uslp .invalidLen)) :=
  ⟨PrimaryHeader.unpack_short raw ver, TruncatedHeader.unpack_short raw ver⟩

private def exHdr : PrimaryHeader := ⟨0xA5C3, true, 0x2B, 0xD, 23, true, false, true, 3, some 0x010203⟩
private def exFrame : Frame :=
  ⟨.primary exHdr, ⟨1, 0x1F, some 0xFFFE, [1, 2, 3]⟩, some [9, 8], some [0xA, 0xB, 0xC, 0xD], some [0xEE, 0xFF]⟩
private def exProps : FrameProps := ⟨.fixed, 24, some 2, some 2⟩
private def exTrunc : Frame := ⟨.truncated ⟨0xFFFF, false, 63, 15⟩, ⟨7, 5, none, [0x55]⟩, none, none, some [1, 2]⟩

example : WFHdr exHdr := by decide
example : Spec.hdrOctets exHdr = [0xCA, 0x5C, 0x3D, 0x7A, 0x00, 0x17, 0x8B, 0x01, 0x02, 0x03] := by decide
example : Spec.thdrOctets ⟨0xFFFF, false, 63, 15⟩ = [0xCF, 0xFF, 0xF7, 0xFF] := by decide
example : WFFrame exFrame .fixed ∧ LenSet exFrame ∧ Matching exFrame .fixed exProps := by decide
example : Spec.frameOctets exFrame =
    [0xCA, 0x5C, 0x3D, 0x7A, 0x00, 0x17, 0x8B, 0x01, 0x02, 0x03, 9, 8, 0x3F, 0xFF, 0xFE, 1, 2, 3,
     0xA, 0xB, 0xC, 0xD, 0xEE, 0xFF] ++ [] := by decide
example : WFFrame exTrunc .variable ∧ LenSet exTrunc ∧ Matching exTrunc .variable ⟨.variable, 8, none, some 2⟩ := by
  decide
private def okIs (x : UPy Frame) (f : Frame) : Bool :=
  match x with
  | .ok g => decide (g = f)
  | .error _ => false
private def errIs (x : UPy Frame) (e : UErr) : Bool :=
  match x with
  | .ok _ => false
  | .error e' => decide (e' = e)
example : okIs (Frame.unpack (Spec.frameOctets exFrame ++ [7, 7]) .fixed exProps) exFrame = true := by decide +kernel
example : errIs (Frame.unpack (Spec.frameOctets exFrame) .fixed ⟨.fixed, 23, some 2, some 2⟩)
    (.uslp .invalidLen) = true := by decide +kernel
example : errIs (Frame.unpack (Spec.frameOctets exTrunc) .fixed ⟨.fixed, 8, none, some 2⟩)
    (.uslp .truncatedNotAllowed) = true := by decide +kernel
example : errIs (Frame.unpack (Spec.frameOctets exFrame) .fixed ⟨.variable, 24, some 2, some 2⟩)
    (.py .value) = true := by decide +kernel

/-! ## a fixed frame whose data field is declared as one octet but whose rule requires the pointer:
refused (`UslpInvalidRawPacketOrFrameLen`). Before the repair recorded in known_findings.json the
decoder only checked the *buffer* for three octets, read the pointer from the OCF and returned a
frame whose `len()` (14) exceeded the declared 12. -/
example : errIs (Frame.unpack [0xC0, 0, 0, 0, 0, 0x0B, 0x08, 0x00, 0xAA, 0xBB, 0xCC, 0xDD] .fixed ⟨.fixed, 12, none, none⟩)
    (.uslp .invalidLen) = true := by decide +kernel

/-- truncated header: members of the domain with the same four octets are the same header -/
theorem C17_thdr_octets_injective (h k : TruncatedHeader) (wh : WFTHdr h) (wk : WFTHdr k)
    (he : Spec.thdrOctets h = Spec.thdrOctets k) : h = k := by
  have r := C17_thdr_roundtrip h wh []
  rw [he, C17_thdr_roundtrip k wk []] at r
  exact (Except.ok.inj r).symm

/-- the same for `pack()` itself, as an iff -/
theorem C17_thdr_pack_injective (h k : TruncatedHeader) (wh : WFTHdr h) (wk : WFTHdr k) :
    h.pack = k.pack ↔ h = k := by
  refine ⟨fun he => ?_, fun he => by rw [he]⟩
  rw [(C17_thdr_exact h wh).1, (C17_thdr_exact k wk).1] at he
  exact C17_thdr_octets_injective h k wh wk (Except.ok.inj he)

private theorem hdrOctets_norm (h : PrimaryHeader) : Spec.hdrOctets (normHdr h) = Spec.hdrOctets h := by
  unfold normHdr
  split
  · next h0 => simp [Spec.hdrOctets, h0, beBytes]
  · rfl

/-- primary header: injective up to the normalisation of the round trip (`normHdr`: with a VCF count
    length of 0 the count carries no octets, so `none` and any `some c` encode alike and decode to
    `some 0`); two members of the domain have the same octets iff they are the same header after
    that normalisation -/
theorem C17_hdr_octets_injective (h k : PrimaryHeader) (wh : WFHdr h) (wk : WFHdr k) :
    Spec.hdrOctets h = Spec.hdrOctets k ↔ normHdr h = normHdr k := by
  refine ⟨fun he => ?_, fun he => ?_⟩
  · have r := C17_hdr_roundtrip h wh []
    rw [he, C17_hdr_roundtrip k wk []] at r
    exact (Except.ok.inj r).symm
  · rw [← hdrOctets_norm h, he, hdrOctets_norm k]

/-- the same for `pack()` itself -/
theorem C17_hdr_pack_injective (h k : PrimaryHeader) (wh : WFHdr h) (wk : WFHdr k) :
    h.pack = k.pack ↔ normHdr h = normHdr k := by
  rw [(C17_hdr_exact h wh).1, (C17_hdr_exact k wk).1, ← C17_hdr_octets_injective h k wh wk]
  exact ⟨fun he => Except.ok.inj he, fun he => by rw [he]⟩

/-- without normalisation: headers that carry a VCF count (length > 0) are equal iff they pack to
    the same octets -/
theorem C17_hdr_pack_injective_vcf (h k : PrimaryHeader) (wh : WFHdr h) (wk : WFHdr k)
    (nh : h.vcfLen ≠ 0) (nk : k.vcfLen ≠ 0) : h.pack = k.pack ↔ h = k := by
  have eh : normHdr h = h := by unfold normHdr; simp [nh]
  have ek : normHdr k = k := by unfold normHdr; simp [nk]
  rw [C17_hdr_pack_injective h k wh wk, eh, ek]

-- non-vacuity of the injectivity statements: distinct members of the domain, distinct octets;
-- and the normalisation is needed: two distinct headers of the domain with the same octets
example : WFTHdr ⟨1, false, 2, 3⟩ ∧ WFTHdr ⟨1, true, 2, 3⟩ ∧
    Spec.thdrOctets ⟨1, false, 2, 3⟩ ≠ Spec.thdrOctets ⟨1, true, 2, 3⟩ := by decide
example : WFHdr exHdr ∧ WFHdr { exHdr with vcfCount := some 0x010204 } ∧ exHdr.vcfLen ≠ 0 ∧
    Spec.hdrOctets exHdr ≠ Spec.hdrOctets { exHdr with vcfCount := some 0x010204 } := by decide
example : WFHdr ⟨1, false, 2, 3, 9, false, false, false, 0, none⟩ ∧
    WFHdr ⟨1, false, 2, 3, 9, false, false, false, 0, some 5⟩ ∧
    Spec.hdrOctets ⟨1, false, 2, 3, 9, false, false, false, 0, none⟩ =
      Spec.hdrOctets ⟨1, false, 2, 3, 9, false, false, false, 0, some 5⟩ := by decide

end SpVerif.Props.C17
