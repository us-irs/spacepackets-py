import SpVerif.Proofs.PusCrcAccept
import SpVerif.Proofs.CfdpCrcAccept
import SpVerif.Props.C05
import SpVerif.Model.Srv1
/-!
# C04 — a corrupted CRC-protected packet is never accepted as valid (PUS TC, PUS TM and wrappers)

Fault model: `Crc.Burst d d' k B` — `d'` is `d` with the bits of the pattern `B` xor-ed in from bit
offset `k` (bit 0 = most significant bit of octet 0); `B` is any non-zero pattern of at most 16 bits
(a single-bit flip is `B = [true]`); `Crc.flipBurst d k B` is that string as a function.
"Outside the octets that determine the packet's length": the window does not meet octets 4–5
(`AvoidsLenField k B.length`, bits 32…47).

* `C04_*_pack_always_valid`  — whatever the field values of the object are when `pack` runs (so after
  any sequence of setters), a successful `pack` ends with the CRC of all octets before it: residue 0.
* `C04_*_valid_passes`       — every valid packet packs, has residue 0, decodes, passes `check_pus_crc`.
* `C04_*_accept_implies_crc` — a decoder that returns has seen residue 0 over exactly `declaredLen d`
  octets, a function of octets 4–5 only.
* `C04_*_burst_rejected`     — every burst inside an accepted packet (in particular a packed one,
  followed by anything) is refused with a documented error and fails `check_pus_crc`.

CFDP (section at the end): the theorems are about the part every PDU decoder runs first — fixed header
decode + `verify_length_and_checksum` (`CfdpFront.pduFront`, `directiveFront`) — and about the tail of
every PDU `pack()` (`CfdpFront.framePdu`). Length-determining octets: 0–3 (`AvoidsFixedHeader`).
The eight real PDU decoders (each proved to be "front, then body"), their `pack()` tails and the factory
are the subject of `Props/C04Pdu.lean`, which builds on the theorems of this section.
-/
namespace SpVerif.Props.C04
open SpVerif SpVerif.SpacePacket SpVerif.Crc SpVerif.PusCrc


/-- the admissible error patterns: at most 16 bits, not all zero -/
def Pattern (B : List Bool) : Prop := B.length ≤ 16 ∧ B ≠ List.replicate B.length false

instance (B : List Bool) : Decidable (Pattern B) := by unfold Pattern; infer_instance

example : Pattern [true] := by decide
example : Pattern [true, false, false, false, false, false, false, false,
                   false, false, false, false, false, false, false, true] := by decide
example : AvoidsLenField 31 1 ∧ AvoidsLenField 48 16 ∧ AvoidsLenField 16 16 ∧ ¬ AvoidsLenField 31 2 ∧
    ¬ AvoidsLenField 47 1 := by decide

/-- the declared length is a function of octets 4 and 5 only -/
theorem C04_declared_len_octets_4_5 (d d' : Bytes) (h4 : d'[4]? = d[4]?) (h5 : d'[5]? = d[5]?) :
    declaredLen d' = declaredLen d := declaredLen_congr h4 h5

/-- a burst that avoids octets 4–5 leaves every octet outside its window, and the declared length, unchanged -/
theorem C04_burst_local (d d' : Bytes) (k : Nat) (B : List Bool) (hb : Burst d d' k B) :
    d'.length = d.length ∧
    (∀ i, (8 * i + 7 < k ∨ k + B.length ≤ 8 * i) → d'[i]? = d[i]?) ∧
    (AvoidsLenField k B.length → declaredLen d' = declaredLen d) :=
  ⟨hb.length_eq, fun i h => hb.getElem?_eq i h, burst_declaredLen hb⟩

/-- `flipBurst` realises every burst, and only that -/
theorem C04_flipBurst_is_burst (d : Bytes) (k : Nat) (B : List Bool) (hin : k + B.length ≤ 8 * d.length) :
    Burst d (flipBurst d k B) k B ∧ ∀ d', Burst d d' k B → d' = flipBurst d k B :=
  ⟨flipBurst_spec d k B hin, fun _ h => h.eq_flipBurst⟩

/-- **generic CRC-frame theorem** (any decoder that checks residue zero over a frame): residue zero
    becomes non-zero under every admissible burst inside the frame -/
theorem C04_frame_burst (p : Bytes) (k : Nat) (B : List Bool) (hz : crc16 p = 0) (hp : Pattern B)
    (hin : k + B.length ≤ 8 * p.length) : crc16 (flipBurst p k B) ≠ 0 :=
  (flipBurst_spec p k B hin).crc_ne_zero hz hp.1 hp.2

/-- the same for a frame that is the first `n` octets of a longer buffer -/
theorem C04_frame_burst_prefix (d d' : Bytes) (n k : Nat) (B : List Bool) (hb : Burst d d' k B)
    (hn : n ≤ d.length) (hin : k + B.length ≤ 8 * n) (hz : crc16 (d.take n) = 0) (hp : Pattern B) :
    crc16 (d'.take n) ≠ 0 :=
  hb.crc_take_ne_zero n hn hin hz hp.1 hp.2

section TC
open SpVerif.PusTc

/-- **pack always recomputes the trailer**: for ANY field values (no well-formedness assumed — the
    state after arbitrary setters), whenever `pack` succeeds its output is `body ‖ CRC(body)`, has
    residue zero and passes `check_pus_crc`. -/
theorem C04_tc_pack_always_valid (t : Tc) (raw : Bytes) (h : t.pack = .ok raw) :
    (∃ body, t.packNoCrc = .ok body ∧ raw = body ++ crcTrailer body) ∧ crc16 raw = 0 ∧ checkPusCrc raw = true := by
  unfold Tc.pack at h
  obtain ⟨body, hb, h⟩ := bind_ok_inv h
  cases h
  exact ⟨⟨body, hb, rfl⟩, crc16_residue body, decide_eq_true (crc16_residue body)⟩

/-- in particular after the application-data setter -/
theorem C04_tc_pack_after_setter (t : Tc) (data raw : Bytes) (h : (t.setAppData data).pack = .ok raw) :
    crc16 raw = 0 ∧ checkPusCrc raw = true :=
  (C04_tc_pack_always_valid _ raw h).2

/-- **every valid telecommand passes**: it packs, the packed octets have residue zero, decode to the
    same telecommand (whatever follows in the buffer) and pass `check_pus_crc`. -/
theorem C04_tc_valid_passes (t : Tc) (wf : C02.WF t) (rest : Bytes) :
    ∃ p, t.pack = .ok p ∧ crc16 p = 0 ∧ checkPusCrc p = true ∧ Tc.unpack (p ++ rest) = .ok t ∧
      declaredLen (p ++ rest) = p.length :=
  ⟨_, C02.C02_pack_exact t wf, crc16_residue _, C02.C02_crc_valid t, tc_packed wf (C02.C02_pack_exact t wf) rest⟩

/-- **acceptance implies CRC**: a returned telecommand means residue zero over exactly the first
    `declaredLen d` octets (which exist), where `declaredLen d` depends on octets 4–5 only. -/
theorem C04_tc_accept_implies_crc (d : Bytes) (t : Tc) (h : Tc.unpack d = .ok t) :
    declaredLen d ≤ d.length ∧ crc16 (d.take (declaredLen d)) = 0 ∧ t.packetLen = declaredLen d ∧
    checkPusCrc (d.take (declaredLen d)) = true := by
  obtain ⟨e, _, hle, hz⟩ := tc_accept_crc h
  exact ⟨hle, hz, e, decide_eq_true hz⟩

/-- **burst rejection, strongest form**: take ANY buffer the decoder accepts; corrupt it by any
    admissible burst that lies inside the declared packet and avoids octets 4–5. Then the decoder
    returns no telecommand, its error is a documented one, and `check_pus_crc` on the (unchanged-length)
    packet is false. -/
theorem C04_tc_burst_rejected_of_accepted (d d' : Bytes) (t : Tc) (k : Nat) (B : List Bool)
    (hacc : Tc.unpack d = .ok t) (hb : Burst d d' k B) (hp : Pattern B)
    (hin : k + B.length ≤ 8 * declaredLen d) (hav : AvoidsLenField k B.length) :
    (∃ e, Tc.unpack d' = .error e ∧ e.documented = true) ∧
    declaredLen d' = declaredLen d ∧ checkPusCrc (d'.take (declaredLen d')) = false := by
  obtain ⟨_, _, hle, hz⟩ := tc_accept_crc hacc
  exact burst_rejected (fun _ h => (tc_accept_crc h).2.2.2) (C02.C02_documented d') hb hle hz hin hp.1 hp.2 hav

/-- **burst rejection for packed telecommands** (the statement of the property): for every valid
    telecommand, its packed octets `p` followed by any `rest`, every admissible burst inside `p` that
    avoids octets 4–5: no telecommand is returned, the error is documented, `check_pus_crc` is false. -/
theorem C04_tc_burst_rejected (t : Tc) (wf : C02.WF t) (p rest d' : Bytes) (k : Nat) (B : List Bool)
    (hpk : t.pack = .ok p) (hb : Burst (p ++ rest) d' k B) (hp : Pattern B)
    (hin : k + B.length ≤ 8 * p.length) (hav : AvoidsLenField k B.length) :
    (∃ e, Tc.unpack d' = .error e ∧ e.documented = true) ∧ checkPusCrc (d'.take p.length) = false := by
  obtain ⟨hacc, hlen⟩ := tc_packed wf hpk rest
  obtain ⟨h1, h2, h3⟩ := C04_tc_burst_rejected_of_accepted _ d' t k B hacc hb hp (hlen ▸ hin) hav
  rw [h2, hlen] at h3
  exact ⟨h1, h3⟩

/-- the packet alone (no trailing octets), corrupted by `flipBurst`: what the fault enumeration runs -/
theorem C04_tc_flip_rejected (t : Tc) (wf : C02.WF t) (p : Bytes) (k : Nat) (B : List Bool)
    (hpk : t.pack = .ok p) (hp : Pattern B) (hin : k + B.length ≤ 8 * p.length)
    (hav : AvoidsLenField k B.length) :
    (∃ e, Tc.unpack (flipBurst p k B) = .error e ∧ e.documented = true) ∧ checkPusCrc (flipBurst p k B) = false := by
  have h := C04_tc_burst_rejected t wf p [] _ k B hpk (flipBurst_nil p k B hin) hp hin hav
  rwa [flipBurst_take] at h

/-- single-bit flips are the special case `B = [true]` -/
theorem C04_tc_bit_flip_rejected (t : Tc) (wf : C02.WF t) (p : Bytes) (k : Nat)
    (hpk : t.pack = .ok p) (hin : k < 8 * p.length) (hav : k < 32 ∨ 48 ≤ k) :
    (∃ e, Tc.unpack (flipBurst p k [true]) = .error e ∧ e.documented = true) ∧
    checkPusCrc (flipBurst p k [true]) = false :=
  C04_tc_flip_rejected t wf p k [true] hpk (by decide) hin hav

end TC

section TM
open SpVerif.PusTm SpVerif.Srv1

theorem C04_tm_pack_always_valid (t : Tm) (raw : Bytes) (h : t.pack = .ok raw) :
    (∃ body, t.packNoCrc = .ok body ∧ raw = body ++ crcTrailer body) ∧ crc16 raw = 0 ∧
    PusTc.checkPusCrc raw = true := by
  unfold Tm.pack at h
  obtain ⟨body, hb, h⟩ := bind_ok_inv h
  cases h
  exact ⟨⟨body, hb, rfl⟩, crc16_residue body, decide_eq_true (crc16_residue body)⟩

theorem C04_tm_pack_after_setter (t : Tm) (data raw : Bytes) (h : (t.setTmData data).pack = .ok raw) :
    crc16 raw = 0 ∧ PusTc.checkPusCrc raw = true :=
  (C04_tm_pack_always_valid _ raw h).2

/-- the service-1 wrapper packs through `PusTm.pack` -/
theorem C04_srv1_pack_always_valid (s : S1Tm) (raw : Bytes) (h : s.pack = .ok raw) :
    crc16 raw = 0 ∧ PusTc.checkPusCrc raw = true :=
  (C04_tm_pack_always_valid s.tm raw h).2

theorem C04_tm_valid_passes (t : Tm) (wf : C03.WF t) (rest : Bytes) :
    ∃ p, t.pack = .ok p ∧ crc16 p = 0 ∧ PusTc.checkPusCrc p = true ∧
      Tm.unpack (p ++ rest) t.sec.timestamp.length = .ok t ∧
      srv17Unpack (p ++ rest) t.sec.timestamp.length = .ok t ∧ declaredLen (p ++ rest) = p.length :=
  have hp := tm_packed wf (C03.C03_pack_exact t wf) rest
  ⟨_, C03.C03_pack_exact t wf, crc16_residue _, decide_eq_true (crc16_residue _), hp.1, hp.1, hp.2⟩

theorem C04_tm_accept_implies_crc (d : Bytes) (n : Nat) (t : Tm) (h : Tm.unpack d n = .ok t) :
    declaredLen d ≤ d.length ∧ crc16 (d.take (declaredLen d)) = 0 ∧ t.packetLen = declaredLen d ∧
    PusTc.checkPusCrc (d.take (declaredLen d)) = true := by
  obtain ⟨e, _, hle, hz⟩ := tm_accept_crc h
  exact ⟨hle, hz, e, decide_eq_true hz⟩

/-- the wrappers decode through `PusTm.unpack`: whatever they accept, `PusTm.unpack` accepted -/
theorem C04_wrappers_accept_implies_crc (d : Bytes) (n sb eb : Nat) :
    (∀ t, srv17Unpack d n = .ok t → crc16 (d.take (declaredLen d)) = 0) ∧
    (∀ s, S1Tm.unpack d n sb eb = .ok s → crc16 (d.take (declaredLen d)) = 0) := by
  refine ⟨fun t h => (tm_accept_crc (show Tm.unpack d n = .ok t from h)).2.2.2, fun s h => ?_⟩
  unfold S1Tm.unpack at h
  obtain ⟨tm, hu, _⟩ := bind_ok_inv h
  exact (tm_accept_crc hu).2.2.2

/-- **burst rejection, strongest form** — the decoder may be configured with ANY timestamp length
    `n'` when it sees the corrupted buffer. -/
theorem C04_tm_burst_rejected_of_accepted (d d' : Bytes) (n n' : Nat) (t : Tm) (k : Nat) (B : List Bool)
    (hacc : Tm.unpack d n = .ok t) (hb : Burst d d' k B) (hp : Pattern B)
    (hin : k + B.length ≤ 8 * declaredLen d) (hav : AvoidsLenField k B.length) :
    (∃ e, Tm.unpack d' n' = .error e ∧ e.documented = true) ∧
    declaredLen d' = declaredLen d ∧ PusTc.checkPusCrc (d'.take (declaredLen d')) = false := by
  obtain ⟨_, _, hle, hz⟩ := tm_accept_crc hacc
  exact burst_rejected (dec := fun d => Tm.unpack d n') (fun _ h => (tm_accept_crc h).2.2.2) (C03.C03_documented d' n')
    hb hle hz hin hp.1 hp.2 hav

/-- **burst rejection for packed telemetry**, every timestamp (any length), every packet version -/
theorem C04_tm_burst_rejected (t : Tm) (wf : C03.WF t) (p rest d' : Bytes) (n' k : Nat) (B : List Bool)
    (hpk : t.pack = .ok p) (hb : Burst (p ++ rest) d' k B) (hp : Pattern B)
    (hin : k + B.length ≤ 8 * p.length) (hav : AvoidsLenField k B.length) :
    (∃ e, Tm.unpack d' n' = .error e ∧ e.documented = true) ∧ PusTc.checkPusCrc (d'.take p.length) = false := by
  obtain ⟨hacc, hlen⟩ := tm_packed wf hpk rest
  obtain ⟨h1, h2, h3⟩ := C04_tm_burst_rejected_of_accepted _ d' _ n' t k B hacc hb hp (hlen ▸ hin) hav
  rw [h2, hlen] at h3
  exact ⟨h1, h3⟩

theorem C04_tm_flip_rejected (t : Tm) (wf : C03.WF t) (p : Bytes) (n' k : Nat) (B : List Bool)
    (hpk : t.pack = .ok p) (hp : Pattern B) (hin : k + B.length ≤ 8 * p.length)
    (hav : AvoidsLenField k B.length) :
    (∃ e, Tm.unpack (flipBurst p k B) n' = .error e ∧ e.documented = true) ∧
    PusTc.checkPusCrc (flipBurst p k B) = false := by
  have h := C04_tm_burst_rejected t wf p [] _ n' k B hpk (flipBurst_nil p k B hin) hp hin hav
  rwa [flipBurst_take] at h

theorem C04_tm_bit_flip_rejected (t : Tm) (wf : C03.WF t) (p : Bytes) (n' k : Nat)
    (hpk : t.pack = .ok p) (hin : k < 8 * p.length) (hav : k < 32 ∨ 48 ≤ k) :
    (∃ e, Tm.unpack (flipBurst p k [true]) n' = .error e ∧ e.documented = true) ∧
    PusTc.checkPusCrc (flipBurst p k [true]) = false :=
  C04_tm_flip_rejected t wf p n' k [true] hpk (by decide) hin hav

/-- **the wrappers reject too**: `Service17Tm.unpack` and `Service1Tm.unpack` (any step-id / error-code
    widths) fail with the very error `PusTm.unpack` fails with — never an object. -/
theorem C04_wrappers_burst_rejected (t : Tm) (wf : C03.WF t) (p rest d' : Bytes) (n' sb eb k : Nat)
    (B : List Bool) (hpk : t.pack = .ok p) (hb : Burst (p ++ rest) d' k B) (hp : Pattern B)
    (hin : k + B.length ≤ 8 * p.length) (hav : AvoidsLenField k B.length) :
    ∃ e, e.documented = true ∧ srv17Unpack d' n' = .error e ∧ S1Tm.unpack d' n' sb eb = .error e := by
  obtain ⟨⟨e, he, hd⟩, _⟩ := C04_tm_burst_rejected t wf p rest d' n' k B hpk hb hp hin hav
  refine ⟨e, hd, he, ?_⟩
  simp [S1Tm.unpack, he, bind, Except.bind]

end TM

section CFDP
open SpVerif.CfdpHeader SpVerif.CfdpFront SpVerif.CfdpCrc

/-- PDU length, header length and CRC flag are functions of octets 0–3 only -/
theorem C04_cfdp_declared_len_octets_0_3 (d d' : Bytes) (h : ∀ i, i < 4 → d'[i]? = d[i]?) :
    cfdpHeaderLen d' = cfdpHeaderLen d ∧ cfdpDeclaredLen d' = cfdpDeclaredLen d ∧ cfdpCrcFlag d' = cfdpCrcFlag d :=
  fixed_congr h

/-- **the tail of every PDU `pack()` always produces a valid trailer**: for ANY header field values,
    with the CRC flag the assembled PDU is `header ‖ body ‖ CRC(header ‖ body)`: residue zero. -/
theorem C04_cfdp_frame_always_valid (h : PduHeader) (body p : Bytes) (hf : framePdu h body = .ok p)
    (hc : h.conf.crcFlag = 1) : crc16 p = 0 := by
  unfold framePdu at hf
  obtain ⟨hd, _, hf⟩ := bind_ok_inv hf
  dsimp only at hf
  rw [if_pos hc] at hf
  cases hf
  exact crc16_residue _

/-- **every valid CRC-flagged PDU passes**: header in the C05 domain, any body, data-field length =
    |body| + 2: the framed PDU has residue zero, exactly the declared length, and the front of every
    decoder accepts it (whatever follows in the buffer), returning the header. -/
theorem C04_cfdp_valid_passes (h : PduHeader) (wf : C05.WF h) (body rest : Bytes) (hc : h.conf.crcFlag = 1)
    (hl : h.dataFieldLen = body.length + 2) :
    ∃ p, framePdu h body = .ok p ∧ crc16 p = 0 ∧ p.length = h.packetLen ∧ pduFront (p ++ rest) = .ok h ∧
      cfdpDeclaredLen (p ++ rest) = p.length ∧ cfdpCrcFlag (p ++ rest) = 1 := by
  let p := C05.Spec.octets h ++ body ++ crcTrailer (C05.Spec.octets h ++ body)
  have hf : framePdu h body = .ok p := by
    simp [framePdu, C05.C05_pack_exact h wf, bind, Except.bind, pure, Except.pure, hc, p]
  have hz : crc16 p = 0 := crc16_residue _
  have hlen : p.length = h.packetLen := by
    have := (C05.C05_len h wf).2.1
    simp only [p, List.length_append, crcTrailer, be16, List.length_cons, List.length_nil, PduHeader.packetLen]
    omega
  have hu : PduHeader.unpack (p ++ rest) = .ok h := by
    simp only [p, List.append_assoc]
    exact C05.C05_roundtrip h wf _
  have hv : h.verifyLengthAndChecksum (p ++ rest) = .ok h.packetLen :=
    (verify_ok_iff h _ _).mpr ⟨rfl, by rw [List.length_append]; omega, fun _ => by rw [← hlen, List.take_left' rfl]; exact hz⟩
  obtain ⟨e1, e2, _, _⟩ := unpack_fixed hu
  exact ⟨p, hf, hz, hlen, (pduFront_ok_iff _ _).mpr ⟨hu, _, hv⟩, by rw [← e1, hlen], by rw [← e2, hc]⟩

/-- **acceptance implies CRC**: `verify_length_and_checksum` returning for a header with the CRC flag
    means residue zero over exactly the declared PDU, which lies inside the buffer. -/
theorem C04_cfdp_accept_implies_crc (h : PduHeader) (d : Bytes) (n : Nat)
    (hv : h.verifyLengthAndChecksum d = .ok n) (hc : h.conf.crcFlag = 1) :
    n = h.packetLen ∧ h.packetLen ≤ d.length ∧ crc16 (d.take h.packetLen) = 0 :=
  verify_accept_crc hv hc

/-- the same seen from the buffer: any decoder front that returns on a buffer whose octet 0 has the
    CRC flag has seen residue zero over `cfdpDeclaredLen d` octets — a function of octets 0–3 only. -/
theorem C04_cfdp_front_accept_implies_crc (d : Bytes) (h : PduHeader) (ha : pduFront d = .ok h)
    (hc : cfdpCrcFlag d = 1) :
    h.packetLen = cfdpDeclaredLen d ∧ cfdpDeclaredLen d ≤ d.length ∧ crc16 (d.take (cfdpDeclaredLen d)) = 0 :=
  front_accept_crc ha hc

/-- **burst rejection at the common front**: take ANY buffer the front accepts as a CRC-flagged PDU
    and corrupt it by any admissible burst inside the declared PDU that avoids octets 0–3. Then the
    header still decodes to the same lengths and flag, `verify_length_and_checksum` raises
    `InvalidCrc`, and so do the plain front and the file-directive front. What this means for the
    eight PDU decoders the driver executes is stated per decoder in `Props/C04Pdu.lean`. -/
theorem C04_cfdp_burst_rejected_of_accepted (d d' : Bytes) (h : PduHeader) (k : Nat) (B : List Bool)
    (ha : pduFront d = .ok h) (hc : cfdpCrcFlag d = 1) (hb : Burst d d' k B) (hp : Pattern B)
    (hin : k + B.length ≤ 8 * cfdpDeclaredLen d) (hav : AvoidsFixedHeader k) :
    (∃ h', PduHeader.unpack d' = .ok h' ∧ h'.packetLen = h.packetLen ∧ h'.conf.crcFlag = 1 ∧
        h'.verifyLengthAndChecksum d' = .error .crc) ∧
    pduFront d' = .error .crc ∧
    (∀ c, directiveFront d = .ok (h, c) → directiveFront d' = .error .crc) ∧
    cfdpDeclaredLen d' = cfdpDeclaredLen d ∧ crc16 (d'.take (cfdpDeclaredLen d')) ≠ 0 := by
  obtain ⟨h', hu', e1, _, e3, hv', hne⟩ := burst_verify_crc ha hc hb hp.1 hp.2 hin hav
  have hfr := burst_front_crc ha hc hb hp.1 hp.2 hin hav
  exact ⟨⟨h', hu', e1, e3, hv'⟩, hfr, fun c hd => burst_directiveFront_crc hd hc hb hp.1 hp.2 hin hav,
    (fixed_congr (burst_fixed hb hav)).2.1, hne⟩

/-- **burst rejection for packed CRC-flagged PDUs** (the statement of the property at the level of
    the common front): valid header, any body, the framed PDU `p` followed by any `rest`, every
    admissible burst inside `p` that avoids octets 0–3: the checksum error, never an object. -/
theorem C04_cfdp_burst_rejected (h : PduHeader) (wf : C05.WF h) (body p rest d' : Bytes) (k : Nat) (B : List Bool)
    (hc : h.conf.crcFlag = 1) (hl : h.dataFieldLen = body.length + 2) (hf : framePdu h body = .ok p)
    (hb : Burst (p ++ rest) d' k B) (hp : Pattern B) (hin : k + B.length ≤ 8 * p.length)
    (hav : AvoidsFixedHeader k) :
    pduFront d' = .error .crc ∧ crc16 (d'.take p.length) ≠ 0 := by
  obtain ⟨p0, hf0, _, _, hfr, hdl, hcf⟩ := C04_cfdp_valid_passes h wf body rest hc hl
  cases Except.ok.inj (hf0.symm.trans hf)
  obtain ⟨_, h2, _, h5, h6⟩ :=
    C04_cfdp_burst_rejected_of_accepted _ d' h k B hfr hcf hb hp (by rw [hdl]; exact hin) hav
  rw [h5, hdl] at h6
  exact ⟨h2, h6⟩

/-- the PDU alone, corrupted by `flipBurst`: what the fault enumeration runs against the real classes -/
theorem C04_cfdp_flip_rejected (h : PduHeader) (wf : C05.WF h) (body p : Bytes) (k : Nat) (B : List Bool)
    (hc : h.conf.crcFlag = 1) (hl : h.dataFieldLen = body.length + 2) (hf : framePdu h body = .ok p)
    (hp : Pattern B) (hin : k + B.length ≤ 8 * p.length) (hav : AvoidsFixedHeader k) :
    pduFront (flipBurst p k B) = .error .crc ∧ crc16 (flipBurst p k B) ≠ 0 := by
  have h := C04_cfdp_burst_rejected h wf body p [] _ k B hc hl hf (flipBurst_nil p k B hin) hp hin hav
  rwa [flipBurst_take] at h

end CFDP

-- non-vacuity: the hypotheses of the rejection theorems are met by concrete packets and bursts
example : C02.WF ⟨⟨0, 1, 1, 0x7FF, 3, 16383, 8⟩, ⟨0b1010, 17, 1, 0xBEEF⟩, [1, 2]⟩ ∧
    Pattern [true, false, true] ∧ AvoidsLenField 117 3 ∧ 117 + 3 ≤ 8 * 15 := by
  decide

example : C03.WF ⟨⟨5, 0, 1, 0x7FF, 3, 16383, 13⟩, ⟨9, 17, 2, 0xABCD, 0xBEEF, [1, 2, 3]⟩, [7, 8]⟩ ∧
    Pattern [true, true] ∧ AvoidsLenField 30 2 := by
  decide

-- a CRC-flagged file-directive header (2-octet entity ids, 4-octet sequence number) with a 7-octet body
example : C05.WF ⟨0, 0, 9, ⟨⟨2, 0x1234⟩, ⟨2, 0xFFFF⟩, ⟨4, 7⟩, 1, 0, 1, 0, 0⟩⟩ ∧
    (9 : Nat) = ([4, 0x50, 1, 2, 3, 4, 5] : Bytes).length + 2 ∧ CfdpCrc.AvoidsFixedHeader 32 ∧ Pattern [true] := by
  refine ⟨?_, by decide, by decide, by decide⟩
  unfold C05.WF C05.WFField CfdpHeader.okWidth; decide

end SpVerif.Props.C04
