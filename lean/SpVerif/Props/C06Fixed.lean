import SpVerif.Props.C05
import SpVerif.Proofs.FileDirective
import SpVerif.Proofs.Ack
import SpVerif.Proofs.Prompt
import SpVerif.Proofs.KeepAlive
import SpVerif.Proofs.Nak
/-!
# C06 (part "fixed") — file-directive base class, ACK, Prompt, Keep Alive and NAK PDUs are encoded
exactly per CCSDS 727.0-B-5 §5.2 and round-trip

Property theorems only. (EOF, Finished and Metadata are in `Props/C06Var.lean`.)

Layout of every file-directive PDU (727.0-B-5 §5.1, §5.2): fixed PDU header (`C05.Spec.octets`: PDU
type 0 = file directive, segment-metadata flag 0, the direction the directive travels in, a data
field length counting every octet after the header), directive code, directive parameters, and a
CRC-16 over everything before it iff the CRC flag is set:

* ACK (code 6, §5.2.4): `acked directive code (4 bits) | subtype (4 bits)`,
  `condition code (4 bits) | spare (2 bits) | transaction status (2 bits)`; an ACK of a Finished
  PDU (code 5, subtype 1) travels towards the receiver, an ACK of an EOF PDU (code 4, subtype 0)
  towards the sender;
* Prompt (code 9, §5.2.7): `response required (1 bit) | spare (7 bits)`, towards the receiver;
* Keep Alive (code 12, §5.2.8): progress as one FSS field (32 bits, 64 with the large-file flag),
  towards the sender;
* NAK (code 8, §5.2.6): start of scope, end of scope, then the segment requests (start offset, end
  offset) in list order, each an FSS field, towards the sender.
-/
namespace SpVerif.Props.C06Fixed
open SpVerif SpVerif.CfdpHeader SpVerif.FileDirective
open SpVerif.Ack SpVerif.Prompt SpVerif.KeepAlive SpVerif.Nak

/-- every header configuration the statement quantifies over: CRC on/off, large file on/off, mode,
    (the caller's) direction, segmentation control, entity-ID width and sequence-number width in
    {1,2,4,8} (both IDs of the same width) with every value of those widths -/
def WFConf (c : PduConfig) : Prop :=
  c.transMode < 2 ∧ c.fileFlag < 2 ∧ c.crcFlag < 2 ∧ c.direction < 2 ∧ c.segCtrl < 2 ∧
  C05.WFField c.source ∧ C05.WFField c.seqNum ∧ C05.WFField c.dest ∧ c.dest.width = c.source.width

instance (c : PduConfig) : Decidable (WFConf c) := by unfold WFConf; infer_instance

/-- `2` iff the CRC flag is set: the octets the trailer adds to the data field -/
def crcLen (c : PduConfig) : Nat := if c.crcFlag = 1 then 2 else 0

/-- **a file-directive PDU as the standard lays it out**: header ‖ directive code ‖ parameters ‖
    CRC-16 of all of that iff the CRC flag is set -/
def Spec.pdu (fd : FileDirective) (params : Bytes) : Bytes :=
  withCrc fd.header.conf.crcFlag (C05.Spec.octets fd.header ++ [u8 fd.code] ++ params)

/-- domain of the base object of a directive PDU with `plen` parameter octets -/
def WFBase (fd : FileDirective) (code dir plen : Nat) : Prop :=
  C05.WF fd.header ∧ fd.header.pduType = 0 ∧ fd.header.segMeta = 0 ∧ fd.code = code ∧
  fd.header.conf.direction = dir ∧ fd.header.dataFieldLen = 1 + plen + crcLen fd.header.conf

instance (fd : FileDirective) (code dir plen : Nat) : Decidable (WFBase fd code dir plen) := by
  unfold WFBase; infer_instance

/-- the base object the directive constructors build from configuration `c` (type 0, no segment
    metadata, the direction the class forces, `dlen` octets of data field) is valid -/
theorem wfBase_new (c : PduConfig) (wf : WFConf c) (code dir dlen plen : Nat) (hd : dir < 2) (hle : dlen < 65536)
    (hl : dlen = 1 + plen + (if c.crcFlag = 1 then 2 else 0)) :
    WFBase ⟨⟨0, 0, dlen, { c with direction := dir }⟩, code⟩ code dir plen := by
  obtain ⟨h1, h2, h3, _, h5, h6, h7, h8, h9⟩ := wf
  exact ⟨⟨Nat.zero_lt_two, hd, h1, h3, h2, h5, Nat.zero_lt_two, hle, h6, h7, h8, h9⟩, rfl, rfl, rfl, rfl, hl⟩

/-- **directive header = PDU header ‖ directive code**, for every configuration, code octet and
    data-field length -/
theorem C06_directive_pack_exact (fd : FileDirective) (wf : C05.WF fd.header) (hc : fd.code < 256) :
    fd.pack = .ok (C05.Spec.octets fd.header ++ [u8 fd.code]) := pack_spec fd wf hc

/-- `header_len` is the packed length; `packet_len` is header length + data-field length -/
theorem C06_directive_len (fd : FileDirective) (wf : C05.WF fd.header) :
    (C05.Spec.octets fd.header ++ [u8 fd.code]).length = fd.headerLen ∧
    fd.headerLen = fd.header.headerLen + 1 ∧
    fd.packetLen = fd.header.headerLen + fd.header.dataFieldLen := by
  refine ⟨specOctets_length fd wf, rfl, ?_⟩
  simp [FileDirective.packetLen, PduHeader.packetLen]; omega

/-- the constructor: data-field length = directive code octet + parameter length; refused
    (`ValueError`) when that exceeds 65 535 or the ID widths differ -/
theorem C06_directive_new (c : PduConfig) (code plen : Nat) :
    FileDirective.new c code plen =
      if 65535 < plen + 1 ∨ c.source.width ≠ c.dest.width then .error .value
      else .ok ⟨⟨0, 0, plen + 1, c⟩, code⟩ := new_eq c code plen

/-- **round trip of the base class**, whatever follows the directive code -/
theorem C06_directive_roundtrip (fd : FileDirective) (wf : C05.WF fd.header) (hc : fd.code < 256)
    (rest : Bytes) :
    FileDirective.unpack (C05.Spec.octets fd.header ++ [u8 fd.code] ++ rest) = .ok fd ∧ fd.beq fd = true :=
  ⟨unpack_spec fd wf hc rest, beq_refl fd⟩

theorem C06_directive_documented (raw : Bytes) : Documented (FileDirective.unpack raw) :=
  unpack_documented raw

/-- a buffer that ends before the directive code is refused with `ValueError` -/
theorem C06_directive_short (raw : Bytes) (h : PduHeader) (hu : PduHeader.unpack raw = .ok h)
    (hl : raw.length ≤ h.headerLen) : FileDirective.unpack raw = .error .value := unpack_short raw h hu hl

/-- the parameter-length setter keeps `data field = parameters + 1` and refuses more than 65 534 -/
theorem C06_directive_set_param_len (fd : FileDirective) (n : Nat) :
    fd.setParamLen n = if 65535 < n + 1 then .error .value
      else .ok { fd with header := { fd.header with dataFieldLen := n + 1 } } := setParamLen_eq fd n

/-- **`parse_fss_field`**: 4 octets, or 8 with the large-file flag, big-endian, index advanced by
    the width; `ValueError` when the buffer is too short -/
theorem C06_directive_parse_fss (fd : FileDirective) (raw : Bytes) (i : Nat) :
    fd.parseFss raw i =
      if raw.length < i + fssWidth fd.header.conf.fileFlag then .error .value
      else .ok (i + fssWidth fd.header.conf.fileFlag,
                beNat (slice raw i (i + fssWidth fd.header.conf.fileFlag))) := parseFss_eq fd raw i

/-- an FSS value of the selected width is read back exactly, for every value of the full
    32- / 64-bit range -/
theorem C06_directive_parse_fss_roundtrip (fd : FileDirective) (pre rest : Bytes) (v : Nat)
    (hv : v < 256 ^ fssWidth fd.header.conf.fileFlag) :
    fd.parseFss (pre ++ beBytes (fssWidth fd.header.conf.fileFlag) v ++ rest) pre.length =
      .ok (pre.length + fssWidth fd.header.conf.fileFlag, v) := parseFss_spec fd pre rest v hv

/-- `_verify_file_len` refuses only sizes above 2^64 (large) / 2^32 (normal); note that 2^w itself
    passes and is stopped by `struct.pack` (`C06_directive_fss_overflow`) -/
theorem C06_directive_verify_file_len (fd : FileDirective) (size : Int) :
    fd.verifyFileLen size =
      if (fd.header.conf.fileFlag = 1 ∧ size > 18446744073709551616) ∨
         (fd.header.conf.fileFlag = 0 ∧ size > 4294967296) then .error .value else .ok () :=
  verifyFileLen_eq fd size

/-- **`struct.pack` of an FSS value never truncates**: it fails exactly for values outside
    `[0, 256^w)` and yields the `w` big-endian octets otherwise -/
theorem C06_directive_fss_overflow (w : Nat) (v : Int) :
    ((v < 0 ∨ 256 ^ w ≤ v.toNat) → packInt w v = .error .struct) ∧
    (0 ≤ v → v.toNat < 256 ^ w → packInt w v = .ok (beBytes w v.toNat)) :=
  ⟨packInt_struct w v, fun h0 h1 => packInt_fits w v ⟨h0, h1⟩⟩

/-- what every directive decoder does first: complete description of the accepted buffers -/
theorem C06_directive_prelude (data : Bytes) (fd : FileDirective) (p : Bytes) :
    prelude data = .ok (fd, p) ↔
      (PduHeader.unpack data = .ok fd.header ∧ idx data fd.header.headerLen = .ok fd.code ∧
        fd.packetLen ≤ data.length ∧
        (fd.header.conf.crcFlag = 1 → Crc.crc16 (data.take fd.packetLen) = 0) ∧
        p = data.take fd.paramsEnd) := prelude_ok_iff data fd p

/-! ### a laid-out directive PDU: what holds of it whatever the parameters are -/

theorem WFConf.widths {c : PduConfig} (wf : WFConf c) : ¬ c.source.width ≠ c.dest.width :=
  fun h => h wf.2.2.2.2.2.2.2.2.symm

theorem WFBase.len {fd : FileDirective} {code dir plen : Nat} (wf : WFBase fd code dir plen) :
    fd.header.dataFieldLen = 1 + plen + (if fd.header.conf.crcFlag = 1 then 2 else 0) := wf.2.2.2.2.2

/-- **framing round trip**: any decoder "prelude, then parameter parser" on a laid-out PDU, followed
    by anything, is the parser on directive header ‖ parameters -/
theorem prelude_pdu {α : Type} (f : FileDirective × Bytes → Py α) (fd : FileDirective) (code dir : Nat)
    (P rest : Bytes) (wf : WFBase fd code dir P.length) (hc : code < 256) :
    (prelude (Spec.pdu fd P ++ rest) >>= f) = f (fd, specOctets fd ++ P) := by
  have := wf.2.2.2.1
  show (prelude (withCrc fd.header.conf.crcFlag (specOctets fd ++ P) ++ rest) >>= f) = _
  rw [(prelude_spec fd wf.1 (by omega) P rest wf.len).1, bind_ok]

theorem pdu_len (fd : FileDirective) (code dir : Nat) (P : Bytes) (wf : WFBase fd code dir P.length) :
    (Spec.pdu fd P).length = fd.packetLen ∧
    fd.header.dataFieldLen = (Spec.pdu fd P).length - fd.header.headerLen ∧
    fd.header.dataFieldLen = fd.packetLen - fd.header.headerLen ∧
    (Spec.pdu fd P).length = fd.header.headerLen + 1 + P.length + crcLen fd.header.conf := by
  have hl := wf.len
  have : (Spec.pdu fd P).length = (specOctets fd ++ P).length + crcLen fd.header.conf := withCrc_length _ _
  rw [List.length_append, specOctets_length fd wf.1, headerLen_eq] at this
  have := packetLen_eq fd
  unfold crcLen at *
  omega

/-- CRC clause: with the flag the PDU ends in the CRC-16 of everything before it (so the CRC over
    the whole PDU is zero); without the flag there is no trailer -/
theorem pdu_crc (fd : FileDirective) (P : Bytes) :
    (fd.header.conf.crcFlag = 1 →
      Spec.pdu fd P = (C05.Spec.octets fd.header ++ [u8 fd.code] ++ P)
        ++ Crc.crcTrailer (C05.Spec.octets fd.header ++ [u8 fd.code] ++ P) ∧
      Crc.crc16 (Spec.pdu fd P) = 0) ∧
    (fd.header.conf.crcFlag ≠ 1 → Spec.pdu fd P = C05.Spec.octets fd.header ++ [u8 fd.code] ++ P) := by
  unfold Spec.pdu
  refine ⟨fun h => ?_, fun h => withCrc_unset h _⟩
  rw [h, withCrc_set]
  exact ⟨rfl, Crc.crc16_residue _⟩

/-- every strict prefix of a laid-out directive PDU is refused with `ValueError` by any decoder of
    the form "prelude, then parameter parser" -/
theorem pdu_truncated {α : Type} (f : FileDirective × Bytes → Py α) (fd : FileDirective)
    (code dir : Nat) (P : Bytes) (wf : WFBase fd code dir P.length) (k : Nat)
    (hk : k < (Spec.pdu fd P).length) : (prelude ((Spec.pdu fd P).take k) >>= f) = .error .value := by
  have hl := (pdu_len fd code dir P wf).1
  obtain ⟨T, hT⟩ := withCrc_eq_append fd.header.conf.crcFlag (specOctets fd ++ P)
  have hR : Spec.pdu fd P = specOctets fd ++ (P ++ T) := by rw [← List.append_assoc]; exact hT
  rw [hR] at hl hk ⊢
  rw [prelude_truncated fd wf.1 _ hl k (by omega), bind_err]

/-- packing and decoding again (`dec` reads the packed octets, with or without a suffix) gives a PDU
    that is the original, compares with it as it compares with itself, and packs the same -/
theorem eq_repack_of {α β : Type} {pack : α → Py Bytes} {dec : Bytes → Py α} {beq : α → α → β} {a : α}
    {s : Bytes} {t : β} (hp : pack a = .ok s) (hr : dec s = .ok a) (hb : beq a a = t) :
    ∃ a', (pack a >>= dec) = .ok a' ∧ a' = a ∧ beq a a' = t ∧ beq a' a = t ∧ pack a' = pack a :=
  ⟨a, by rw [hp, bind_ok]; exact hr, rfl, hb, hb, rfl⟩

/-- valid PDUs are equal exactly when they pack to the same octets, once `pack` is the layout and the
    layout is injective -/
theorem pack_eq_iff_of {α : Type} {pack : α → Py Bytes} {spec : α → Bytes} {a b : α}
    (pa : pack a = .ok (spec a)) (pb : pack b = .ok (spec b)) (inj : spec a = spec b → a = b) :
    pack a = pack b ↔ a = b :=
  ⟨fun h => inj (Except.ok.inj (pa.symm.trans (h.trans pb))), fun h => h ▸ rfl⟩

/-- valid ACK PDUs: the acknowledged directive is EOF (4, subtype 0, towards the sender) or Finished
    (5, subtype 1, towards the receiver), a 4-bit condition code (every member of `ConditionCode`
    except the `NO_CONDITION_FIELD = -1` marker), every `TransactionStatus`, any header configuration -/
def WFAck (a : Ack) : Prop :=
  (a.ackedCode = 4 ∨ a.ackedCode = 5) ∧ a.subtype = (if a.ackedCode = 5 then 1 else 0) ∧
  0 ≤ a.cond ∧ a.cond < 16 ∧ a.status < 4 ∧
  WFBase a.fd 6 (if a.ackedCode = 5 then 0 else 1) 2

instance (a : Ack) : Decidable (WFAck a) := by unfold WFAck; infer_instance

/-- the two parameter octets of 727.0-B-5 §5.2.4 -/
def Spec.ackParams (a : Ack) : Bytes :=
  [u8 (a.ackedCode * 16 + a.subtype), u8 (a.cond.toNat * 16 + a.status)]

def Spec.ack (a : Ack) : Bytes := Spec.pdu a.fd (Spec.ackParams a)

private theorem byteOf_lin (c : Int) (s : Nat) (h0 : 0 ≤ c) (h : c.toNat * 16 + s < 256) :
    byteOf (c * 16 + (s : Int)) = .ok (u8 (c.toNat * 16 + s)) := by
  obtain ⟨n, rfl⟩ := Int.eq_ofNat_of_zero_le h0
  simp only [Int.toNat_natCast] at h ⊢
  have g : 0 ≤ (n : Int) * 16 + (s : Int) ∧ (n : Int) * 16 + (s : Int) < 256 := by omega
  have e : ((n : Int) * 16 + (s : Int)).toNat = n * 16 + s := by omega
  simp only [byteOf, g, and_self, ↓reduceIte, e]

/-- the constructor accepts every header configuration and parameter set, forces the direction and
    the subtype code, and yields a valid PDU -/
theorem C06_ack_new (c : PduConfig) (wf : WFConf c) (acked : Nat) (ha : acked = 4 ∨ acked = 5)
    (cond : Int) (status : Nat) :
    ∃ a, Ack.new c acked cond status = .ok a ∧ a.ackedCode = acked ∧ a.cond = cond ∧ a.status = status ∧
      a.fd.header.conf = { c with direction := if acked = 5 then 0 else 1 } ∧
      (0 ≤ cond → cond < 16 → status < 4 → WFAck a) := by
  rw [Ack.new_eq]
  have g : ¬ ((acked ≠ 5 ∧ acked ≠ 4) ∨ c.source.width ≠ c.dest.width) := by
    have := wf.widths; omega
  rw [if_neg g]
  refine ⟨_, rfl, rfl, rfl, rfl, rfl, ?_⟩
  intro h0 h1 h2
  exact ⟨by omega, rfl, h0, h1, h2,
    wfBase_new c wf _ _ _ _ (by split <;> omega) (by split <;> omega) (by split <;> omega)⟩

/-- only EOF and Finished PDUs can be acknowledged: any other directive code is refused (`ValueError`) -/
theorem C06_ack_refuse_code (c : PduConfig) (acked : Nat) (cond : Int) (status : Nat)
    (h : acked ≠ 4 ∧ acked ≠ 5) : Ack.new c acked cond status = .error .value := by
  rw [Ack.new_eq, if_pos (Or.inl ⟨h.2, h.1⟩)]

/-- **pack = standard layout** for every valid ACK PDU in every header configuration -/
theorem C06_ack_pack_exact (a : Ack) (wf : WFAck a) : a.pack = .ok (Spec.ack a) := by
  obtain ⟨h1, h2, h3, h4, h5, w1, _, _, w4, _, _⟩ := wf
  unfold Ack.pack
  rw [pack_spec a.fd w1 (by omega), byteOfN_ok (by split at h2 <;> omega : a.ackedCode * 16 + a.subtype < 256),
    byteOf_lin a.cond a.status h3 (by omega)]
  simp only [bind, Except.bind, pure, Except.pure, Spec.ack, Spec.pdu, Spec.ackParams, specOctets]

/-- **length clauses**: packed length = `packet_len`; data-field length = octets after the header
    = `packet_len` − header length; 2 parameter octets (+2 with CRC) -/
theorem C06_ack_len (a : Ack) (wf : WFAck a) :
    (Spec.ack a).length = a.packetLen ∧
    a.fd.header.dataFieldLen = (Spec.ack a).length - a.fd.header.headerLen ∧
    a.fd.header.dataFieldLen = a.packetLen - a.fd.header.headerLen ∧
    (Spec.ack a).length = a.fd.header.headerLen + 1 + 2 + crcLen a.fd.header.conf :=
  pdu_len a.fd 6 _ (Spec.ackParams a) wf.2.2.2.2.2

/-- **CRC clause**: trailer = CRC-16 of everything before it iff the flag is set -/
theorem C06_ack_crc (a : Ack) :
    (a.fd.header.conf.crcFlag = 1 →
      Spec.ack a = (C05.Spec.octets a.fd.header ++ [u8 a.fd.code] ++ Spec.ackParams a)
        ++ Crc.crcTrailer (C05.Spec.octets a.fd.header ++ [u8 a.fd.code] ++ Spec.ackParams a) ∧
      Crc.crc16 (Spec.ack a) = 0) ∧
    (a.fd.header.conf.crcFlag ≠ 1 →
      Spec.ack a = C05.Spec.octets a.fd.header ++ [u8 a.fd.code] ++ Spec.ackParams a) :=
  pdu_crc a.fd (Spec.ackParams a)

private theorem idx_two0 (x y : UInt8) : idx [x, y] 0 = .ok x.toNat := rfl
private theorem idx_two1 (x y : UInt8) : idx [x, y] 1 = .ok y.toNat := rfl
private theorem ack_ar (x s : Nat) (hs : s < 16) (hx : x < 16) :
    (x * 16 + s) % 256 / 16 % 16 = x ∧ (x * 16 + s) % 256 % 16 = s := by omega
private theorem ack_ar2 (x s : Nat) (hs : s < 4) (hx : x < 16) :
    (x * 16 + s) % 256 / 16 % 16 = x ∧ (x * 16 + s) % 256 % 4 = s := by omega

/-- **parameter round trip**: the parser reads the two parameter octets back behind any `A` of the
    directive header's length -/
theorem ack_parse_params (a : Ack) (wf : WFAck a) (A : Bytes) (hA : A.length = a.fd.headerLen) :
    Ack.parse (a.fd, A ++ Spec.ackParams a) = .ok a := by
  obtain ⟨h1, h2, h3, h4, h5, _⟩ := wf
  unfold Ack.parse
  have hl : ¬ a.fd.headerLen + 2 > (A ++ Spec.ackParams a).length := by simp [hA, Spec.ackParams]
  have i0 := idx_after A (Spec.ackParams a) 0
  have i1 := idx_after A (Spec.ackParams a) 1
  rw [Nat.add_zero, hA] at i0
  rw [hA] at i1
  obtain ⟨n, hn⟩ := Int.eq_ofNat_of_zero_le h3
  have hn16 : n < 16 := by omega
  have hs16 : a.subtype < 16 := by split at h2 <;> omega
  have ha16 : a.ackedCode < 16 := by omega
  simp only [hl, ↓reduceIte, i0, i1, bind, Except.bind, pure, Except.pure]
  simp only [Spec.ackParams, idx_two0, idx_two1, u8_toNat, hn, Int.toNat_natCast,
    (ack_ar a.ackedCode a.subtype hs16 ha16).1, (ack_ar a.ackedCode a.subtype hs16 ha16).2,
    (ack_ar2 n a.status h5 hn16).1, (ack_ar2 n a.status h5 hn16).2]
  cases a
  simp only at hn
  simp only [hn]

/-- **round trip**: decoding the packed PDU — alone or followed by any further octets — returns
    the identical PDU (same header, same four parameters), for every valid PDU and configuration -/
theorem C06_ack_roundtrip (a : Ack) (wf : WFAck a) (rest : Bytes) :
    Ack.unpack (Spec.ack a ++ rest) = .ok a := by
  rw [Ack.unpack_eq, Spec.ack, prelude_pdu _ a.fd 6 _ _ rest wf.2.2.2.2.2 (by omega)]
  exact ack_parse_params a wf _ (specOctets_length a.fd wf.2.2.2.2.2.1)

/-- **equality and re-pack identity**: the decoded PDU compares equal to the original under `==`
    (both ways) and packs to the same octets -/
theorem C06_ack_eq_repack (a : Ack) (wf : WFAck a) (rest : Bytes) :
    ∃ a', (a.pack >>= fun b => Ack.unpack (b ++ rest)) = .ok a' ∧ a' = a ∧
      a.beq a' = true ∧ a'.beq a = true ∧ a'.pack = a.pack :=
  eq_repack_of (C06_ack_pack_exact a wf) (C06_ack_roundtrip a wf rest) (by simp [Ack.beq, beq_refl])

/-- `ConditionCode.NO_CONDITION_FIELD` (−1), or any negative condition code, cannot be packed:
    `ValueError`, never a wrapped-around octet -/
theorem C06_ack_no_condition_field (a : Ack) (wf : C05.WF a.fd.header) (hc : a.fd.code < 256)
    (h : a.cond < 0) (hs : a.status < 16) : a.pack = .error .value := by
  unfold Ack.pack
  rw [pack_spec a.fd wf hc]
  have g : ¬ (0 ≤ a.cond * 16 + (a.status : Int) ∧ a.cond * 16 + (a.status : Int) < 256) := by omega
  unfold byteOfN
  split <;> simp only [bind, Except.bind, byteOf, g, ↓reduceIte]

/-- the decoder fails, for any octet string whatever, only with `ValueError`,
    `UnsupportedCfdpVersion` or `InvalidCrc` -/
theorem C06_ack_documented (d : Bytes) : Documented (Ack.unpack d) := Ack.unpack_documented d

/-- what acceptance means: the buffer holds the whole declared PDU, the CRC-16 over exactly the
    declared PDU is zero when the flag is set, and the result depends on the declared PDU only
    (trailing octets are neither read nor required) -/
theorem C06_ack_accept_sound (d : Bytes) (a : Ack) (h : Ack.unpack d = .ok a) (rest : Bytes) :
    a.packetLen ≤ d.length ∧ (a.fd.header.conf.crcFlag = 1 → Crc.crc16 (d.take a.packetLen) = 0) ∧
    Ack.unpack (d.take a.packetLen ++ rest) = .ok a := by
  obtain ⟨_, _, _, h4, h5⟩ := Ack.unpack_inv d a h
  exact ⟨h4, h5, Ack.unpack_take d a h rest⟩

/-- **every strict prefix of a packed PDU is refused with `ValueError`** -/
theorem C06_ack_truncated (x : Ack) (wf : WFAck x) (k : Nat) (hk : k < (Spec.ack x).length) :
    Ack.unpack ((Spec.ack x).take k) = .error .value := by
  rw [Ack.unpack_eq]
  exact pdu_truncated _ x.fd _ _ _ wf.2.2.2.2.2 k hk

-- non-vacuity: ACK of a Finished PDU, FILE_CHECKSUM_FAILURE, TERMINATED, CRC, large file, 2-octet IDs
private def exAck : Ack :=
  ⟨⟨⟨0, 0, 5, ⟨⟨2, 0x0102⟩, ⟨2, 0x0304⟩, ⟨1, 0x77⟩, 1, 1, 1, 0, 0⟩⟩, 6⟩, 5, 1, 5, 2⟩
example : WFAck exAck := by decide
example : WFConf ⟨⟨2, 0x0102⟩, ⟨2, 0x0304⟩, ⟨1, 0x77⟩, 1, 1, 1, 1, 0⟩ := by decide
example : Ack.new ⟨⟨2, 0x0102⟩, ⟨2, 0x0304⟩, ⟨1, 0x77⟩, 1, 1, 1, 1, 0⟩ 5 5 2 = .ok exAck := by rfl
example : C05.Spec.octets exAck.fd.header ++ [u8 exAck.fd.code] ++ Spec.ackParams exAck
    = [0x27, 0, 5, 0x10, 1, 2, 0x77, 3, 4, 6, 0x51, 0x52] := by decide
example : Ack.new PduConfig.default 7 0 0 = .error .value := by rfl

/-- valid Prompt PDUs: both members of `ResponseRequired`, towards the receiver, any configuration -/
def WFPrompt (p : Prompt) : Prop := p.respReq < 2 ∧ WFBase p.fd 9 0 1

instance (p : Prompt) : Decidable (WFPrompt p) := by unfold WFPrompt; infer_instance

/-- the parameter octet of 727.0-B-5 §5.2.7: response required in bit 7, spare bits zero -/
def Spec.promptParams (p : Prompt) : Bytes := [u8 (p.respReq * 128)]

def Spec.prompt (p : Prompt) : Bytes := Spec.pdu p.fd (Spec.promptParams p)

theorem C06_prompt_new (c : PduConfig) (wf : WFConf c) (rr : Nat) :
    ∃ p, Prompt.new c rr = .ok p ∧ p.respReq = rr ∧ p.fd.header.conf = { c with direction := 0 } ∧
      (rr < 2 → WFPrompt p) := by
  rw [Prompt.new_eq, if_neg wf.widths]
  refine ⟨_, rfl, rfl, rfl, ?_⟩
  intro h
  exact ⟨h, wfBase_new c wf _ _ _ _ (by omega) (by split <;> omega) (by split <;> omega)⟩

theorem C06_prompt_pack_exact (p : Prompt) (wf : WFPrompt p) : p.pack = .ok (Spec.prompt p) := by
  obtain ⟨h1, w1, _, _, w4, _, _⟩ := wf
  unfold Prompt.pack
  rw [pack_spec p.fd w1 (by omega), byteOfN_ok (by omega : p.respReq * 128 < 256)]
  simp only [bind, Except.bind, pure, Except.pure, Spec.prompt, Spec.pdu, Spec.promptParams, specOctets]

theorem C06_prompt_len (p : Prompt) (wf : WFPrompt p) :
    (Spec.prompt p).length = p.packetLen ∧
    p.fd.header.dataFieldLen = (Spec.prompt p).length - p.fd.header.headerLen ∧
    p.fd.header.dataFieldLen = p.packetLen - p.fd.header.headerLen ∧
    (Spec.prompt p).length = p.fd.header.headerLen + 1 + 1 + crcLen p.fd.header.conf :=
  pdu_len p.fd 9 0 (Spec.promptParams p) wf.2

theorem C06_prompt_crc (p : Prompt) :
    (p.fd.header.conf.crcFlag = 1 →
      Spec.prompt p = (C05.Spec.octets p.fd.header ++ [u8 p.fd.code] ++ Spec.promptParams p)
        ++ Crc.crcTrailer (C05.Spec.octets p.fd.header ++ [u8 p.fd.code] ++ Spec.promptParams p) ∧
      Crc.crc16 (Spec.prompt p) = 0) ∧
    (p.fd.header.conf.crcFlag ≠ 1 →
      Spec.prompt p = C05.Spec.octets p.fd.header ++ [u8 p.fd.code] ++ Spec.promptParams p) :=
  pdu_crc p.fd (Spec.promptParams p)

private theorem idx_one0 (x : UInt8) : idx [x] 0 = .ok x.toNat := rfl
private theorem prompt_ar (r : Nat) (h : r < 2) : r * 128 % 256 / 128 % 2 = r := by omega

/-- **parameter round trip**: the parser reads the parameter octet back behind any `A` of the
    directive header's length -/
theorem prompt_parse_params (p : Prompt) (wf : WFPrompt p) (A : Bytes) (hA : A.length = p.fd.headerLen) :
    Prompt.parse (p.fd, A ++ Spec.promptParams p) = .ok p := by
  unfold Prompt.parse
  have hl : ¬ p.fd.headerLen ≥ (A ++ Spec.promptParams p).length := by simp [hA, Spec.promptParams]
  have i0 := idx_after A (Spec.promptParams p) 0
  rw [Nat.add_zero, hA] at i0
  have he : enumOf [0, 1] p.respReq = .ok p.respReq := if_pos (by have := wf.1; simp; omega)
  simp only [hl, ↓reduceIte, i0, bind, Except.bind, pure, Except.pure]
  simp only [Spec.promptParams, idx_one0, u8_toNat, prompt_ar p.respReq wf.1, he]

theorem C06_prompt_roundtrip (p : Prompt) (wf : WFPrompt p) (rest : Bytes) :
    Prompt.unpack (Spec.prompt p ++ rest) = .ok p := by
  rw [Prompt.unpack_eq, Spec.prompt, prelude_pdu _ p.fd 9 0 (Spec.promptParams p) rest wf.2 (by omega)]
  exact prompt_parse_params p wf _ (specOctets_length p.fd wf.2.1)

theorem C06_prompt_eq_repack (p : Prompt) (wf : WFPrompt p) (rest : Bytes) :
    ∃ p', (p.pack >>= fun b => Prompt.unpack (b ++ rest)) = .ok p' ∧ p' = p ∧
      p.beq p' = true ∧ p'.beq p = true ∧ p'.pack = p.pack :=
  eq_repack_of (C06_prompt_pack_exact p wf) (C06_prompt_roundtrip p wf rest) (by simp [Prompt.beq, beq_refl])

theorem C06_prompt_documented (d : Bytes) : Documented (Prompt.unpack d) := Prompt.unpack_documented d

theorem C06_prompt_accept_sound (d : Bytes) (p : Prompt) (h : Prompt.unpack d = .ok p) (rest : Bytes) :
    p.packetLen ≤ d.length ∧ (p.fd.header.conf.crcFlag = 1 → Crc.crc16 (d.take p.packetLen) = 0) ∧
    Prompt.unpack (d.take p.packetLen ++ rest) = .ok p := by
  obtain ⟨_, _, _, h4, h5⟩ := Prompt.unpack_inv d p h
  exact ⟨h4, h5, Prompt.unpack_take d p h rest⟩

theorem C06_prompt_truncated (x : Prompt) (wf : WFPrompt x) (k : Nat) (hk : k < (Spec.prompt x).length) :
    Prompt.unpack ((Spec.prompt x).take k) = .error .value := by
  rw [Prompt.unpack_eq]
  exact pdu_truncated _ x.fd _ _ _ wf.2 k hk

-- non-vacuity: Keep Alive response requested, CRC, 8-octet IDs, 4-octet sequence number
private def exPrompt : Prompt :=
  ⟨⟨⟨0, 0, 4, ⟨⟨8, 0x0102030405060708⟩, ⟨8, 0x1112131415161718⟩, ⟨4, 0xA1A2A3A4⟩, 0, 0, 1, 0, 1⟩⟩, 9⟩, 1⟩
example : WFPrompt exPrompt := by decide
example : Prompt.new ⟨⟨8, 0x0102030405060708⟩, ⟨8, 0x1112131415161718⟩, ⟨4, 0xA1A2A3A4⟩, 0, 0, 1, 1, 1⟩ 1 = .ok exPrompt := by rfl
example : C05.Spec.octets exPrompt.fd.header ++ [u8 exPrompt.fd.code] ++ Spec.promptParams exPrompt
    = [0x22, 0, 4, 0xF3, 1, 2, 3, 4, 5, 6, 7, 8, 0xA1, 0xA2, 0xA3, 0xA4, 0x11, 0x12, 0x13, 0x14, 0x15, 0x16, 0x17, 0x18,
       9, 0x80] := by decide

/-- valid Keep Alive PDUs: every progress value of the selected FSS width (32 bits, 64 with the
    large-file flag), towards the sender, any configuration -/
def WFKeepAlive (k : KeepAlive) : Prop :=
  0 ≤ k.progress ∧ k.progress.toNat < 256 ^ fssWidth k.fd.header.conf.fileFlag ∧
  WFBase k.fd 12 1 (fssWidth k.fd.header.conf.fileFlag)

instance (k : KeepAlive) : Decidable (WFKeepAlive k) := by unfold WFKeepAlive; infer_instance

/-- the progress field of 727.0-B-5 §5.2.8, big-endian in the selected width -/
def Spec.keepAliveParams (k : KeepAlive) : Bytes :=
  beBytes (fssWidth k.fd.header.conf.fileFlag) k.progress.toNat

def Spec.keepAlive (k : KeepAlive) : Bytes := Spec.pdu k.fd (Spec.keepAliveParams k)

theorem WFKeepAlive.base {k : KeepAlive} (wf : WFKeepAlive k) :
    WFBase k.fd 12 1 (Spec.keepAliveParams k).length := by
  rw [Spec.keepAliveParams, beBytes_length]; exact wf.2.2

private theorem ka_plen (f c : Nat) : paramLenFor f c = fssWidth f + (if c = 1 then 2 else 0) := rfl

theorem C06_keepalive_new (c : PduConfig) (wf : WFConf c) (progress : Int) :
    ∃ k, KeepAlive.new c progress = .ok k ∧ k.progress = progress ∧
      k.fd.header.conf = { c with direction := 1 } ∧
      (0 ≤ progress → progress.toNat < 256 ^ fssWidth c.fileFlag → WFKeepAlive k) := by
  rw [KeepAlive.new_eq, if_neg wf.widths]
  refine ⟨_, rfl, rfl, rfl, ?_⟩
  intro h0 h1
  have := KeepAlive.paramLenFor_le c.fileFlag c.crcFlag
  exact ⟨h0, h1, wfBase_new c wf _ _ _ _ (by omega) (by omega) (by simp only [ka_plen]; omega)⟩

/-- **pack = standard layout**, for every progress value of the full 32- / 64-bit range -/
theorem C06_keepalive_pack_exact (k : KeepAlive) (wf : WFKeepAlive k) : k.pack = .ok (Spec.keepAlive k) := by
  obtain ⟨h0, h1, w1, _, _, w4, _, _⟩ := wf
  have g : ¬ (¬ k.fd.header.largeFileFlagSet ∧ k.progress > 4294967295) := fun ⟨hl, hg⟩ => by
    rw [← width_of_large, if_neg hl] at h1
    exact Nak.fits4_le k.progress ⟨h0, h1⟩ hg
  rw [KeepAlive.pack_eq, pack_spec k.fd w1 (by omega), bind_ok, if_neg g, packInt_fits _ _ ⟨h0, h1⟩]
  rfl

/-- **a progress value that does not fit the selected width makes `pack` fail, never truncate**:
    `ValueError` above 2^32 − 1 without the large-file flag; `struct.error` for negative values and
    above 2^64 − 1 with the flag -/
theorem C06_keepalive_fss_overflow (k : KeepAlive) (wf : C05.WF k.fd.header) (hc : k.fd.code < 256)
    (h : k.progress < 0 ∨ 256 ^ fssWidth k.fd.header.conf.fileFlag ≤ k.progress.toNat) :
    k.pack = .error .value ∨ k.pack = .error .struct := by
  rw [KeepAlive.pack_eq, pack_spec k.fd wf hc, bind_ok]
  by_cases g : ¬ k.fd.header.largeFileFlagSet ∧ k.progress > 4294967295
  · rw [if_pos g]; exact .inl rfl
  · rw [if_neg g, packInt_struct _ _ h]; exact .inr rfl

theorem C06_keepalive_len (k : KeepAlive) (wf : WFKeepAlive k) :
    (Spec.keepAlive k).length = k.packetLen ∧
    k.fd.header.dataFieldLen = (Spec.keepAlive k).length - k.fd.header.headerLen ∧
    k.fd.header.dataFieldLen = k.packetLen - k.fd.header.headerLen ∧
    (Spec.keepAlive k).length
      = k.fd.header.headerLen + 1 + fssWidth k.fd.header.conf.fileFlag + crcLen k.fd.header.conf := by
  have := pdu_len k.fd 12 1 (Spec.keepAliveParams k) wf.base
  rwa [Spec.keepAliveParams, beBytes_length] at this

theorem C06_keepalive_crc (k : KeepAlive) :
    (k.fd.header.conf.crcFlag = 1 →
      Spec.keepAlive k = (C05.Spec.octets k.fd.header ++ [u8 k.fd.code] ++ Spec.keepAliveParams k)
        ++ Crc.crcTrailer (C05.Spec.octets k.fd.header ++ [u8 k.fd.code] ++ Spec.keepAliveParams k) ∧
      Crc.crc16 (Spec.keepAlive k) = 0) ∧
    (k.fd.header.conf.crcFlag ≠ 1 →
      Spec.keepAlive k = C05.Spec.octets k.fd.header ++ [u8 k.fd.code] ++ Spec.keepAliveParams k) :=
  pdu_crc k.fd (Spec.keepAliveParams k)

/-- **parameter round trip**: the parser reads the progress field back behind any `A` of the
    directive header's length -/
theorem keepalive_parse_params (k : KeepAlive) (wf : WFKeepAlive k) (A : Bytes) (hA : A.length = k.fd.headerLen) :
    KeepAlive.parse (k.fd, A ++ Spec.keepAliveParams k) = .ok k := by
  have hs := slice_eq_of_append A (Spec.keepAliveParams k) []
  have hl : (Spec.keepAliveParams k).length = fssWidth k.fd.header.conf.fileFlag := beBytes_length _ _
  rw [List.append_nil, hA, hl] at hs
  rw [KeepAlive.parse_eq, if_neg (by rw [List.length_append, hA, hl]; omega), hs, Spec.keepAliveParams,
    beNat_beBytes _ _ wf.2.1, Int.toNat_of_nonneg wf.1]

theorem C06_keepalive_roundtrip (k : KeepAlive) (wf : WFKeepAlive k) (rest : Bytes) :
    KeepAlive.unpack (Spec.keepAlive k ++ rest) = .ok k := by
  rw [KeepAlive.unpack_eq, Spec.keepAlive, prelude_pdu _ k.fd 12 1 _ rest wf.base (by omega)]
  exact keepalive_parse_params k wf _ (specOctets_length k.fd wf.2.2.1)

theorem C06_keepalive_eq_repack (k : KeepAlive) (wf : WFKeepAlive k) (rest : Bytes) :
    ∃ k', (k.pack >>= fun b => KeepAlive.unpack (b ++ rest)) = .ok k' ∧ k' = k ∧
      k.beq k' = true ∧ k'.beq k = true ∧ k'.pack = k.pack :=
  eq_repack_of (C06_keepalive_pack_exact k wf) (C06_keepalive_roundtrip k wf rest) (by simp [KeepAlive.beq, beq_refl])

/-- **the `file_flag` setter keeps the length consistent** (including the CRC trailer): afterwards
    the PDU is the one a fresh constructor call with the new flag gives -/
theorem C06_keepalive_set_file_flag (c : PduConfig) (progress : Int) (f : Nat) :
    (KeepAlive.new c progress >>= fun k => k.setFileFlag f) = KeepAlive.new { c with fileFlag := f } progress := by
  rw [KeepAlive.new_eq, KeepAlive.new_eq]
  split
  · rfl
  · rw [bind_ok, KeepAlive.setFileFlag_eq]

theorem C06_keepalive_documented (d : Bytes) : Documented (KeepAlive.unpack d) := KeepAlive.unpack_documented d

theorem C06_keepalive_accept_sound (d : Bytes) (k : KeepAlive) (h : KeepAlive.unpack d = .ok k) (rest : Bytes) :
    k.packetLen ≤ d.length ∧ (k.fd.header.conf.crcFlag = 1 → Crc.crc16 (d.take k.packetLen) = 0) ∧
    KeepAlive.unpack (d.take k.packetLen ++ rest) = .ok k := by
  obtain ⟨_, _, _, h4, h5⟩ := KeepAlive.unpack_inv d k h
  exact ⟨h4, h5, KeepAlive.unpack_take d k h rest⟩

theorem C06_keepalive_truncated (x : KeepAlive) (wf : WFKeepAlive x) (k : Nat) (hk : k < (Spec.keepAlive x).length) :
    KeepAlive.unpack ((Spec.keepAlive x).take k) = .error .value := by
  rw [KeepAlive.unpack_eq]
  exact pdu_truncated _ x.fd _ _ _ wf.base k hk

-- non-vacuity: 64-bit progress with every octet different (a byte-order error would show), CRC
private def exKa : KeepAlive :=
  ⟨⟨⟨0, 0, 11, ⟨⟨1, 0x21⟩, ⟨1, 0x43⟩, ⟨2, 0x6587⟩, 1, 1, 1, 1, 0⟩⟩, 12⟩, 0x0102030405060708⟩
example : WFKeepAlive exKa := by decide
example : KeepAlive.new ⟨⟨1, 0x21⟩, ⟨1, 0x43⟩, ⟨2, 0x6587⟩, 1, 1, 1, 0, 0⟩ 0x0102030405060708 = .ok exKa := by rfl
example : C05.Spec.octets exKa.fd.header ++ [u8 exKa.fd.code] ++ Spec.keepAliveParams exKa
    = [0x2F, 0, 11, 0x01, 0x21, 0x65, 0x87, 0x43, 12, 1, 2, 3, 4, 5, 6, 7, 8] := by decide
example : WFKeepAlive ⟨⟨⟨0, 0, 5, ⟨⟨1, 0⟩, ⟨1, 0⟩, ⟨1, 0⟩, 0, 0, 0, 1, 0⟩⟩, 12⟩, 4294967295⟩ := by decide

instance (w : Nat) (l : List Nak.Seg) : Decidable (SegsFit w l) := by unfold SegsFit; infer_instance

/-- valid NAK PDUs: start / end of scope and every offset of every segment request over the full
    range of the selected FSS width, any number of segment requests that fits the 16-bit data-field
    length, towards the sender, any configuration -/
def WFNak (k : Nak) : Prop :=
  fits (fssWidth k.fd.header.conf.fileFlag) k.startOfScope ∧
  fits (fssWidth k.fd.header.conf.fileFlag) k.endOfScope ∧
  SegsFit (fssWidth k.fd.header.conf.fileFlag) k.segs ∧
  WFBase k.fd 8 1 (2 * fssWidth k.fd.header.conf.fileFlag * (k.segs.length + 1))

instance (k : Nak) : Decidable (WFNak k) := by unfold WFNak; infer_instance

/-- the parameters of 727.0-B-5 §5.2.6: start of scope, end of scope, then the segment requests in
    list order, every value big-endian in the selected width -/
def Spec.nakParams (k : Nak) : Bytes :=
  specPair (fssWidth k.fd.header.conf.fileFlag) k.startOfScope k.endOfScope ++
  specSegs (fssWidth k.fd.header.conf.fileFlag) k.segs

def Spec.nak (k : Nak) : Bytes := Spec.pdu k.fd (Spec.nakParams k)

private theorem nakParams_length (k : Nak) :
    (Spec.nakParams k).length = 2 * fssWidth k.fd.header.conf.fileFlag * (k.segs.length + 1) := by
  simp only [Spec.nakParams, List.length_append, specPair_length, specSegs_length]
  rw [Nat.mul_add, Nat.mul_comm k.segs.length]; omega

theorem WFNak.base {k : Nak} (wf : WFNak k) : WFBase k.fd 8 1 (Spec.nakParams k).length := by
  rw [nakParams_length]; exact wf.2.2.2

private theorem nak_plen (f c n : Nat) :
    nakParamLen f c n + 1 = 1 + 2 * fssWidth f * (n + 1) + (if c = 1 then 2 else 0) := by
  unfold nakParamLen; omega

/-- the constructor accepts every configuration, scope and list of segment requests whose
    encoding fits the 16-bit data-field length, and yields a valid PDU -/
theorem C06_nak_new (c : PduConfig) (wf : WFConf c) (s e : Int) (segs : List Nak.Seg)
    (hn : nakParamLen c.fileFlag c.crcFlag segs.length + 1 ≤ 65535) :
    ∃ k, Nak.new c s e segs = .ok k ∧ k.startOfScope = s ∧ k.endOfScope = e ∧ k.segs = segs ∧
      k.fd.header.conf = { c with direction := 1 } ∧
      (fits (fssWidth c.fileFlag) s → fits (fssWidth c.fileFlag) e → SegsFit (fssWidth c.fileFlag) segs → WFNak k) := by
  rw [Nak.new_eq c s e segs wf.2.1]
  have g : ¬ (c.source.width ≠ c.dest.width ∨ 65535 < nakParamLen c.fileFlag c.crcFlag segs.length + 1) := by
    have := wf.widths; omega
  rw [if_neg g]
  refine ⟨_, rfl, rfl, rfl, rfl, rfl, ?_⟩
  intro h1 h2 h3
  exact ⟨h1, h2, h3, wfBase_new c wf _ _ _ _ (by omega) (by omega) (nak_plen _ _ _)⟩

/-- more segment requests than the 16-bit data-field length can describe are refused (`ValueError`)
    by the constructor -/
theorem C06_nak_too_many (c : PduConfig) (hf : c.fileFlag < 2) (s e : Int) (segs : List Nak.Seg)
    (hn : 65535 < nakParamLen c.fileFlag c.crcFlag segs.length + 1) :
    Nak.new c s e segs = .error .value := by
  rw [Nak.new_eq c s e segs hf, if_pos (Or.inr hn)]

/-- **pack = standard layout**, for every valid NAK PDU (any number of segment requests, offsets
    over the full 32- / 64-bit range) in every header configuration -/
theorem C06_nak_pack_exact (k : Nak) (wf : WFNak k) : k.pack = .ok (Spec.nak k) := by
  obtain ⟨h1, h2, h3, w1, _, _, w4, _, _⟩ := wf
  unfold Nak.pack
  rw [← segW_eq k.fd] at h1 h2 h3
  rw [pack_spec k.fd w1 (by omega), packPair_ok _ _ _ h1 h2, packSegs_spec _ _ h3]
  simp only [bind, Except.bind, pure, Except.pure, Spec.nak, Spec.pdu, Spec.nakParams, specOctets, segW_eq,
    List.append_assoc]

/-- **an offset that does not fit the selected width — start or end of scope, or either offset of
    any segment request — makes `pack` fail, never truncate**: `ValueError` above 2^32 − 1 without
    the large-file flag; `struct.error` for negative values and above 2^64 − 1 with the flag -/
theorem C06_nak_fss_overflow (k : Nak) (wf : C05.WF k.fd.header) (hc : k.fd.code < 256)
    (h : ¬ fits (fssWidth k.fd.header.conf.fileFlag) k.startOfScope ∨
         ¬ fits (fssWidth k.fd.header.conf.fileFlag) k.endOfScope ∨
         ¬ SegsFit (fssWidth k.fd.header.conf.fileFlag) k.segs) :
    k.pack = .error .value ∨ k.pack = .error .struct := by
  unfold Nak.pack
  rw [pack_spec k.fd wf hc]
  rw [← segW_eq k.fd] at h
  by_cases hs : fits (segW k.fd.header.largeFileFlagSet) k.startOfScope ∧
      fits (segW k.fd.header.largeFileFlagSet) k.endOfScope
  · have h3 := (h.resolve_left (not_not_intro hs.1)).resolve_left (not_not_intro hs.2)
    rw [packPair_ok _ _ _ hs.1 hs.2]
    rcases packSegs_overflow _ _ h3 with e | e <;> simp [bind, Except.bind, e]
  · rcases packPair_overflow _ _ _ (Decidable.not_and_iff_not_or_not.mp hs) with e | e <;>
      simp [bind, Except.bind, e]

/-- **length clauses**: two FSS fields for the scope and two per segment request (+2 with CRC) -/
theorem C06_nak_len (k : Nak) (wf : WFNak k) :
    (Spec.nak k).length = k.packetLen ∧
    k.fd.header.dataFieldLen = (Spec.nak k).length - k.fd.header.headerLen ∧
    k.fd.header.dataFieldLen = k.packetLen - k.fd.header.headerLen ∧
    (Spec.nak k).length = k.fd.header.headerLen + 1
      + 2 * fssWidth k.fd.header.conf.fileFlag * (k.segs.length + 1) + crcLen k.fd.header.conf := by
  have := pdu_len k.fd 8 1 (Spec.nakParams k) wf.base
  rwa [nakParams_length] at this

theorem C06_nak_crc (k : Nak) :
    (k.fd.header.conf.crcFlag = 1 →
      Spec.nak k = (C05.Spec.octets k.fd.header ++ [u8 k.fd.code] ++ Spec.nakParams k)
        ++ Crc.crcTrailer (C05.Spec.octets k.fd.header ++ [u8 k.fd.code] ++ Spec.nakParams k) ∧
      Crc.crc16 (Spec.nak k) = 0) ∧
    (k.fd.header.conf.crcFlag ≠ 1 →
      Spec.nak k = C05.Spec.octets k.fd.header ++ [u8 k.fd.code] ++ Spec.nakParams k) :=
  pdu_crc k.fd (Spec.nakParams k)

/-- **parameter round trip**: the parser reads scope and segment requests back behind any `A` of the
    directive header's length, when the buffer is not longer than the PDU declares -/
theorem nak_parse_params (k : Nak) (wf : WFNak k) (A : Bytes) (hA : A.length = k.fd.headerLen) (n : Nat)
    (hn : n ≤ k.fd.packetLen) : Nak.parse n (k.fd, A ++ Spec.nakParams k) = .ok k := by
  obtain ⟨h1, h2, h3, wb⟩ := wf
  have hw := fssWidth_pos k.fd.header.conf.fileFlag
  have hpl := nakParams_length k
  have hsw := segW_eq k.fd
  have hdl : k.fd.header.dataFieldLen
      = nakParamLen k.fd.header.conf.fileFlag k.fd.header.conf.crcFlag k.segs.length + 1 := by
    rw [nak_plen]; exact wb.len
  have hP : Spec.nakParams k = beBytes _ k.startOfScope.toNat ++ beBytes _ k.endOfScope.toNat ++ specSegs _ k.segs := rfl
  have hscope : scopeOf k.fd (A ++ Spec.nakParams k) = (k.startOfScope, k.endOfScope) := by
    obtain ⟨r1, r2⟩ := slice_specPair _ _ _ h1 h2 A (specSegs _ k.segs)
    rw [hA] at r1 r2
    exact Prod.ext r1 r2
  generalize hwd : fssWidth k.fd.header.conf.fileFlag = w at *
  have hplen : (A ++ Spec.nakParams k).length = k.fd.headerLen + 2 * w + k.segs.length * (2 * w) := by
    rw [List.length_append, hA, hpl, Nat.mul_add, Nat.mul_comm k.segs.length]; omega
  rw [Nak.parse_eq, hwd, if_neg (by have := wb.2.2.2.1; omega), if_neg (by omega), if_neg (by omega), hscope]
  by_cases hs : k.segs = []
  · rw [if_pos (by rw [hplen, hs]; simp)]
    cases k; cases hs; rfl
  · have hpos : 0 < k.segs.length * (2 * w) := Nat.mul_pos (List.length_pos_iff.mpr hs) (by omega)
    have hd : (A ++ Spec.nakParams k).drop (k.fd.headerLen + 2 * w) = specSegs w k.segs := by
      rw [← hA, drop_after, hP]
      exact List.drop_left' (by simp; omega)
    have hps := parseSegs_spec k.fd.header.largeFileFlagSet k.segs (hsw ▸ h3)
    rw [hsw] at hps
    rw [if_neg (by omega), if_neg (by rw [hplen, Nat.add_sub_cancel_left, Nat.mul_mod_left]; omega), hd, hps, bind_ok, calcLen_eq k.fd _ wb.1.2.2.2.2.1, setParamLen_eq,
      if_neg (by have := wb.1.2.2.2.2.2.2.2.1; omega), ← hdl, fd_eta k.fd _ rfl]
    rfl

/-- **round trip**: decoding the packed PDU returns the identical PDU — same header, scope, and
    the same segment requests in the same order — for any number of requests and every configuration -/
theorem C06_nak_roundtrip (k : Nak) (wf : WFNak k) : Nak.unpack (Spec.nak k) = .ok k := by
  have hp := prelude_pdu (Nak.parse (Spec.pdu k.fd (Spec.nakParams k)).length) k.fd 8 1 (Spec.nakParams k) [] wf.base (by omega)
  rw [List.append_nil] at hp
  rw [Nak.unpack_eq, Spec.nak, hp]
  exact nak_parse_params k wf _ (specOctets_length k.fd wf.2.2.2.1) _ (Nat.le_of_eq (pdu_len k.fd 8 1 _ wf.base).1)

/-- **trailing octets are refused** (by design, `ValueError`): a NAK PDU followed by anything is not
    decoded — in particular further octets are never folded into segment requests -/
theorem C06_nak_trailing_refused (k : Nak) (wf : WFNak k) (rest : Bytes) (hr : rest ≠ []) :
    Nak.unpack (Spec.nak k ++ rest) = .error .value := by
  have hl : (Spec.pdu k.fd (Spec.nakParams k) ++ rest).length > k.fd.packetLen := by
    have := (pdu_len k.fd 8 1 _ wf.base).1
    have : 0 < rest.length := List.length_pos_iff.mpr hr
    rw [List.length_append]; omega
  rw [Nak.unpack_eq, Spec.nak, prelude_pdu _ k.fd 8 1 _ rest wf.base (by omega), Nak.parse_eq,
    if_neg (by have := wf.2.2.2.2.2.2.1; omega), if_pos hl]

theorem C06_nak_eq_repack (k : Nak) (wf : WFNak k) :
    ∃ k', (k.pack >>= fun b => Nak.unpack b) = .ok k' ∧ k' = k ∧
      k.beq k' = true ∧ k'.beq k = true ∧ k'.pack = k.pack :=
  eq_repack_of (C06_nak_pack_exact k wf) (C06_nak_roundtrip k wf) (by simp [Nak.beq, beq_refl])

/-- **the `segment_requests` setter keeps the length consistent**: afterwards the PDU is the one a
    fresh constructor call with the new list gives (or both are refused as too long) -/
theorem C06_nak_set_segs (c : PduConfig) (hf : c.fileFlag < 2) (s e : Int) (l l' : List Nak.Seg)
    (hn : nakParamLen c.fileFlag c.crcFlag l.length + 1 ≤ 65535) :
    (Nak.new c s e l >>= fun k => k.setSegs l') = Nak.new c s e l' := by
  rw [Nak.new_eq c s e l hf, Nak.new_eq c s e l' hf]
  by_cases g : c.source.width ≠ c.dest.width
  · rw [if_pos (Or.inl g), if_pos (Or.inl g)]; rfl
  · rw [if_neg (by omega), bind_ok, Nak.setSegs_eq _ _ hf]
    simp only [g, false_or]

/-- **the `file_flag` setter keeps the length consistent**: afterwards the PDU is the one a fresh
    constructor call with the new flag gives -/
theorem C06_nak_set_file_flag (c : PduConfig) (hf : c.fileFlag < 2) (s e : Int) (l : List Nak.Seg) (f : Nat)
    (hf' : f < 2) (hn : nakParamLen c.fileFlag c.crcFlag l.length + 1 ≤ 65535) :
    (Nak.new c s e l >>= fun k => k.setFileFlag f) = Nak.new { c with fileFlag := f } s e l := by
  rw [Nak.new_eq c s e l hf, Nak.new_eq { c with fileFlag := f } s e l hf']
  by_cases g : c.source.width ≠ c.dest.width
  · rw [if_pos (Or.inl g), if_pos (Or.inl g)]; rfl
  · rw [if_neg (by omega), bind_ok, Nak.setFileFlag_eq _ _ hf']
    simp only [g, false_or]

/-- packed length of a NAK PDU with `n` segment requests in configuration `c` -/
def nakPacketLen (c : PduConfig) (n : Nat) : Nat :=
  c.headerLen + 1 + 2 * fssWidth c.fileFlag * (n + 1) + crcLen c

/-- **`get_max_seg_reqs_for_max_packet_size_and_pdu_cfg`**: refused (`ValueError`) when not even
    the PDU without segment requests fits; otherwise the result `n` is the largest number of
    segment requests whose PDU stays within the maximum: `len(n) ≤ max < len(n + 1)` -/
theorem C06_nak_max_seg_reqs (c : PduConfig) (hf : c.fileFlag < 2) (hc : c.crcFlag < 2) (m : Int) :
    (m < (nakPacketLen c 0 : Nat) → maxSegReqs m c = .error .value) ∧
    ((nakPacketLen c 0 : Nat) ≤ m →
      ∃ n, maxSegReqs m c = .ok n ∧ (nakPacketLen c n : Nat) ≤ m ∧ m < (nakPacketLen c (n + 1) : Nat)) := by
  have hbase : c.headerLen + 1 + (if c.crcFlag ≠ 0 then 2 else 0)
      + (if c.fileFlag = 0 then 8 else if c.fileFlag = 1 then 16 else 0) = nakPacketLen c 0 := by
    unfold nakPacketLen crcLen fssWidth
    have : c.fileFlag = 0 ∨ c.fileFlag = 1 := by omega
    have : c.crcFlag = 0 ∨ c.crcFlag = 1 := by omega
    rcases ‹c.fileFlag = 0 ∨ c.fileFlag = 1› with h | h <;> rcases ‹c.crcFlag = 0 ∨ c.crcFlag = 1› with h' | h' <;>
      simp [h, h']
  unfold maxSegReqs
  rw [hbase]
  have hstep : ∀ n, nakPacketLen c n = nakPacketLen c 0 + n * (2 * fssWidth c.fileFlag) := by
    intro n
    unfold nakPacketLen
    rw [Nat.mul_add, Nat.mul_comm n]; omega
  constructor
  · intro h
    simp [h, bind, Except.bind, throw, throwThe, MonadExceptOf.throw]
  · intro h
    have g : ¬ m < (nakPacketLen c 0 : Nat) := by omega
    obtain ⟨r, hr⟩ : ∃ r : Nat, m - (nakPacketLen c 0 : Nat) = r := ⟨(m - (nakPacketLen c 0 : Nat)).toNat, by omega⟩
    have hm : m = (nakPacketLen c 0 : Nat) + (r : Int) := by omega
    have : c.fileFlag = 0 ∨ c.fileFlag = 1 := by omega
    rcases this with h0 | h1
    · have hw : fssWidth c.fileFlag = 4 := by simp [fssWidth, h0]
      refine ⟨r / 8, by simp [g, h0, hr, pure, Except.pure], ?_, ?_⟩ <;> (rw [hstep, hw, hm]; push_cast; omega)
    · have hw : fssWidth c.fileFlag = 8 := by simp [fssWidth, h1]
      refine ⟨r / 16, by simp [g, h1, hr, pure, Except.pure], ?_, ?_⟩ <;> (rw [hstep, hw, hm]; push_cast; omega)

/-- the decoder fails, for any octet string whatever, only with `ValueError`,
    `UnsupportedCfdpVersion` or `InvalidCrc` — never with `struct.error` -/
theorem C06_nak_documented (d : Bytes) : Documented (Nak.unpack d) := Nak.unpack_documented d

/-- what acceptance means: the buffer is *exactly* the declared PDU, the directive code is NAK, the
    CRC-16 over it is zero when the flag is set, the data-field length matches the number of decoded
    segment requests, and every decoded offset fits the selected width -/
theorem C06_nak_accept_sound (d : Bytes) (k : Nak) (h : Nak.unpack d = .ok k) :
    d.length = k.packetLen ∧ k.fd.code = 8 ∧ (k.fd.header.conf.crcFlag = 1 → Crc.crc16 d = 0) ∧
    k.fd.header.dataFieldLen
      = nakParamLen k.fd.header.conf.fileFlag k.fd.header.conf.crcFlag k.segs.length + 1 ∧
    SegsFit (fssWidth k.fd.header.conf.fileFlag) k.segs := by
  obtain ⟨_, _, h3, h4, h5, h6, h7⟩ := Nak.unpack_inv d k h
  exact ⟨h3, h4, h5, h6, h7⟩

theorem C06_nak_truncated (x : Nak) (wf : WFNak x) (k : Nat) (hk : k < (Spec.nak x).length) :
    Nak.unpack ((Spec.nak x).take k) = .error .value := by
  rw [Nak.unpack_eq]
  exact pdu_truncated _ x.fd _ _ _ wf.base k hk

-- non-vacuity: two segment requests, 64-bit offsets with every octet different, CRC, 2-octet IDs
private def exNak : Nak :=
  ⟨⟨⟨0, 0, 51, ⟨⟨2, 0x0102⟩, ⟨2, 0x0304⟩, ⟨1, 9⟩, 0, 1, 1, 1, 0⟩⟩, 8⟩, 0x0102030405060708, 0xFFFFFFFFFFFFFFFF,
    [(0, 0), (0x1112131415161718, 0x2122232425262728)]⟩
example : WFNak exNak := by decide
example : Nak.new ⟨⟨2, 0x0102⟩, ⟨2, 0x0304⟩, ⟨1, 9⟩, 0, 1, 1, 0, 0⟩ 0x0102030405060708 0xFFFFFFFFFFFFFFFF
    [(0, 0), (0x1112131415161718, 0x2122232425262728)] = .ok exNak := by rfl
example : C05.Spec.octets exNak.fd.header ++ [u8 exNak.fd.code] ++ Spec.nakParams exNak
    = [0x2B, 0, 51, 0x10, 1, 2, 9, 3, 4, 8,
       1, 2, 3, 4, 5, 6, 7, 8, 0xFF, 0xFF, 0xFF, 0xFF, 0xFF, 0xFF, 0xFF, 0xFF,
       0, 0, 0, 0, 0, 0, 0, 0, 0, 0, 0, 0, 0, 0, 0, 0,
       0x11, 0x12, 0x13, 0x14, 0x15, 0x16, 0x17, 0x18, 0x21, 0x22, 0x23, 0x24, 0x25, 0x26, 0x27, 0x28] := by decide
example : WFNak ⟨⟨⟨0, 0, 9, ⟨⟨1, 0⟩, ⟨1, 0⟩, ⟨1, 0⟩, 0, 0, 0, 1, 0⟩⟩, 8⟩, 0, 4294967295, []⟩ := by decide
example : ¬ fits 4 4294967296 := by decide
example : ¬ fits 8 (-1) := by decide

/-- **the Ack encoding is injective on the domain**: two valid PDUs with the same octets are the same
    PDU (corollary of `C06_ack_roundtrip`) -/
theorem C06_ack_pack_injective (a b : Ack) (wa : WFAck a) (wb : WFAck b)
    (h : Spec.ack a = Spec.ack b) : a = b :=
  ok_unique (C06_ack_roundtrip a wa []) (C06_ack_roundtrip b wb []) (congrArg (· ++ []) h)

/-- the same for the library's `pack()`, as an iff: valid Ack PDUs are equal exactly when they pack to
    the same octets -/
theorem C06_ack_pack_eq_iff (a b : Ack) (wa : WFAck a) (wb : WFAck b) : a.pack = b.pack ↔ a = b :=
  pack_eq_iff_of (C06_ack_pack_exact a wa) (C06_ack_pack_exact b wb) (C06_ack_pack_injective a b wa wb)

-- non-vacuity: two distinct valid Ack PDUs (they differ in the transaction status only) with different octets
example : WFAck exAck ∧ WFAck { exAck with status := 3 } ∧ Spec.ack exAck ≠ Spec.ack { exAck with status := 3 } := by
  have w1 : WFAck exAck := by decide
  have w2 : WFAck { exAck with status := 3 } := by decide
  exact ⟨w1, w2, fun h => absurd (C06_ack_pack_injective _ _ w1 w2 h) (by decide)⟩

theorem C06_prompt_pack_injective (a b : Prompt) (wa : WFPrompt a) (wb : WFPrompt b)
    (h : Spec.prompt a = Spec.prompt b) : a = b :=
  ok_unique (C06_prompt_roundtrip a wa []) (C06_prompt_roundtrip b wb []) (congrArg (· ++ []) h)

theorem C06_prompt_pack_eq_iff (a b : Prompt) (wa : WFPrompt a) (wb : WFPrompt b) : a.pack = b.pack ↔ a = b :=
  pack_eq_iff_of (C06_prompt_pack_exact a wa) (C06_prompt_pack_exact b wb) (C06_prompt_pack_injective a b wa wb)

-- non-vacuity: two distinct valid Prompt PDUs (they differ in the response-required bit only) with different octets
example : WFPrompt exPrompt ∧ WFPrompt { exPrompt with respReq := 0 } ∧ Spec.prompt exPrompt ≠ Spec.prompt { exPrompt with respReq := 0 } := by
  have w1 : WFPrompt exPrompt := by decide
  have w2 : WFPrompt { exPrompt with respReq := 0 } := by decide
  exact ⟨w1, w2, fun h => absurd (C06_prompt_pack_injective _ _ w1 w2 h) (by decide)⟩

theorem C06_keepalive_pack_injective (a b : KeepAlive) (wa : WFKeepAlive a) (wb : WFKeepAlive b)
    (h : Spec.keepAlive a = Spec.keepAlive b) : a = b :=
  ok_unique (C06_keepalive_roundtrip a wa []) (C06_keepalive_roundtrip b wb []) (congrArg (· ++ []) h)

theorem C06_keepalive_pack_eq_iff (a b : KeepAlive) (wa : WFKeepAlive a) (wb : WFKeepAlive b) : a.pack = b.pack ↔ a = b :=
  pack_eq_iff_of (C06_keepalive_pack_exact a wa) (C06_keepalive_pack_exact b wb) (C06_keepalive_pack_injective a b wa wb)

-- non-vacuity: two distinct valid Keep Alive PDUs (they differ in the last progress octet only) with different octets
example : WFKeepAlive exKa ∧ WFKeepAlive { exKa with progress := 0x0102030405060709 } ∧ Spec.keepAlive exKa ≠ Spec.keepAlive { exKa with progress := 0x0102030405060709 } := by
  have w1 : WFKeepAlive exKa := by decide
  have w2 : WFKeepAlive { exKa with progress := 0x0102030405060709 } := by decide
  exact ⟨w1, w2, fun h => absurd (C06_keepalive_pack_injective _ _ w1 w2 h) (by decide)⟩

theorem C06_nak_pack_injective (a b : Nak) (wa : WFNak a) (wb : WFNak b)
    (h : Spec.nak a = Spec.nak b) : a = b :=
  ok_unique (C06_nak_roundtrip a wa) (C06_nak_roundtrip b wb) h

theorem C06_nak_pack_eq_iff (a b : Nak) (wa : WFNak a) (wb : WFNak b) : a.pack = b.pack ↔ a = b :=
  pack_eq_iff_of (C06_nak_pack_exact a wa) (C06_nak_pack_exact b wb) (C06_nak_pack_injective a b wa wb)

-- non-vacuity: two distinct valid Nak PDUs (they differ in the last octet of the last segment request only) with different octets
example : WFNak exNak ∧ WFNak { exNak with segs := [(0, 0), (0x1112131415161718, 0x2122232425262729)] } ∧ Spec.nak exNak ≠ Spec.nak { exNak with segs := [(0, 0), (0x1112131415161718, 0x2122232425262729)] } := by
  have w1 : WFNak exNak := by decide
  have w2 : WFNak { exNak with segs := [(0, 0), (0x1112131415161718, 0x2122232425262729)] } := by decide
  exact ⟨w1, w2, fun h => absurd (C06_nak_pack_injective _ _ w1 w2 h) (by decide)⟩

end SpVerif.Props.C06Fixed
