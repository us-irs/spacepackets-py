import SpVerif.Props.C04
import SpVerif.Props.C12
import SpVerif.Proofs.CfdpPduFront
/-!
# C04, CFDP clause, for each of the eight real PDU decoders and for the factory

`Props/C04.lean` proves the CFDP clause for the part every PDU decoder runs first (`CfdpFront.pduFront`,
`directiveFront`) and for the common tail of every `pack()`. Here the same is stated for the per-PDU models
(`Model/Ack|Prompt|KeepAlive|Nak|Eof|Finished|Metadata|FileData.lean`, `Model/Factory.lean`): each real decoder
is "front, then body" (`RunsFirst fr dec`: whenever the front fails, the decoder fails with the same error), each
`pack()` ends with the CRC tail for ANY field values (the state after arbitrary setters), and per kind
K ∈ {ack, prompt, keepalive, nak, eof, finished, metadata, filedata} acceptance implies CRC and bursts on packed
PDUs are rejected. `C04_any_*` state the same uniformly over `Factory.AnyPdu` / `decoderOf`; `C04_factory_*`
through `PduFactory.from_raw`, which reads the directive octet before any decoder runs: a burst on that octet can
make it answer `ValueError` (no such directive) or `None` (`DirectiveType.NONE`) instead of `InvalidCrc` — never
a PDU object.
-/
namespace SpVerif.Props.C04Pdu
open SpVerif SpVerif.Crc SpVerif.CfdpHeader SpVerif.CfdpFront SpVerif.CfdpCrc SpVerif.FileDirective
open SpVerif.Factory
open SpVerif.Props.C04 (Pattern)

/-- `InvalidCrc` (the error every rejection theorem below names) is a documented error -/
theorem C04_crc_error_documented : Err.crc.documented = true := rfl

private theorem ack_runs : RunsFirst directiveFront Ack.Ack.unpack :=
  runsFirst_of_eq (fun _ => Ack.parse) Ack.unpack_eq
private theorem prompt_runs : RunsFirst directiveFront Prompt.Prompt.unpack :=
  runsFirst_of_eq (fun _ => Prompt.parse) Prompt.unpack_eq
private theorem keepalive_runs : RunsFirst directiveFront KeepAlive.KeepAlive.unpack :=
  runsFirst_of_eq (fun _ => KeepAlive.parse) KeepAlive.unpack_eq
private theorem nak_runs : RunsFirst directiveFront Nak.Nak.unpack :=
  runsFirst_of_eq (fun d => Nak.parse d.length) Nak.unpack_eq
private theorem eof_runs : RunsFirst directiveFront Eof.Eof.unpack :=
  runsFirst_of_eq (fun _ => Eof.parse) Eof.unpack_eq
private theorem finished_runs : RunsFirst directiveFront Finished.Finished.unpack :=
  runsFirst_of_eq (fun _ => Finished.parse) Finished.unpack_eq
private theorem metadata_runs : RunsFirst directiveFront Metadata.Metadata.unpack :=
  runsFirst_of_eq (fun _ => Metadata.parse) Metadata.unpack_eq

/-- **the common prelude of the seven directive decoders is the directive front** of `Props/C04.lean`
    (`FileDirectivePduBase.unpack`, `verify_length_and_checksum`) followed by the cut to
    `end_of_params`: same guards, same order, same errors -/
theorem C04_directive_prelude_is_front (d : Bytes) :
    prelude d = directiveFront d >>= fun r =>
      pure ((⟨r.1, r.2⟩ : FileDirective), d.take (FileDirective.paramsEnd ⟨r.1, r.2⟩)) :=
  prelude_eq_front d

/-- **each of the seven directive decoders is "directive front, then body"**: whenever the front
    fails, the decoder fails with the very same error — it accepts only what the front accepts -/
theorem C04_directive_decoders_run_front :
    RunsFirst directiveFront Ack.Ack.unpack ∧ RunsFirst directiveFront Prompt.Prompt.unpack ∧
    RunsFirst directiveFront KeepAlive.KeepAlive.unpack ∧ RunsFirst directiveFront Nak.Nak.unpack ∧
    RunsFirst directiveFront Eof.Eof.unpack ∧ RunsFirst directiveFront Finished.Finished.unpack ∧
    RunsFirst directiveFront Metadata.Metadata.unpack :=
  ⟨ack_runs, prompt_runs, keepalive_runs, nak_runs, eof_runs, finished_runs, metadata_runs⟩

/-- **`FileDataPdu.unpack` is "front, then body"** -/
theorem C04_filedata_decoder_runs_front : RunsFirst pduFront FileData.Pdu.unpack := runsFirst_fileData

/-- the same for the factory's table of decoders, kind by kind -/
theorem C04_factory_decoders_run_front (k : Kind) :
    (k = .fileData → RunsFirst pduFront (decoderOf k)) ∧
    (k ≠ .fileData → RunsFirst directiveFront (decoderOf k)) := decoderOf_runsFirst k

/-- what "runs the front first" means for acceptance: a returned object implies the front returned -/
theorem C04_runs_first_accept {α β : Type} (fr : Bytes → Py β) (dec : Bytes → Py α) (hr : RunsFirst fr dec)
    (d : Bytes) (r : α) (h : dec d = .ok r) : ∃ b, fr d = .ok b := hr.accept h

theorem C04_ack_pack_always_valid (a : Ack.Ack) (raw : Bytes) (h : a.pack = .ok raw)
    (hc : a.fd.header.conf.crcFlag = 1) : (∃ body, raw = body ++ crcTrailer body) ∧ crc16 raw = 0 := by
  have : EndsCrc 1 a.pack := by
    unfold Ack.Ack.pack; rw [hc]
    exact .bind fun _ => .bind fun _ => .bind fun _ => .pure _ _
  exact this.valid h

theorem C04_prompt_pack_always_valid (a : Prompt.Prompt) (raw : Bytes) (h : a.pack = .ok raw)
    (hc : a.fd.header.conf.crcFlag = 1) : (∃ body, raw = body ++ crcTrailer body) ∧ crc16 raw = 0 := by
  have : EndsCrc 1 a.pack := by
    unfold Prompt.Prompt.pack; rw [hc]
    exact .bind fun _ => .bind fun _ => .pure _ _
  exact this.valid h

theorem C04_keepalive_pack_always_valid (a : KeepAlive.KeepAlive) (raw : Bytes) (h : a.pack = .ok raw)
    (hc : a.fd.header.conf.crcFlag = 1) : (∃ body, raw = body ++ crcTrailer body) ∧ crc16 raw = 0 := by
  have : EndsCrc 1 a.pack := by
    unfold KeepAlive.KeepAlive.pack; rw [hc]
    exact .bind fun _ => .ite (.ite (.bind fun _ => .bind fun _ => .pure _ _) (.bind fun _ => .pure _ _))
      (.bind fun _ => .pure _ _)
  exact this.valid h

theorem C04_nak_pack_always_valid (a : Nak.Nak) (raw : Bytes) (h : a.pack = .ok raw)
    (hc : a.fd.header.conf.crcFlag = 1) : (∃ body, raw = body ++ crcTrailer body) ∧ crc16 raw = 0 := by
  have : EndsCrc 1 a.pack := by
    unfold Nak.Nak.pack; rw [hc]
    exact .bind fun _ => .bind fun _ => .bind fun _ => .pure _ _
  exact this.valid h

theorem C04_eof_pack_always_valid (a : Eof.Eof) (raw : Bytes) (h : a.pack = .ok raw)
    (hc : a.fd.header.conf.crcFlag = 1) : (∃ body, raw = body ++ crcTrailer body) ∧ crc16 raw = 0 := by
  have : EndsCrc 1 a.pack := by
    unfold Eof.Eof.pack; rw [hc]
    exact .bind fun _ => .bind fun _ => .bind fun _ => .bind fun _ => .pure _ _
  exact this.valid h

theorem C04_finished_pack_always_valid (a : Finished.Finished) (raw : Bytes) (h : a.pack = .ok raw)
    (hc : a.fd.header.conf.crcFlag = 1) : (∃ body, raw = body ++ crcTrailer body) ∧ crc16 raw = 0 := by
  have : EndsCrc 1 a.pack := by
    unfold Finished.Finished.pack; rw [hc]
    exact .bind fun _ => .ite (.bind fun _ => .bind fun _ => .bind fun _ => .bind fun _ => .pure _ _)
      (.bind fun _ => .bind fun _ => .bind fun _ => .pure _ _)
  exact this.valid h

theorem C04_metadata_pack_always_valid (a : Metadata.Metadata) (raw : Bytes) (h : a.pack = .ok raw)
    (hc : a.fd.header.conf.crcFlag = 1) : (∃ body, raw = body ++ crcTrailer body) ∧ crc16 raw = 0 := by
  have : EndsCrc 1 a.pack := by
    unfold Metadata.Metadata.pack; rw [hc]
    exact .bind fun _ => .bind fun _ => .bind fun _ => .bind fun _ => .bind fun _ => .bind fun _ =>
      .bind fun _ => .pure _ _
  exact this.valid h

theorem C04_filedata_pack_always_valid (x : FileData.Pdu) (raw : Bytes) (h : x.pack = .ok raw)
    (hc : x.header.conf.crcFlag = 1) :
    (∃ body, x.packBody = .ok body ∧ raw = body ++ crcTrailer body) ∧ crc16 raw = 0 := by
  unfold FileData.Pdu.pack at h
  obtain ⟨body, hb, h⟩ := bind_ok_inv h
  rw [if_pos hc] at h
  cases h
  exact ⟨⟨body, hb, rfl⟩, crc16_residue body⟩

/-! ## Per kind K ∈ {ack, prompt, keepalive, eof, finished, metadata, nak, filedata}

Domains are the owners' well-formedness predicates (`C06Fixed.WFAck`, … `C07.WF`) plus "CRC flag set".
`cfdpDeclaredLen`, `cfdpCrcFlag` read octets 0–3 only (`C04.C04_cfdp_declared_len_octets_0_3`).

* `C04_<K>_valid_passes` — every valid CRC-flagged PDU packs, the packed octets have residue zero and exactly
  `packet_len` octets — the length octets 1–3 declare —, and the decoder accepts them, whatever follows in the
  buffer (NAK: alone, its decoder refuses trailing octets by design; Metadata comes back as `normMd`);
* `C04_<K>_accept_implies_crc` — the decoder returns on a buffer with the CRC flag in octet 0 only if the
  declared PDU lies inside the buffer and has residue zero;
* `C04_<K>_burst_rejected_of_accepted` — ANY buffer the decoder accepts, any admissible burst inside the declared
  PDU outside octets 0–3: `InvalidCrc`, never an object;
* `C04_<K>_burst_rejected` — the same for `flipBurst` on every packed valid PDU followed by any `rest`. -/

private theorem starts_of_crc {S O c P T : Bytes} (h : S = (O ++ c ++ P) ++ T) : ∃ A, S = O ++ A :=
  ⟨c ++ (P ++ T), by rw [h]; simp only [List.append_assoc]⟩

/-- from `C04_<K>_valid_passes` (`hv`) and `C04_<K>_burst_rejected_of_accepted` (`hrej`) to `C04_<K>_burst_rejected`:
    the packed PDU is accepted and declares its own length, so `flipBurst` inside it is a burst inside the declared PDU -/
private theorem packed_reject {α : Type} {dec : Bytes → Py α} {pk : Py Bytes} {a : α} {L : Nat} {p rest : Bytes}
    {k : Nat} {B : List Bool}
    (hv : ∃ p, pk = .ok p ∧ crc16 p = 0 ∧ p.length = L ∧ dec (p ++ rest) = .ok a ∧
      cfdpDeclaredLen (p ++ rest) = p.length ∧ cfdpCrcFlag (p ++ rest) = 1)
    (hpk : pk = .ok p)
    (hrej : ∀ {d d' : Bytes} {r : α}, dec d = .ok r → cfdpCrcFlag d = 1 → Burst d d' k B →
      k + B.length ≤ 8 * cfdpDeclaredLen d →
      dec d' = .error .crc ∧ cfdpDeclaredLen d' = cfdpDeclaredLen d ∧ cfdpCrcFlag d' = 1 ∧
        crc16 (d'.take (cfdpDeclaredLen d')) ≠ 0)
    (hin : k + B.length ≤ 8 * p.length) :
    dec (flipBurst (p ++ rest) k B) = .error .crc ∧ crc16 ((flipBurst (p ++ rest) k B).take p.length) ≠ 0 := by
  obtain ⟨p0, hp0, _, _, hacc, hdl, hcf⟩ := hv
  cases Except.ok.inj (hp0.symm.trans hpk)
  obtain ⟨h1, h2, _, h4⟩ := hrej hacc hcf (flip_packed p rest k B hin) (hdl ▸ hin)
  rw [h2, hdl] at h4
  exact ⟨h1, h4⟩

theorem C04_ack_valid_passes (a : Ack.Ack) (wf : C06Fixed.WFAck a) (hc : a.fd.header.conf.crcFlag = 1) (rest : Bytes) :
    ∃ p, a.pack = .ok p ∧ crc16 p = 0 ∧ p.length = a.packetLen ∧ Ack.Ack.unpack (p ++ rest) = .ok a ∧
      cfdpDeclaredLen (p ++ rest) = p.length ∧ cfdpCrcFlag (p ++ rest) = 1 :=
  have hs := (C06Fixed.C06_ack_crc a).1 hc
  have hl := (C06Fixed.C06_ack_len a wf).1
  ⟨_, C06Fixed.C06_ack_pack_exact a wf, hs.2, hl, C06Fixed.C06_ack_roundtrip a wf rest,
    laid_out _ a.fd.header wf.2.2.2.2.2.1 (starts_of_crc hs.1) hl hc rest⟩

theorem C04_ack_accept_implies_crc (d : Bytes) (a : Ack.Ack) (h : Ack.Ack.unpack d = .ok a)
    (hc : cfdpCrcFlag d = 1) :
    cfdpDeclaredLen d ≤ d.length ∧ crc16 (d.take (cfdpDeclaredLen d)) = 0 :=
  ack_runs.directive_accept_crc h hc

theorem C04_ack_burst_rejected_of_accepted (d d' : Bytes) (a : Ack.Ack) (k : Nat) (B : List Bool)
    (hacc : Ack.Ack.unpack d = .ok a) (hc : cfdpCrcFlag d = 1) (hb : Burst d d' k B) (hp : Pattern B)
    (hin : k + B.length ≤ 8 * cfdpDeclaredLen d) (hav : AvoidsFixedHeader k) :
    Ack.Ack.unpack d' = .error .crc ∧ cfdpDeclaredLen d' = cfdpDeclaredLen d ∧ cfdpCrcFlag d' = 1 ∧
    crc16 (d'.take (cfdpDeclaredLen d')) ≠ 0 :=
  ack_runs.directive_reject hacc hc hb hp.1 hp.2 hin hav

theorem C04_ack_burst_rejected (a : Ack.Ack) (wf : C06Fixed.WFAck a) (hc : a.fd.header.conf.crcFlag = 1)
    (p rest : Bytes) (k : Nat) (B : List Bool) (hpk : a.pack = .ok p) (hp : Pattern B)
    (hin : k + B.length ≤ 8 * p.length) (hav : AvoidsFixedHeader k) :
    Ack.Ack.unpack (flipBurst (p ++ rest) k B) = .error .crc ∧
    crc16 ((flipBurst (p ++ rest) k B).take p.length) ≠ 0 :=
  packed_reject (C04_ack_valid_passes a wf hc rest) hpk
    (fun hacc hcf hb hi => C04_ack_burst_rejected_of_accepted _ _ _ k B hacc hcf hb hp hi hav) hin

theorem C04_prompt_valid_passes (a : Prompt.Prompt) (wf : C06Fixed.WFPrompt a) (hc : a.fd.header.conf.crcFlag = 1) (rest : Bytes) :
    ∃ p, a.pack = .ok p ∧ crc16 p = 0 ∧ p.length = a.packetLen ∧ Prompt.Prompt.unpack (p ++ rest) = .ok a ∧
      cfdpDeclaredLen (p ++ rest) = p.length ∧ cfdpCrcFlag (p ++ rest) = 1 :=
  have hs := (C06Fixed.C06_prompt_crc a).1 hc
  have hl := (C06Fixed.C06_prompt_len a wf).1
  ⟨_, C06Fixed.C06_prompt_pack_exact a wf, hs.2, hl, C06Fixed.C06_prompt_roundtrip a wf rest,
    laid_out _ a.fd.header wf.2.1 (starts_of_crc hs.1) hl hc rest⟩

theorem C04_prompt_accept_implies_crc (d : Bytes) (a : Prompt.Prompt) (h : Prompt.Prompt.unpack d = .ok a)
    (hc : cfdpCrcFlag d = 1) :
    cfdpDeclaredLen d ≤ d.length ∧ crc16 (d.take (cfdpDeclaredLen d)) = 0 :=
  prompt_runs.directive_accept_crc h hc

theorem C04_prompt_burst_rejected_of_accepted (d d' : Bytes) (a : Prompt.Prompt) (k : Nat) (B : List Bool)
    (hacc : Prompt.Prompt.unpack d = .ok a) (hc : cfdpCrcFlag d = 1) (hb : Burst d d' k B) (hp : Pattern B)
    (hin : k + B.length ≤ 8 * cfdpDeclaredLen d) (hav : AvoidsFixedHeader k) :
    Prompt.Prompt.unpack d' = .error .crc ∧ cfdpDeclaredLen d' = cfdpDeclaredLen d ∧ cfdpCrcFlag d' = 1 ∧
    crc16 (d'.take (cfdpDeclaredLen d')) ≠ 0 :=
  prompt_runs.directive_reject hacc hc hb hp.1 hp.2 hin hav

theorem C04_prompt_burst_rejected (a : Prompt.Prompt) (wf : C06Fixed.WFPrompt a) (hc : a.fd.header.conf.crcFlag = 1)
    (p rest : Bytes) (k : Nat) (B : List Bool) (hpk : a.pack = .ok p) (hp : Pattern B)
    (hin : k + B.length ≤ 8 * p.length) (hav : AvoidsFixedHeader k) :
    Prompt.Prompt.unpack (flipBurst (p ++ rest) k B) = .error .crc ∧
    crc16 ((flipBurst (p ++ rest) k B).take p.length) ≠ 0 :=
  packed_reject (C04_prompt_valid_passes a wf hc rest) hpk
    (fun hacc hcf hb hi => C04_prompt_burst_rejected_of_accepted _ _ _ k B hacc hcf hb hp hi hav) hin

theorem C04_keepalive_valid_passes (a : KeepAlive.KeepAlive) (wf : C06Fixed.WFKeepAlive a) (hc : a.fd.header.conf.crcFlag = 1) (rest : Bytes) :
    ∃ p, a.pack = .ok p ∧ crc16 p = 0 ∧ p.length = a.packetLen ∧ KeepAlive.KeepAlive.unpack (p ++ rest) = .ok a ∧
      cfdpDeclaredLen (p ++ rest) = p.length ∧ cfdpCrcFlag (p ++ rest) = 1 :=
  have hs := (C06Fixed.C06_keepalive_crc a).1 hc
  have hl := (C06Fixed.C06_keepalive_len a wf).1
  ⟨_, C06Fixed.C06_keepalive_pack_exact a wf, hs.2, hl, C06Fixed.C06_keepalive_roundtrip a wf rest,
    laid_out _ a.fd.header wf.2.2.1 (starts_of_crc hs.1) hl hc rest⟩

theorem C04_keepalive_accept_implies_crc (d : Bytes) (a : KeepAlive.KeepAlive) (h : KeepAlive.KeepAlive.unpack d = .ok a)
    (hc : cfdpCrcFlag d = 1) :
    cfdpDeclaredLen d ≤ d.length ∧ crc16 (d.take (cfdpDeclaredLen d)) = 0 :=
  keepalive_runs.directive_accept_crc h hc

theorem C04_keepalive_burst_rejected_of_accepted (d d' : Bytes) (a : KeepAlive.KeepAlive) (k : Nat) (B : List Bool)
    (hacc : KeepAlive.KeepAlive.unpack d = .ok a) (hc : cfdpCrcFlag d = 1) (hb : Burst d d' k B) (hp : Pattern B)
    (hin : k + B.length ≤ 8 * cfdpDeclaredLen d) (hav : AvoidsFixedHeader k) :
    KeepAlive.KeepAlive.unpack d' = .error .crc ∧ cfdpDeclaredLen d' = cfdpDeclaredLen d ∧ cfdpCrcFlag d' = 1 ∧
    crc16 (d'.take (cfdpDeclaredLen d')) ≠ 0 :=
  keepalive_runs.directive_reject hacc hc hb hp.1 hp.2 hin hav

theorem C04_keepalive_burst_rejected (a : KeepAlive.KeepAlive) (wf : C06Fixed.WFKeepAlive a) (hc : a.fd.header.conf.crcFlag = 1)
    (p rest : Bytes) (k : Nat) (B : List Bool) (hpk : a.pack = .ok p) (hp : Pattern B)
    (hin : k + B.length ≤ 8 * p.length) (hav : AvoidsFixedHeader k) :
    KeepAlive.KeepAlive.unpack (flipBurst (p ++ rest) k B) = .error .crc ∧
    crc16 ((flipBurst (p ++ rest) k B).take p.length) ≠ 0 :=
  packed_reject (C04_keepalive_valid_passes a wf hc rest) hpk
    (fun hacc hcf hb hi => C04_keepalive_burst_rejected_of_accepted _ _ _ k B hacc hcf hb hp hi hav) hin

theorem C04_eof_valid_passes (a : Eof.Eof) (wf : C06Var.WFEof a) (hc : a.fd.header.conf.crcFlag = 1) (rest : Bytes) :
    ∃ p, a.pack = .ok p ∧ crc16 p = 0 ∧ p.length = a.packetLen ∧ Eof.Eof.unpack (p ++ rest) = .ok a ∧
      cfdpDeclaredLen (p ++ rest) = p.length ∧ cfdpCrcFlag (p ++ rest) = 1 :=
  have hs := (C06Var.C06_eof_crc a).1 hc
  have hl := (C06Var.C06_eof_len a wf).1
  ⟨_, C06Var.C06_eof_pack_exact a wf, hs.2, hl, C06Var.C06_eof_roundtrip a wf rest,
    laid_out _ a.fd.header wf.2.2.2.2.2.1 (starts_of_crc hs.1) hl hc rest⟩

theorem C04_eof_accept_implies_crc (d : Bytes) (a : Eof.Eof) (h : Eof.Eof.unpack d = .ok a)
    (hc : cfdpCrcFlag d = 1) :
    cfdpDeclaredLen d ≤ d.length ∧ crc16 (d.take (cfdpDeclaredLen d)) = 0 :=
  eof_runs.directive_accept_crc h hc

theorem C04_eof_burst_rejected_of_accepted (d d' : Bytes) (a : Eof.Eof) (k : Nat) (B : List Bool)
    (hacc : Eof.Eof.unpack d = .ok a) (hc : cfdpCrcFlag d = 1) (hb : Burst d d' k B) (hp : Pattern B)
    (hin : k + B.length ≤ 8 * cfdpDeclaredLen d) (hav : AvoidsFixedHeader k) :
    Eof.Eof.unpack d' = .error .crc ∧ cfdpDeclaredLen d' = cfdpDeclaredLen d ∧ cfdpCrcFlag d' = 1 ∧
    crc16 (d'.take (cfdpDeclaredLen d')) ≠ 0 :=
  eof_runs.directive_reject hacc hc hb hp.1 hp.2 hin hav

theorem C04_eof_burst_rejected (a : Eof.Eof) (wf : C06Var.WFEof a) (hc : a.fd.header.conf.crcFlag = 1)
    (p rest : Bytes) (k : Nat) (B : List Bool) (hpk : a.pack = .ok p) (hp : Pattern B)
    (hin : k + B.length ≤ 8 * p.length) (hav : AvoidsFixedHeader k) :
    Eof.Eof.unpack (flipBurst (p ++ rest) k B) = .error .crc ∧
    crc16 ((flipBurst (p ++ rest) k B).take p.length) ≠ 0 :=
  packed_reject (C04_eof_valid_passes a wf hc rest) hpk
    (fun hacc hcf hb hi => C04_eof_burst_rejected_of_accepted _ _ _ k B hacc hcf hb hp hi hav) hin

theorem C04_finished_valid_passes (a : Finished.Finished) (wf : C06Var.WFFin a) (hc : a.fd.header.conf.crcFlag = 1) (rest : Bytes) :
    ∃ p, a.pack = .ok p ∧ crc16 p = 0 ∧ p.length = a.packetLen ∧ Finished.Finished.unpack (p ++ rest) = .ok a ∧
      cfdpDeclaredLen (p ++ rest) = p.length ∧ cfdpCrcFlag (p ++ rest) = 1 :=
  have hs := (C06Var.C06_finished_crc a).1 hc
  have hl := (C06Var.C06_finished_len a wf).1
  ⟨_, C06Var.C06_finished_pack_exact a wf, hs.2, hl, C06Var.C06_finished_roundtrip a wf rest,
    laid_out _ a.fd.header wf.2.2.2.2.2.2.2.1 (starts_of_crc hs.1) hl hc rest⟩

theorem C04_finished_accept_implies_crc (d : Bytes) (a : Finished.Finished) (h : Finished.Finished.unpack d = .ok a)
    (hc : cfdpCrcFlag d = 1) :
    cfdpDeclaredLen d ≤ d.length ∧ crc16 (d.take (cfdpDeclaredLen d)) = 0 :=
  finished_runs.directive_accept_crc h hc

theorem C04_finished_burst_rejected_of_accepted (d d' : Bytes) (a : Finished.Finished) (k : Nat) (B : List Bool)
    (hacc : Finished.Finished.unpack d = .ok a) (hc : cfdpCrcFlag d = 1) (hb : Burst d d' k B) (hp : Pattern B)
    (hin : k + B.length ≤ 8 * cfdpDeclaredLen d) (hav : AvoidsFixedHeader k) :
    Finished.Finished.unpack d' = .error .crc ∧ cfdpDeclaredLen d' = cfdpDeclaredLen d ∧ cfdpCrcFlag d' = 1 ∧
    crc16 (d'.take (cfdpDeclaredLen d')) ≠ 0 :=
  finished_runs.directive_reject hacc hc hb hp.1 hp.2 hin hav

theorem C04_finished_burst_rejected (a : Finished.Finished) (wf : C06Var.WFFin a) (hc : a.fd.header.conf.crcFlag = 1)
    (p rest : Bytes) (k : Nat) (B : List Bool) (hpk : a.pack = .ok p) (hp : Pattern B)
    (hin : k + B.length ≤ 8 * p.length) (hav : AvoidsFixedHeader k) :
    Finished.Finished.unpack (flipBurst (p ++ rest) k B) = .error .crc ∧
    crc16 ((flipBurst (p ++ rest) k B).take p.length) ≠ 0 :=
  packed_reject (C04_finished_valid_passes a wf hc rest) hpk
    (fun hacc hcf hb hi => C04_finished_burst_rejected_of_accepted _ _ _ k B hacc hcf hb hp hi hav) hin

theorem C04_metadata_valid_passes (a : Metadata.Metadata) (wf : C06Var.WFMd a) (hc : a.fd.header.conf.crcFlag = 1) (rest : Bytes) :
    ∃ p, a.pack = .ok p ∧ crc16 p = 0 ∧ p.length = a.packetLen ∧ Metadata.Metadata.unpack (p ++ rest) = .ok (C06Var.normMd a) ∧
      cfdpDeclaredLen (p ++ rest) = p.length ∧ cfdpCrcFlag (p ++ rest) = 1 :=
  have hs := (C06Var.C06_metadata_crc a).1 hc
  have hl := (C06Var.C06_metadata_len a wf).1
  ⟨_, C06Var.C06_metadata_pack_exact a wf, hs.2, hl, C06Var.C06_metadata_roundtrip a wf rest,
    laid_out _ a.fd.header wf.2.2.2.2.2.1 (starts_of_crc hs.1) hl hc rest⟩

theorem C04_metadata_accept_implies_crc (d : Bytes) (a : Metadata.Metadata) (h : Metadata.Metadata.unpack d = .ok a)
    (hc : cfdpCrcFlag d = 1) :
    cfdpDeclaredLen d ≤ d.length ∧ crc16 (d.take (cfdpDeclaredLen d)) = 0 :=
  metadata_runs.directive_accept_crc h hc

theorem C04_metadata_burst_rejected_of_accepted (d d' : Bytes) (a : Metadata.Metadata) (k : Nat) (B : List Bool)
    (hacc : Metadata.Metadata.unpack d = .ok a) (hc : cfdpCrcFlag d = 1) (hb : Burst d d' k B) (hp : Pattern B)
    (hin : k + B.length ≤ 8 * cfdpDeclaredLen d) (hav : AvoidsFixedHeader k) :
    Metadata.Metadata.unpack d' = .error .crc ∧ cfdpDeclaredLen d' = cfdpDeclaredLen d ∧ cfdpCrcFlag d' = 1 ∧
    crc16 (d'.take (cfdpDeclaredLen d')) ≠ 0 :=
  metadata_runs.directive_reject hacc hc hb hp.1 hp.2 hin hav

theorem C04_metadata_burst_rejected (a : Metadata.Metadata) (wf : C06Var.WFMd a) (hc : a.fd.header.conf.crcFlag = 1)
    (p rest : Bytes) (k : Nat) (B : List Bool) (hpk : a.pack = .ok p) (hp : Pattern B)
    (hin : k + B.length ≤ 8 * p.length) (hav : AvoidsFixedHeader k) :
    Metadata.Metadata.unpack (flipBurst (p ++ rest) k B) = .error .crc ∧
    crc16 ((flipBurst (p ++ rest) k B).take p.length) ≠ 0 :=
  packed_reject (C04_metadata_valid_passes a wf hc rest) hpk
    (fun hacc hcf hb hi => C04_metadata_burst_rejected_of_accepted _ _ _ k B hacc hcf hb hp hi hav) hin

theorem C04_nak_valid_passes (a : Nak.Nak) (wf : C06Fixed.WFNak a) (hc : a.fd.header.conf.crcFlag = 1) :
    ∃ p, a.pack = .ok p ∧ crc16 p = 0 ∧ p.length = a.packetLen ∧ Nak.Nak.unpack p = .ok a ∧
      cfdpDeclaredLen p = p.length ∧ cfdpCrcFlag p = 1 := by
  have hs := (C06Fixed.C06_nak_crc a).1 hc
  have hl := (C06Fixed.C06_nak_len a wf).1
  have e := laid_out _ a.fd.header wf.2.2.2.1 (starts_of_crc hs.1) hl hc []
  rw [List.append_nil] at e
  exact ⟨_, C06Fixed.C06_nak_pack_exact a wf, hs.2, hl, C06Fixed.C06_nak_roundtrip a wf, e⟩

theorem C04_nak_accept_implies_crc (d : Bytes) (a : Nak.Nak) (h : Nak.Nak.unpack d = .ok a)
    (hc : cfdpCrcFlag d = 1) :
    cfdpDeclaredLen d ≤ d.length ∧ crc16 (d.take (cfdpDeclaredLen d)) = 0 :=
  nak_runs.directive_accept_crc h hc

theorem C04_nak_burst_rejected_of_accepted (d d' : Bytes) (a : Nak.Nak) (k : Nat) (B : List Bool)
    (hacc : Nak.Nak.unpack d = .ok a) (hc : cfdpCrcFlag d = 1) (hb : Burst d d' k B) (hp : Pattern B)
    (hin : k + B.length ≤ 8 * cfdpDeclaredLen d) (hav : AvoidsFixedHeader k) :
    Nak.Nak.unpack d' = .error .crc ∧ cfdpDeclaredLen d' = cfdpDeclaredLen d ∧ cfdpCrcFlag d' = 1 ∧
    crc16 (d'.take (cfdpDeclaredLen d')) ≠ 0 :=
  nak_runs.directive_reject hacc hc hb hp.1 hp.2 hin hav

theorem C04_nak_burst_rejected (a : Nak.Nak) (wf : C06Fixed.WFNak a) (hc : a.fd.header.conf.crcFlag = 1)
    (p : Bytes) (k : Nat) (B : List Bool) (hpk : a.pack = .ok p) (hp : Pattern B)
    (hin : k + B.length ≤ 8 * p.length) (hav : AvoidsFixedHeader k) :
    Nak.Nak.unpack (flipBurst p k B) = .error .crc ∧ crc16 (flipBurst p k B) ≠ 0 := by
  obtain ⟨p0, hp0, _, _, hacc, hdl, hcf⟩ := C04_nak_valid_passes a wf hc
  cases Except.ok.inj (hp0.symm.trans hpk)
  obtain ⟨h1, h2, _, h4⟩ := C04_nak_burst_rejected_of_accepted _ _ _ k B hacc hcf
    (flipBurst_spec p k B hin) hp (hdl ▸ hin) hav
  rw [h2, hdl, flipBurst_take] at h4
  exact ⟨h1, h4⟩

theorem C04_filedata_valid_passes (x : FileData.Pdu) (wf : C07.WF x) (hc : x.header.conf.crcFlag = 1)
    (rest : Bytes) :
    ∃ p, x.pack = .ok p ∧ crc16 p = 0 ∧ p.length = x.packetLen ∧ FileData.Pdu.unpack (p ++ rest) = .ok x ∧
      cfdpDeclaredLen (p ++ rest) = p.length ∧ cfdpCrcFlag (p ++ rest) = 1 :=
  have hl := (C07.C07_len x wf).1
  ⟨_, C07.C07_pack_exact x wf, C07.C07_crc_valid x hc, hl, C07.C07_roundtrip x wf rest,
    laid_out _ x.header wf.1 ⟨_, by simp only [C07.Spec.octets, C07.Spec.body, List.append_assoc]; rfl⟩ hl hc rest⟩

theorem C04_filedata_accept_implies_crc (d : Bytes) (x : FileData.Pdu) (h : FileData.Pdu.unpack d = .ok x)
    (hc : cfdpCrcFlag d = 1) :
    cfdpDeclaredLen d ≤ d.length ∧ crc16 (d.take (cfdpDeclaredLen d)) = 0 :=
  runsFirst_fileData.plain_accept_crc h hc

theorem C04_filedata_burst_rejected_of_accepted (d d' : Bytes) (x : FileData.Pdu) (k : Nat) (B : List Bool)
    (hacc : FileData.Pdu.unpack d = .ok x) (hc : cfdpCrcFlag d = 1) (hb : Burst d d' k B) (hp : Pattern B)
    (hin : k + B.length ≤ 8 * cfdpDeclaredLen d) (hav : AvoidsFixedHeader k) :
    FileData.Pdu.unpack d' = .error .crc ∧ cfdpDeclaredLen d' = cfdpDeclaredLen d ∧ cfdpCrcFlag d' = 1 ∧
    crc16 (d'.take (cfdpDeclaredLen d')) ≠ 0 :=
  runsFirst_fileData.plain_reject hacc hc hb hp.1 hp.2 hin hav

theorem C04_filedata_burst_rejected (x : FileData.Pdu) (wf : C07.WF x) (hc : x.header.conf.crcFlag = 1)
    (p rest : Bytes) (k : Nat) (B : List Bool) (hpk : x.pack = .ok p) (hp : Pattern B)
    (hin : k + B.length ≤ 8 * p.length) (hav : AvoidsFixedHeader k) :
    FileData.Pdu.unpack (flipBurst (p ++ rest) k B) = .error .crc ∧
    crc16 ((flipBurst (p ++ rest) k B).take p.length) ≠ 0 :=
  packed_reject (C04_filedata_valid_passes x wf hc rest) hpk
    (fun hacc hcf hb hi => C04_filedata_burst_rejected_of_accepted _ _ _ k B hacc hcf hb hp hi hav) hin

/-- **acceptance implies CRC**, whichever decoder of the factory's table returned -/
theorem C04_any_accept_implies_crc (kd : Kind) (d : Bytes) (p : AnyPdu) (h : decoderOf kd d = .ok p)
    (hc : cfdpCrcFlag d = 1) :
    cfdpDeclaredLen d ≤ d.length ∧ crc16 (d.take (cfdpDeclaredLen d)) = 0 := by
  obtain ⟨hd, hf⟩ := decoderOf_accept_front h
  exact (front_accept_crc hf hc).2

/-- **burst rejection for any kind**: a buffer accepted by the decoder of kind `kd`, corrupted by an
    admissible burst inside the declared PDU outside octets 0–3: the same decoder fails with
    `InvalidCrc`, and NO decoder of the table (of whatever kind) returns an object -/
theorem C04_any_burst_rejected_of_accepted (kd : Kind) (d d' : Bytes) (p : AnyPdu) (k : Nat) (B : List Bool)
    (hacc : decoderOf kd d = .ok p) (hc : cfdpCrcFlag d = 1) (hb : Burst d d' k B) (hp : Pattern B)
    (hin : k + B.length ≤ 8 * cfdpDeclaredLen d) (hav : AvoidsFixedHeader k) :
    decoderOf kd d' = .error .crc ∧ (∀ kd' q, decoderOf kd' d' ≠ .ok q) ∧
    cfdpDeclaredLen d' = cfdpDeclaredLen d ∧ cfdpCrcFlag d' = 1 ∧ crc16 (d'.take (cfdpDeclaredLen d')) ≠ 0 := by
  obtain ⟨hd, hf⟩ := decoderOf_accept_front hacc
  have hfr := burst_front_crc hf hc hb hp.1 hp.2 hin hav
  have hall : ∀ kd' q, decoderOf kd' d' ≠ .ok q := by
    intro kd' q hq
    obtain ⟨_, hf'⟩ := decoderOf_accept_front hq
    rw [hfr] at hf'; cases hf'
  by_cases hk : kd = .fileData
  · obtain ⟨h1, h2⟩ := ((decoderOf_runsFirst kd).1 hk).plain_reject hacc hc hb hp.1 hp.2 hin hav
    exact ⟨h1, hall, h2⟩
  · obtain ⟨h1, h2⟩ := ((decoderOf_runsFirst kd).2 hk).directive_reject hacc hc hb hp.1 hp.2 hin hav
    exact ⟨h1, hall, h2⟩

/-- **every valid CRC-flagged PDU of every kind passes through the factory**: `p` of the C12 domain
    (the C06 / C07 domains, kind by kind) with the CRC flag: it packs, residue zero, exactly the declared
    length, and `from_raw` on the packed octets followed by anything (NAK: nothing) returns the PDU
    (`norm`: Metadata options come back as generic TLVs, everything else is the object itself) -/
theorem C04_factory_valid_passes (p : AnyPdu) (wf : C12.WFPdu p) (hc : (C12.headerOf p).conf.crcFlag = 1)
    (rest : Bytes) (hr : C12.refusesTrailing p = true → rest = []) :
    ∃ o, p.pack = .ok o ∧ crc16 o = 0 ∧ o.length = p.packetLen ∧
      fromRaw (o ++ rest) = .ok (some (C12.norm p)) ∧
      cfdpDeclaredLen (o ++ rest) = o.length ∧ cfdpCrcFlag (o ++ rest) = 1 := by
  have hd := C12.C12_dispatch p wf rest
  rw [if_neg fun ⟨h1, h2⟩ => h2 (hr h1)] at hd
  have hpk := C12.C12_pack_exact p wf
  -- the kind's own theorem, with the factory's answer `hd` in place of the decoder's
  have fin : ∀ {U : Bytes → Prop}, (∃ o, p.pack = .ok o ∧ crc16 o = 0 ∧ o.length = p.packetLen ∧ U o ∧
      cfdpDeclaredLen (o ++ rest) = o.length ∧ cfdpCrcFlag (o ++ rest) = 1) →
      ∃ o, p.pack = .ok o ∧ crc16 o = 0 ∧ o.length = p.packetLen ∧ fromRaw (o ++ rest) = .ok (some (C12.norm p)) ∧
        cfdpDeclaredLen (o ++ rest) = o.length ∧ cfdpCrcFlag (o ++ rest) = 1 := by
    rintro U ⟨o, h1, h2, h3, _, h56⟩
    cases Except.ok.inj (h1.symm.trans hpk)
    exact ⟨_, hpk, h2, h3, hd, h56⟩
  cases p with
  | fileData x => exact fin (C04_filedata_valid_passes x wf.1 hc rest)
  | ack x => exact fin (C04_ack_valid_passes x wf hc rest)
  | prompt x => exact fin (C04_prompt_valid_passes x wf hc rest)
  | keepAlive x => exact fin (C04_keepalive_valid_passes x wf hc rest)
  | eof x => exact fin (C04_eof_valid_passes x wf hc rest)
  | finished x => exact fin (C04_finished_valid_passes x wf hc rest)
  | metadata x => exact fin (C04_metadata_valid_passes x wf hc rest)
  | nak x =>
    cases hr rfl
    simp only [List.append_nil] at fin ⊢
    exact fin (C04_nak_valid_passes x wf hc)

/-- **acceptance implies CRC for the factory**: a PDU object out of `from_raw` on a buffer with the
    CRC flag means residue zero over exactly the declared PDU, which lies inside the buffer -/
theorem C04_factory_accept_implies_crc (d : Bytes) (p : AnyPdu) (h : fromRaw d = .ok (some p))
    (hc : cfdpCrcFlag d = 1) :
    cfdpDeclaredLen d ≤ d.length ∧ crc16 (d.take (cfdpDeclaredLen d)) = 0 := by
  obtain ⟨kd, hk⟩ := fromRaw_some_inv h
  exact C04_any_accept_implies_crc kd d p hk hc

/-- **burst rejection through the factory, strongest form**: ANY buffer for which `from_raw` returns a
    PDU object, with the CRC flag, corrupted by an admissible burst inside the declared PDU outside
    octets 0–3: `from_raw` never returns a PDU object. What it does instead: `InvalidCrc` from the
    selected decoder; or — only when the burst changed the directive octet, which the factory reads
    before any decoder runs — `ValueError` (no such directive) or `None` (`DirectiveType.NONE`). All
    documented. -/
theorem C04_factory_burst_rejected_of_accepted (d d' : Bytes) (p : AnyPdu) (k : Nat) (B : List Bool)
    (hacc : fromRaw d = .ok (some p)) (hc : cfdpCrcFlag d = 1) (hb : Burst d d' k B) (hp : Pattern B)
    (hin : k + B.length ≤ 8 * cfdpDeclaredLen d) (hav : AvoidsFixedHeader k) :
    (∀ q, fromRaw d' ≠ .ok (some q)) ∧
    (fromRaw d' = .error .crc ∨ fromRaw d' = .error .value ∨ fromRaw d' = .ok none) ∧
    Documented (fromRaw d') ∧
    cfdpDeclaredLen d' = cfdpDeclaredLen d ∧ crc16 (d'.take (cfdpDeclaredLen d')) ≠ 0 := by
  obtain ⟨kd, hk⟩ := fromRaw_some_inv hacc
  obtain ⟨hd, hf⟩ := decoderOf_accept_front hk
  obtain ⟨h', hu', _, _, _, hv', _⟩ := burst_verify_crc hf hc hb hp.1 hp.2 hin hav
  obtain ⟨hpf, hdf⟩ := fronts_crc_of_verify hu' hv'
  obtain ⟨e1, _, e3⟩ := burst_declared hf hc hb hp.1 hp.2 hin hav
  suffices hor : fromRaw d' = .error .crc ∨ fromRaw d' = .error .value ∨ fromRaw d' = .ok none from
    ⟨fun q hq => (by rcases hor with h | h | h <;> rw [h] at hq <;> cases hq), hor, fromRaw_documented d', e1, e3⟩
  by_cases ht : h'.pduType = 0
  · by_cases hl : h'.headerLen < d'.length
    · rw [(fromRaw_directive d' h' hu' ht _ (idx_ok hl)).2, directiveOf_eq]
      split
      · exact (dispatch_crc (hdf hl) (some d'[h'.headerLen].toNat)).imp_right .inr
      · exact Or.inr (Or.inl rfl)
    · rw [fromRaw_of_header d' h' hu', if_neg (by omega), if_pos (by omega)]
      exact Or.inr (Or.inl rfl)
  · rw [fromRaw_of_header d' h' hu', if_pos ht]
    exact Or.inl (decodeAs_crc_fileData hpf)

/-- **… and when the burst leaves the directive octet alone** (always the case for File Data, whose
    type bit sits in octet 0; for a directive: the window does not meet the octet right behind the
    header, at index `cfdpHeaderLen d`): the factory fails with `InvalidCrc` -/
theorem C04_factory_burst_crc_error (d d' : Bytes) (p : AnyPdu) (k : Nat) (B : List Bool)
    (hacc : fromRaw d = .ok (some p)) (hc : cfdpCrcFlag d = 1) (hb : Burst d d' k B) (hp : Pattern B)
    (hin : k + B.length ≤ 8 * cfdpDeclaredLen d) (hav : AvoidsFixedHeader k)
    (hoct : p.kind = .fileData ∨ 8 * cfdpHeaderLen d + 7 < k ∨ k + B.length ≤ 8 * cfdpHeaderLen d) :
    fromRaw d' = .error .crc := by
  obtain ⟨kd, hk⟩ := fromRaw_some_inv hacc
  obtain ⟨hd, hf⟩ := decoderOf_accept_front hk
  obtain ⟨hu, _, _⟩ := (pduFront_ok_iff d hd).mp hf
  obtain ⟨h', hu', _, hhl, _, hv', _⟩ := burst_verify_crc hf hc hb hp.1 hp.2 hin hav
  obtain ⟨hpf, hdf⟩ := fronts_crc_of_verify hu' hv'
  have ht : h'.pduType = hd.pduType := by
    have h1 := pduType_of_header d' h' hu'
    have h2 := pduType_of_header d hd hu
    rw [pduType_congr (burst_fixed hb hav 0 (by omega)), h2] at h1
    exact (Except.ok.inj h1).symm
  by_cases h0 : hd.pduType = 0
  · -- a file directive: the directive octet selected the decoder, and it is unchanged
    have hkind : p.kind ≠ .fileData := by
      -- a File Data object carries type bit 1; this header has 0
      intro hkf
      obtain ⟨hcan, hty, _⟩ := fromRaw_sound d p hacc
      cases p <;> cases hkf
      have e := (pduType_of_header d hd hu).symm.trans hty
      rw [h0] at e
      exact absurd ((Except.ok.inj e).trans hcan) (by decide)
    have hwin := hoct.resolve_left hkind
    have hlen : hd.headerLen < d.length := Nat.lt_of_not_le fun hl => by
      rw [fromRaw_of_header d hd hu, if_neg (not_not_intro h0), if_pos hl] at hacc; cases hacc
    have hi : idx d' h'.headerLen = idx d hd.headerLen := by
      rw [hhl]; exact idx_congr (hb.getElem?_eq _ (by rw [(unpack_fixed hu).2.2.1]; exact hwin))
    have hci := idx_ok hlen
    rw [(fromRaw_directive d hd hu h0 _ hci).2] at hacc
    obtain ⟨dir, hdo, hacc⟩ := bind_ok_inv hacc
    obtain ⟨kk, hkk, hall⟩ := dispatch_some_inv hacc
    rw [(fromRaw_directive d' h' hu' (by rw [ht]; exact h0) _ (by rw [hi]; exact hci)).2, hdo, bind_ok, hall d']
    exact decodeAs_crc_directive hkk (hdf (by rw [hhl, hb.length_eq]; exact hlen))
  · rw [fromRaw_of_header d' h' hu', if_pos (by rw [ht]; exact h0)]
    exact decodeAs_crc_fileData hpf

/-- **burst rejection for packed PDUs through the factory** (the statement of the property): every
    valid CRC-flagged PDU of every kind, packed octets `o` followed by any `rest` (NAK: nothing), every
    admissible burst inside `o` outside octets 0–3: `from_raw` never returns a PDU object; its answer
    is documented; the CRC over the (unchanged) declared length is non-zero -/
theorem C04_factory_burst_rejected (p : AnyPdu) (wf : C12.WFPdu p) (hc : (C12.headerOf p).conf.crcFlag = 1)
    (o rest : Bytes) (hr : C12.refusesTrailing p = true → rest = []) (k : Nat) (B : List Bool)
    (hpk : p.pack = .ok o) (hp : Pattern B) (hin : k + B.length ≤ 8 * o.length) (hav : AvoidsFixedHeader k) :
    (∀ q, fromRaw (flipBurst (o ++ rest) k B) ≠ .ok (some q)) ∧
    (fromRaw (flipBurst (o ++ rest) k B) = .error .crc ∨ fromRaw (flipBurst (o ++ rest) k B) = .error .value ∨
      fromRaw (flipBurst (o ++ rest) k B) = .ok none) ∧
    Documented (fromRaw (flipBurst (o ++ rest) k B)) ∧
    crc16 ((flipBurst (o ++ rest) k B).take o.length) ≠ 0 := by
  obtain ⟨o0, hp0, _, _, hacc, hdl, hcf⟩ := C04_factory_valid_passes p wf hc rest hr
  cases Except.ok.inj (hp0.symm.trans hpk)
  obtain ⟨h1, h2, h3, h4, h5⟩ := C04_factory_burst_rejected_of_accepted _ _ _ k B hacc hcf
    (flip_packed o rest k B hin) hp (by rw [hdl]; exact hin) hav
  rw [h4, hdl] at h5
  exact ⟨h1, h2, h3, h5⟩

/-- single-bit flips are the special case `B = [true]`: any bit from bit 32 on inside the packed PDU -/
theorem C04_factory_bit_flip_rejected (p : AnyPdu) (wf : C12.WFPdu p) (hc : (C12.headerOf p).conf.crcFlag = 1)
    (o : Bytes) (k : Nat) (hpk : p.pack = .ok o) (hlo : 32 ≤ k) (hhi : k < 8 * o.length) :
    (∀ q, fromRaw (flipBurst o k [true]) ≠ .ok (some q)) ∧ Documented (fromRaw (flipBurst o k [true])) ∧
    crc16 (flipBurst o k [true]) ≠ 0 := by
  obtain ⟨h1, _, h3, h4⟩ := C04_factory_burst_rejected p wf hc o [] (fun _ => rfl) k [true] hpk (by decide) hhi hlo
  rw [List.append_nil] at h1 h3 h4
  rw [flipBurst_take] at h4
  exact ⟨h1, h3, h4⟩

-- an ACK of an EOF PDU with the CRC flag, 2-octet entity IDs and sequence number
def exAck : Ack.Ack := ⟨⟨⟨0, 0, 5, ⟨⟨2, 1⟩, ⟨2, 2⟩, ⟨2, 3⟩, 1, 0, 1, 1, 0⟩⟩, 6⟩, 4, 0, 2, 1⟩

example : C06Fixed.WFAck exAck ∧ exAck.fd.header.conf.crcFlag = 1 ∧ C12.WFPdu (.ack exAck) ∧
    (C12.headerOf (.ack exAck)).conf.crcFlag = 1 := by decide

-- its 15 packed octets: bit 32 is the first bit behind the fixed header, bit 119 the last CRC bit
example : (C06Fixed.Spec.ack exAck).length = 15 ∧ Pattern [true] ∧ AvoidsFixedHeader 32 ∧
    32 + 1 ≤ 8 * 15 ∧ AvoidsFixedHeader 119 ∧ 119 + 1 ≤ 8 * 15 := by decide

-- a CRC-flagged File Data PDU (C07's example with segment metadata) satisfies the hypotheses
example : C07.WF C07.exA ∧ C07.exA.header.conf.crcFlag = 1 ∧ C12.WFPdu (.fileData C07.exA) ∧
    Pattern [true, false, true] ∧ AvoidsFixedHeader 32 := by decide

end SpVerif.Props.C04Pdu
