import SpVerif.Model.Cds
/-!
# C14 — CDS short timestamps encode exactly and agree with calendar arithmetic

`Spec.octets` is the CCSDS 301.0-B-4 §3.3 "CDS" layout for the short
variant (P-field `0100 0000`: time code 100, 1958 epoch, 16-bit day segment, millisecond
resolution; then the day count and the millisecond of day, both big-endian).

The float view `as_unix_seconds()` and the `datetime` view `as_datetime()` are represented by the
exact integer `Stamp.unixMs`; the conversion of the real views to integers is done by the
correspondence check (*partial*, see manifest/C14.json).
-/
namespace SpVerif.Props.C14
open SpVerif SpVerif.Cds

/-- the domain of the statement: day count 0..65535, millisecond of day 0..86 399 999 -/
def WF (s : Stamp) : Prop := 0 ≤ s.days ∧ s.days < 65536 ∧ 0 ≤ s.ms ∧ s.ms < 86400000

instance (s : Stamp) : Decidable (WF s) := by unfold WF; infer_instance

/-- normalised non-negative `timedelta` (what CPython guarantees for the last two fields) -/
def TdWF (t : TimeDelta) : Prop :=
  0 ≤ t.days ∧ 0 ≤ t.seconds ∧ t.seconds < 86400 ∧ 0 ≤ t.micros ∧ t.micros < 1000000

instance (t : TimeDelta) : Decidable (TdWF t) := by unfold TdWF; infer_instance

/-- what the standard prescribes: P-field 0x40, 16-bit day, 32-bit millisecond of day -/
def Spec.octets (s : Stamp) : Bytes :=
  [0x40,
   u8 (s.days.toNat / 256), u8 (s.days.toNat % 256),
   u8 (s.ms.toNat / 16777216), u8 (s.ms.toNat / 65536 % 256), u8 (s.ms.toNat / 256 % 256),
   u8 (s.ms.toNat % 256)]

/-- total milliseconds since the CCSDS epoch 1958-01-01T00:00:00Z -/
def totalMs (s : Stamp) : Int := s.days * 86400000 + s.ms

/-- the (day, millisecond-of-day) pair of a total millisecond count -/
def normalise (t : Int) : Stamp := ⟨t / 86400000, t % 86400000⟩

/-- lexicographic order on (day, millisecond of day) -/
def Earlier (a b : Stamp) : Prop := a.days < b.days ∨ (a.days = b.days ∧ a.ms < b.ms)

private theorem ar_d (d : Nat) (h : d < 65536) : d / 256 % 256 = d / 256 := by omega
private theorem ar_m3 (m : Nat) (h : m < 4294967296) : m / 256 / 256 / 256 % 256 = m / 16777216 := by omega
private theorem ar_m2 (m : Nat) : m / 256 / 256 % 256 = m / 65536 % 256 := by omega

private theorem packInt_nat (n v : Nat) : packInt n (v : Int) = packBE n v := by
  simp [packInt]

private theorem packInt_range {n : Nat} {v : Int} {b : Bytes} (h : packInt n v = .ok b) :
    0 ≤ v ∧ v.toNat < 256 ^ n := by
  unfold packInt packBE at h
  split at h
  · split at h
    · exact ⟨‹_›, ‹_›⟩
    · cases h
  · cases h

private theorem beBytes_4 (v : Nat) :
    beBytes 4 v = [u8 (v / 256 / 256 / 256 % 256), u8 (v / 256 / 256 % 256), u8 (v / 256 % 256), u8 (v % 256)] := by
  simp [beBytes]

/-- the layout is P-field ‖ big-endian 16-bit day ‖ big-endian 32-bit millisecond value -/
private theorem octets_be (s : Stamp) (hd : s.days < 65536) (hm : s.ms < 4294967296) :
    Spec.octets s = [0x40] ++ beBytes 2 s.days.toNat ++ beBytes 4 s.ms.toNat := by
  simp only [Spec.octets, beBytes_2, beBytes_4, ar_d _ (show s.days.toNat < 65536 by omega),
    ar_m3 _ (show s.ms.toNat < 4294967296 by omega), ar_m2]
  rfl

/-- **pack = standard layout** for every day count 0..65535 and every millisecond value that fits
    32 bits (in particular every millisecond of day 0..86 399 999). -/
theorem C14_pack_exact32 (s : Stamp) (hd0 : 0 ≤ s.days) (hd : s.days < 65536)
    (hm0 : 0 ≤ s.ms) (hm : s.ms < 4294967296) : s.pack = .ok (Spec.octets s) := by
  unfold Stamp.pack
  rw [packInt, if_pos hd0, packInt, if_pos hm0, packBE_ok (show s.days.toNat < 256 ^ 2 by omega),
    packBE_ok (show s.ms.toNat < 256 ^ 4 by omega), octets_be s hd hm]
  rfl

theorem C14_pack_exact (s : Stamp) (wf : WF s) : s.pack = .ok (Spec.octets s) := by
  obtain ⟨h0, h1, h2, h3⟩ := wf
  exact C14_pack_exact32 s h0 h1 h2 (by omega)

/-- the layout is P-field ‖ big-endian 16-bit day ‖ big-endian 32-bit millisecond of day -/
theorem C14_spec_be (s : Stamp) (wf : WF s) :
    Spec.octets s = [0x40] ++ beBytes 2 s.days.toNat ++ beBytes 4 s.ms.toNat :=
  octets_be s wf.2.1 (by have := wf.2.2.2; omega)

theorem C14_pack_len (s : Stamp) (wf : WF s) : ∃ b, s.pack = .ok b ∧ b.length = 7 :=
  ⟨_, C14_pack_exact s wf, rfl⟩

/-- `pack` never wraps silently: it succeeds only for a day count that fits 16 bits and a
    millisecond value that fits 32 bits (otherwise `struct.error`). -/
theorem C14_pack_range (s : Stamp) (b : Bytes) (h : s.pack = .ok b) :
    0 ≤ s.days ∧ s.days < 65536 ∧ 0 ≤ s.ms ∧ s.ms < 4294967296 := by
  obtain ⟨_, hd, h⟩ := bind_ok_inv h
  obtain ⟨_, hm, _⟩ := bind_ok_inv h
  have := packInt_range hd
  have := packInt_range hm
  omega

/-- equational characterisation of the decoder on ≥ 7 octets -/
private theorem unpack_eq (d : Bytes) (h7 : 7 ≤ d.length) :
    unpackFromRaw d =
      if d[0].toNat / 16 % 8 ≠ 4 then .error .value
      else if d[0].toNat / 4 % 2 ≠ 0 then .error .value
      else .ok ⟨((beNat (slice d 1 3) : Nat) : Int), ((beNat (slice d 3 7) : Nat) : Int)⟩ := by
  have hen : enumOf [0, 1] (d[0].toNat / 4 % 2) = .ok (d[0].toNat / 4 % 2) := by
    rw [enumOf, if_pos]
    rcases Nat.mod_two_eq_zero_or_one (d[0].toNat / 4) with h | h <;> simp [h]
  unfold unpackFromRaw TIMESTAMP_SIZE CDS_ID
  rw [if_neg (by omega), idx_ok (show 0 < d.length by omega), bind_ok]
  by_cases h1 : d[0].toNat / 16 % 8 ≠ 4
  · rw [if_pos h1, if_pos h1]; rfl
  rw [if_neg h1, if_neg h1, hen, bind_ok]
  by_cases h2 : d[0].toNat / 4 % 2 ≠ 0
  · rw [if_pos h2, if_pos h2]; rfl
  rw [if_neg h2, if_neg h2, unpackBE_ok (by simp; omega), bind_ok, unpackBE_ok (by simp; omega), bind_ok]
  rfl

/-- **decode ∘ encode = id** for all 65 536 × 86 400 000 pairs (indeed for every 32-bit millisecond
    value), with any octets following the seven of the timestamp. -/
theorem C14_roundtrip32 (s : Stamp) (hd0 : 0 ≤ s.days) (hd : s.days < 65536)
    (hm0 : 0 ≤ s.ms) (hm : s.ms < 4294967296) (rest : Bytes) :
    unpackFromRaw (Spec.octets s ++ rest) = .ok s := by
  obtain ⟨d, m⟩ := s
  obtain ⟨dn, rfl⟩ := Int.eq_ofNat_of_zero_le hd0
  obtain ⟨mn, rfl⟩ := Int.eq_ofNat_of_zero_le hm0
  have e1 : slice ([0x40] ++ beBytes 2 dn ++ beBytes 4 mn ++ rest) 1 3 = beBytes 2 dn := by
    rw [List.append_assoc]; exact slice_eq_of_append [0x40] (beBytes 2 dn) _
  have e2 : slice ([0x40] ++ beBytes 2 dn ++ beBytes 4 mn ++ rest) 3 7 = beBytes 4 mn :=
    slice_eq_of_append ([0x40] ++ beBytes 2 dn) (beBytes 4 mn) rest
  rw [octets_be _ hd hm]
  simp only [Int.toNat_natCast] at hd hm ⊢
  rw [unpack_eq _ (by simp; omega), e2, e1,
    beNat_beBytes _ _ (by omega), beNat_beBytes _ _ (by omega)]
  have p0 : (0x40 : UInt8).toNat / 16 % 8 = 4 := by decide
  have p1 : (0x40 : UInt8).toNat / 4 % 2 = 0 := by decide
  simp only [List.cons_append, List.nil_append, List.getElem_cons_zero, p0, p1, ne_eq, not_true_eq_false, ↓reduceIte]

theorem C14_roundtrip (s : Stamp) (wf : WF s) (rest : Bytes) :
    unpackFromRaw (Spec.octets s ++ rest) = .ok s := by
  obtain ⟨h0, h1, h2, h3⟩ := wf
  exact C14_roundtrip32 s h0 h1 h2 (by omega) rest

/-- `unpack (pack s ‖ suffix) = s`, stated through `pack` itself -/
theorem C14_unpack_pack (s : Stamp) (wf : WF s) (rest : Bytes) :
    ∃ b, s.pack = .ok b ∧ unpackFromRaw (b ++ rest) = .ok s :=
  ⟨_, C14_pack_exact s wf, C14_roundtrip s wf rest⟩

/-- **refusal**: fewer than seven octets → the documented too-short error (a ValueError);
    time-code identification ≠ `100` → ValueError; 24-bit day-segment flag set → ValueError. -/
theorem C14_refuse_short (b : Bytes) (h : b.length < 7) : unpackFromRaw b = .error .value := by
  simp [unpackFromRaw, TIMESTAMP_SIZE, h, throw, throwThe, MonadExceptOf.throw, bind, Except.bind]

theorem C14_refuse_pfield (b : Bytes) (h7 : 7 ≤ b.length)
    (h : b[0].toNat / 16 % 8 ≠ 4 ∨ b[0].toNat / 4 % 2 = 1) : unpackFromRaw b = .error .value := by
  rw [unpack_eq b h7]
  rcases h with h | h
  · rw [if_pos h]
  · split
    · rfl
    · rw [if_pos (by omega)]

/-- both refusal clauses in one statement -/
theorem C14_refuse (b : Bytes)
    (h : b.length < 7 ∨ (∃ h7 : 7 ≤ b.length, b[0].toNat / 16 % 8 ≠ 4 ∨ b[0].toNat / 4 % 2 = 1)) :
    unpackFromRaw b = .error .value := by
  rcases h with h | ⟨h7, h⟩
  · exact C14_refuse_short b h
  · exact C14_refuse_pfield b h7 h

/-- conversely, seven or more octets with time code `100` and the 16-bit day flag always decode,
    to a 16-bit day and a 32-bit millisecond value whose re-encoding is `0x40` ‖ octets 1..6 -/
theorem C14_unpack_accept (b : Bytes) (h7 : 7 ≤ b.length)
    (hp : b[0].toNat / 16 % 8 = 4) (hl : b[0].toNat / 4 % 2 = 0) :
    ∃ s, unpackFromRaw b = .ok s ∧ 0 ≤ s.days ∧ s.days < 65536 ∧ 0 ≤ s.ms ∧ s.ms < 4294967296 ∧
      s.pack = .ok (0x40 :: (b.take 7).drop 1) := by
  have l2 : (slice b 1 3).length = 2 := by simp; omega
  have l4 : (slice b 3 7).length = 4 := by simp; omega
  have b2 := beNat_lt (slice b 1 3)
  have b4 := beNat_lt (slice b 3 7)
  rw [l2] at b2
  rw [l4] at b4
  refine ⟨⟨((beNat (slice b 1 3) : Nat) : Int), ((beNat (slice b 3 7) : Nat) : Int)⟩, ?_, ?_, ?_, ?_, ?_, ?_⟩
  · rw [unpack_eq b h7]; simp only [hp, hl, ne_eq, not_true_eq_false, ↓reduceIte]
  · simp only; omega
  · simp only; omega
  · simp only; omega
  · simp only; omega
  · unfold Stamp.pack
    simp only [packInt_nat, packBE_ok b2, packBE_ok b4, bind, Except.bind, pure, Except.pure, CDS_ID]
    have q2 := beBytes_beNat (slice b 1 3)
    have q4 := beBytes_beNat (slice b 3 7)
    rw [l2] at q2
    rw [l4] at q4
    rw [q2, q4]
    match b, h7 with
    | x0 :: x1 :: x2 :: x3 :: x4 :: x5 :: x6 :: r, _ => simp [slice]

/-- the decoder never fails with anything but ValueError, on any octet string (C10 for this unit) -/
theorem C14_unpack_documented (b : Bytes) : Documented (unpackFromRaw b) := by
  by_cases h : b.length < 7
  · rw [C14_refuse_short b h]; exact Documented.err rfl
  · rw [unpack_eq b (by omega)]; exact .ite (.err rfl) (.ite (.err rfl) (.ok _))

/-- the Unix-time view is 1958-01-01 plus days and milliseconds, i.e. total milliseconds since the
    CCSDS epoch shifted by the 4383 days between the two epochs — for every stamp, also before 1970
    (no sign case distinction) -/
theorem C14_unix_ms (s : Stamp) : s.unixMs = totalMs s - 4383 * 86400000 := by
  simp only [Stamp.unixMs, totalMs, ccsdsDaysToUnix, DAYS_CCSDS_TO_UNIX, SECONDS_PER_DAY]
  omega

/-- Gregorian leap-year rule and the number of days of the years `y .. y+n-1` -/
def isLeap (y : Nat) : Bool := (y % 4 == 0 && y % 100 != 0) || y % 400 == 0
def daysInYear (y : Nat) : Nat := if isLeap y then 366 else 365
def daysOfYears : Nat → Nat → Nat
  | _, 0 => 0
  | y, n+1 => daysInYear y + daysOfYears (y+1) n

/-- **epoch**: day 0 / ms 0 is 4383 days before the Unix epoch, day 4383 is the Unix epoch, and
    4383 is the calendar distance 1958-01-01 → 1970-01-01 (twelve years, three of them leap);
    day 65 535 is 2137-06-06 (179 years, then Jan..May = 151 days, then 5 days). -/
theorem C14_epoch :
    (Stamp.new 0 0).unixMs = -4383 * 86400000 ∧ (Stamp.new 4383 0).unixMs = 0 ∧
    daysOfYears 1958 12 = 4383 ∧ ((List.range 12).filter fun i => isLeap (1958 + i)).length = 3 ∧
    daysOfYears 1958 179 + (31 + 28 + 31 + 30 + 31) + 5 = 65535 ∧ isLeap 2137 = false := by
  refine ⟨by decide, by decide, by decide, by decide, by decide +kernel, by decide⟩

/-- **monotone**: for milliseconds of day below 86 400 000 the lexicographic order on
    (day, ms) is exactly the order of the instants; in particular distinct stamps are distinct
    instants. -/
theorem C14_monotone (a b : Stamp) (ha0 : 0 ≤ a.ms) (ha : a.ms < 86400000)
    (hb0 : 0 ≤ b.ms) (hb : b.ms < 86400000) : Earlier a b ↔ a.unixMs < b.unixMs := by
  obtain ⟨ad, am⟩ := a
  obtain ⟨bd, bm⟩ := b
  simp only [Earlier, Stamp.unixMs, ccsdsDaysToUnix, DAYS_CCSDS_TO_UNIX, SECONDS_PER_DAY] at *
  omega

theorem C14_unix_inj (a b : Stamp) (ha0 : 0 ≤ a.ms) (ha : a.ms < 86400000)
    (hb0 : 0 ≤ b.ms) (hb : b.ms < 86400000) (h : a.unixMs = b.unixMs) : a = b := by
  obtain ⟨ad, am⟩ := a
  obtain ⟨bd, bm⟩ := b
  simp only [Stamp.unixMs, ccsdsDaysToUnix, DAYS_CCSDS_TO_UNIX, SECONDS_PER_DAY] at *
  have h1 : ad = bd := by omega
  have h2 : am = bm := by omega
  rw [h1, h2]

/-- day-offset helpers: inverse of each other, offset 4383, and `from_unix_days` -/
theorem C14_day_offsets (d ms : Int) :
    unixDaysToCcsds d = d + 4383 ∧ ccsdsDaysToUnix d = d - 4383 ∧
    ccsdsDaysToUnix (unixDaysToCcsds d) = d ∧ unixDaysToCcsds (ccsdsDaysToUnix d) = d ∧
    (Stamp.fromUnixDays d ms).unixMs = d * 86400000 + ms := by
  simp only [unixDaysToCcsds, ccsdsDaysToUnix, DAYS_CCSDS_TO_UNIX, Stamp.fromUnixDays, Stamp.new,
    Stamp.unixMs, SECONDS_PER_DAY]
  omega

/-- **from_datetime**: for every instant given in microseconds relative to the Unix epoch
    (negative before 1970) the stamp is *the* day / millisecond-of-day of that instant: its
    millisecond of day is below 86 400 000 and its Unix time is `⌊µs / 1000⌋` — floor, not
    truncation toward zero, also before 1970; the day is `⌊µs / 86 400 000 000⌋ + 4383`. -/
theorem C14_from_unix (us : Int) :
    0 ≤ (fromUnixMicros us).ms ∧ (fromUnixMicros us).ms < 86400000 ∧
    (fromUnixMicros us).unixMs = us / 1000 ∧
    (fromUnixMicros us).days = us / 86400000000 + 4383 := by
  simp only [fromUnixMicros, TimeDelta.ofMicros, Stamp.unixMs, unixDaysToCcsds, ccsdsDaysToUnix,
    DAYS_CCSDS_TO_UNIX, SECONDS_PER_DAY]
  omega

/-- exact for whole-millisecond datetimes -/
theorem C14_from_unix_whole_ms (k : Int) : (fromUnixMicros (k * 1000)).unixMs = k := by
  rw [(C14_from_unix (k * 1000)).2.2.1]; omega

/-- a datetime in 1958-01-01T00:00:00Z ≤ dt < 2137-06-07T00:00:00Z gives a stamp in the domain -/
theorem C14_from_unix_range (us : Int) (h0 : -4383 * 86400000000 ≤ us)
    (h1 : us < (65536 - 4383) * 86400000000) : WF (fromUnixMicros us) := by
  obtain ⟨a, b, _, d⟩ := C14_from_unix us
  refine ⟨?_, ?_, a, b⟩
  · rw [d]; omega
  · rw [d]; omega

/-- … and it is the only stamp with a millisecond of day below 86 400 000 at that millisecond -/
theorem C14_from_unix_unique (us : Int) (s : Stamp) (h0 : 0 ≤ s.ms) (h1 : s.ms < 86400000)
    (h : s.unixMs = us / 1000) : s = fromUnixMicros us := by
  obtain ⟨a, b, c, _⟩ := C14_from_unix us
  exact C14_unix_inj s _ h0 h1 a b (by rw [h, c])

/-- the model's `timedelta` triple of a microsecond count is CPython's normal form -/
theorem C14_timedelta_normal (us : Int) :
    (TimeDelta.ofMicros us).toMicros = us ∧ 0 ≤ (TimeDelta.ofMicros us).seconds ∧
    (TimeDelta.ofMicros us).seconds < 86400 ∧ 0 ≤ (TimeDelta.ofMicros us).micros ∧
    (TimeDelta.ofMicros us).micros < 1000000 := by
  simp only [TimeDelta.ofMicros, TimeDelta.toMicros]
  omega

/-- `⌊Δµs / 1000⌋` of a timedelta -/
theorem C14_td_floor_ms (t : TimeDelta) :
    t.toMicros / 1000 = t.days * 86400000 + t.seconds * 1000 + t.micros / 1000 := by
  unfold TimeDelta.toMicros
  omega

/-- **add**: for every stamp with a millisecond of day below 86 400 000 (any day count) and every
    non-negative timedelta, `stamp + timedelta` is integer arithmetic on total milliseconds:
    with `t = totalMs s + ⌊Δµs / 1000⌋` the result is `normalise t = (t / 86 400 000, t % 86 400 000)`
    — so the millisecond of day is always below 86 400 000, also when landing exactly on midnight —
    and it is `OverflowError` exactly when the day count `t / 86 400 000` exceeds 65 535. -/
theorem C14_add (s : Stamp) (t : TimeDelta) (hm0 : 0 ≤ s.ms) (hm : s.ms < 86400000) (ht : TdWF t) :
    s.add t =
      if (totalMs s + t.toMicros / 1000) / 86400000 > 65535 then .error .overflow
      else .ok (normalise (totalMs s + t.toMicros / 1000)) := by
  obtain ⟨d, m⟩ := s
  obtain ⟨td, ts, tu⟩ := t
  obtain ⟨hd0, hs0, hs, hu0, hu⟩ := ht
  simp only at hm0 hm hd0 hs0 hs hu0 hu
  rw [C14_td_floor_ms]
  simp only [Stamp.add, totalMs, normalise, MS_PER_DAY, SECONDS_PER_DAY, Int.reduceMul, Int.reducePow,
    Int.reduceSub]
  by_cases hc : m + (tu / 1000 + ts * 1000) ≥ 86400000
  · obtain ⟨e1, e2⟩ :
        (d * 86400000 + m + (td * 86400000 + ts * 1000 + tu / 1000)) / 86400000 = d + 1 + td ∧
        (d * 86400000 + m + (td * 86400000 + ts * 1000 + tu / 1000)) % 86400000
          = m + (tu / 1000 + ts * 1000) - 86400000 := by omega
    simp only [e1, e2]
    by_cases o1 : d + 1 > 65535
    · have o2 : d + 1 + td > 65535 := by omega
      simp [hc, o1, o2, bind, Except.bind, throw, throwThe, MonadExceptOf.throw]
    · by_cases o2 : d + 1 + td > 65535
      · simp [hc, o1, o2, bind, Except.bind, pure, Except.pure, throw, throwThe, MonadExceptOf.throw]
      · simp [hc, o1, o2, bind, Except.bind, pure, Except.pure]
  · obtain ⟨e1, e2⟩ :
        (d * 86400000 + m + (td * 86400000 + ts * 1000 + tu / 1000)) / 86400000 = d + td ∧
        (d * 86400000 + m + (td * 86400000 + ts * 1000 + tu / 1000)) % 86400000
          = m + (tu / 1000 + ts * 1000) := by omega
    simp only [e1, e2]
    by_cases o2 : d + td > 65535
    · simp [hc, o2, bind, Except.bind, pure, Except.pure, throw, throwThe, MonadExceptOf.throw]
    · simp [hc, o2, bind, Except.bind, pure, Except.pure]

/-- consequences: a successful addition yields a stamp in the domain (when the input day count is
    non-negative) whose instant is the input's instant plus `⌊Δµs / 1000⌋` milliseconds -/
theorem C14_add_ok (s r : Stamp) (t : TimeDelta) (wf : WF s) (ht : TdWF t) (h : s.add t = .ok r) :
    WF r ∧ r.unixMs = s.unixMs + t.toMicros / 1000 ∧ totalMs r = totalMs s + t.toMicros / 1000 := by
  obtain ⟨hd0, hd, hm0, hm⟩ := wf
  rw [C14_add s t hm0 hm ht] at h
  have ht' := ht
  obtain ⟨td0, hs0, hs, hu0, hu⟩ := ht'
  have hfl := C14_td_floor_ms t
  split at h
  · cases h
  · rename_i hov
    injection h with h
    subst h
    have hnn : 0 ≤ t.toMicros / 1000 := by rw [hfl]; omega
    refine ⟨?_, ?_, ?_⟩
    · simp only [WF, normalise, totalMs] at hov ⊢
      omega
    · rw [C14_unix_ms, C14_unix_ms]
      simp only [normalise, totalMs]
      omega
    · simp only [normalise, totalMs]
      omega

/-- overflow happens exactly when the day count would exceed 16 bits -/
theorem C14_add_overflow_iff (s : Stamp) (t : TimeDelta) (hm0 : 0 ≤ s.ms) (hm : s.ms < 86400000)
    (ht : TdWF t) :
    s.add t = .error .overflow ↔ (totalMs s + t.toMicros / 1000) / 86400000 > 65535 := by
  rw [C14_add s t hm0 hm ht]
  split <;> simp_all

example : WF ⟨0x0102, 0x03040506⟩ := by decide
example : Spec.octets ⟨0x0102, 0x03040506⟩ = [0x40, 0x01, 0x02, 0x03, 0x04, 0x05, 0x06] := by decide
example : WF ⟨65535, 86399999⟩ ∧ WF ⟨0, 0⟩ := by decide
example : TdWF ⟨3, 86399, 999999⟩ := by decide
-- 1969-12-31T23:59:59.999999Z is day 4382, 23:59:59.999 (floor, not truncation)
example : fromUnixMicros (-1) = ⟨4382, 86399999⟩ := by decide
-- landing exactly on midnight carries into the next day
example : (Stamp.mk 10 86399999).add ⟨0, 0, 1000⟩ = .ok ⟨11, 0⟩ := by rfl
example : (Stamp.mk 65535 86399999).add ⟨0, 0, 1000⟩ = .error .overflow := by rfl
example : (Stamp.mk 65535 86399998).add ⟨0, 0, 1999⟩ = .ok ⟨65535, 86399999⟩ := by rfl
example : unpackFromRaw [0x40, 1, 2, 3, 4, 5, 6, 0xFF] = .ok ⟨0x0102, 0x03040506⟩ := by rfl
example : unpackFromRaw [0x44, 0, 0, 0, 0, 0, 0] = .error .value := by rfl
example : unpackFromRaw [0x50, 0, 0, 0, 0, 0, 0] = .error .value := by rfl

/-- the seven octets determine (days, ms): injective for every 16-bit day count and every 32-bit
    millisecond value (consequence of `C14_roundtrip32`) -/
theorem C14_octets_injective32 (a b : Stamp) (ad0 : 0 ≤ a.days) (ad : a.days < 65536)
    (am0 : 0 ≤ a.ms) (am : a.ms < 4294967296) (bd0 : 0 ≤ b.days) (bd : b.days < 65536)
    (bm0 : 0 ≤ b.ms) (bm : b.ms < 4294967296) (he : Spec.octets a = Spec.octets b) : a = b :=
  ok_unique (C14_roundtrip32 a ad0 ad am0 am []) (C14_roundtrip32 b bd0 bd bm0 bm []) (congrArg (· ++ []) he)

/-- on the domain: timestamps with the same seven octets are the same (days, ms) pair -/
theorem C14_octets_injective (a b : Stamp) (wa : WF a) (wb : WF b)
    (he : Spec.octets a = Spec.octets b) : a = b :=
  ok_unique (C14_roundtrip a wa []) (C14_roundtrip b wb []) (congrArg (· ++ []) he)

/-- the same for `pack()` itself, as an iff: timestamps of the domain are equal iff they pack to the
    same octets -/
theorem C14_pack_injective (a b : Stamp) (wa : WF a) (wb : WF b) : a.pack = b.pack ↔ a = b := by
  refine ⟨fun he => ?_, fun he => by rw [he]⟩
  rw [C14_pack_exact a wa, C14_pack_exact b wb] at he
  exact C14_octets_injective a b wa wb (Except.ok.inj he)

-- non-vacuity of the injectivity statements: distinct members of the domain, distinct octets
example : WF ⟨1, 0⟩ ∧ WF ⟨0, 1⟩ ∧ Spec.octets ⟨1, 0⟩ ≠ Spec.octets ⟨0, 1⟩ := by decide

end SpVerif.Props.C14
