import SpVerif.Proofs.MsgToUser
/-!
# C18 — reserved CFDP messages (proxy, directory, originating ID) round-trip via message-to-user TLVs

`Spec.*` is the layout of CCSDS 727.0-B-5 §6.1–6.3 as closed-form octet lists:
a reserved CFDP message is a message-to-user TLV (type 2) whose value is the four ASCII octets
`"cfdp"`, one message-type octet and the fields of that message type:

* proxy put request (0x00): LV destination entity ID, LV source file name, LV destination file name;
* proxy transmission mode (0x04): 7 spare bits, transmission mode;
* proxy put response (0x07): condition code (4 bits), spare (1), delivery code (1), file status (2);
* proxy put cancel (0x09): no fields;  proxy closure request (0x0B): 7 spare bits, closure requested;
* originating transaction ID (0x0A): spare (1), length of entity ID − 1 (3), spare (1), length of
  sequence number − 1 (3), source entity ID, transaction sequence number (big-endian);
* directory listing request (0x10): LV directory name, LV directory file name;
* directory listing response (0x11): listing response code (1 bit), 7 spare bits, the two LVs;
* listing options (0x15, not in the standard — the library's own): 6 spare bits, recursive, all.

Names are octet strings (the library's API takes `CfdpLv` objects; `CfdpLv.from_str` is
`str.encode()`), entity IDs / sequence numbers are byte-field objects (width, value, octets).

Every per-kind theorem has the same shape, for ALL parameter values of an explicit decidable domain
`WF…` and ALL octet strings `rest` following the TLV: the builder succeeds with a message `r` that
`PacksTo` the Spec octets; the receiver's path on those octets (`ReceivedAs`: `MessageToUserTlv.unpack`
accepts, `is_reserved_cfdp_message` answers `True`, `to_reserved_msg_tlv` returns `r`) is followed;
`classify r` is the right classification; the getter of the kind returns exactly the original
parameters (widths included: the decoded byte-field objects are *equal* to the originals).
`C18_wrong_kind` gives `None` (never an error) for every getter of another kind.
-/
namespace SpVerif.Props.C18
open SpVerif SpVerif.Lv SpVerif.Tlv SpVerif.ByteField SpVerif.MsgToUser

/-- LV: length octet, value -/
def Spec.lv (v : Bytes) : Bytes := u8 v.length :: v
/-- a reserved CFDP message: TLV type 2, TLV length, `"cfdp"`, message type, fields -/
def Spec.reserved (msgType : Nat) (fields : Bytes) : Bytes :=
  [2, u8 (5 + fields.length), 0x63, 0x66, 0x64, 0x70, u8 msgType] ++ fields
/-- an entity ID / sequence number on the wire: big-endian in exactly its width -/
def Spec.idOctets (f : Field) : Bytes := beBytes f.width f.value
def Spec.putRequest (p : ProxyPutRequestParams) : Bytes :=
  Spec.reserved 0x00 (Spec.lv (Spec.idOctets p.destEntityId) ++ Spec.lv p.sourceFileName.value ++
    Spec.lv p.destFileName.value)
def Spec.transmissionMode (mode : Nat) : Bytes := Spec.reserved 0x04 [u8 mode]
def Spec.putResponse (cc dc fs : Nat) : Bytes := Spec.reserved 0x07 [u8 (cc * 16 + dc * 4 + fs)]
def Spec.putCancel : Bytes := Spec.reserved 0x09 []
def Spec.closureRequest (closure : Nat) : Bytes := Spec.reserved 0x0B [u8 closure]
def Spec.originatingId (tid : TransactionId) : Bytes :=
  Spec.reserved 0x0A (u8 ((tid.sourceId.width - 1) * 16 + (tid.seqNum.width - 1)) ::
    (Spec.idOctets tid.sourceId ++ Spec.idOctets tid.seqNum))
def Spec.listingRequest (p : DirectoryParams) : Bytes :=
  Spec.reserved 0x10 (Spec.lv p.dirPath.value ++ Spec.lv p.dirFileName.value)
def Spec.listingResponse (success : Bool) (p : DirectoryParams) : Bytes :=
  Spec.reserved 0x11 (u8 (if success then 128 else 0) :: (Spec.lv p.dirPath.value ++ Spec.lv p.dirFileName.value))
def Spec.listingOptions (o : DirListingOptions) : Bytes := Spec.reserved 0x15 [u8 (o.recursive * 2 + o.all)]

/-- classification of a reserved message by its type octet -/
structure Kind where
  msgType : Nat
  proxy : Bool
  directory : Bool
  originatingId : Bool
  proxyType : Option Nat
  directoryType : Option Nat
deriving DecidableEq, Repr

/-- proxy operations: 0x00–0x09 and 0x0B; originating transaction ID: 0x0A; directory operations:
    0x10, 0x11 (and the library's 0x15) -/
def Spec.kind (t : Nat) : Kind :=
  let px := decide (t ≤ 9 ∨ t = 11)
  let dr := decide (t = 16 ∨ t = 17 ∨ t = 21)
  ⟨t, px, dr, decide (t = 10), if px then some t else none, if dr then some t else none⟩

/-- all classification methods of a reserved message -/
def classify (r : ReservedCfdpMessage) : Py Kind := do
  let t ← r.msgType
  let p ← r.isCfdpProxyOperation
  let d ← r.isDirectoryOperation
  let o ← r.isOriginatingTransactionId
  let pt ← r.getCfdpProxyMessageType
  let dt ← r.getDirectoryOperationType
  pure ⟨t, p, d, o, pt, dt⟩

/-- `r.pack()` is exactly `octets` and `r.packet_len` their number -/
def PacksTo (r : ReservedCfdpMessage) (octets : Bytes) : Prop :=
  r.pack = .ok octets ∧ r.packetLen = octets.length

/-- the receiver's path on `raw`: `MessageToUserTlv.unpack` accepts, `is_reserved_cfdp_message()`
    answers `True`, `to_reserved_msg_tlv()` returns `r` -/
def ReceivedAs (raw : Bytes) (r : ReservedCfdpMessage) : Prop :=
  ∃ mu, MessageToUserTlv.unpack raw = .ok mu ∧ mu.isReservedCfdpMessage = true ∧
    toReservedMsgTlv mu = .ok (some r)

/-- an entity ID / sequence number as the constructors of `UnsignedByteField` build it:
    width 1, 2, 4 or 8, value in range, octets = big-endian encoding -/
def WFId (f : Field) : Prop :=
  (f.width = 1 ∨ f.width = 2 ∨ f.width = 4 ∨ f.width = 8) ∧ f.value < 256 ^ f.width ∧
    f.bytes = beBytes f.width f.value
instance (f : Field) : Decidable (WFId f) := by unfold WFId; infer_instance

/-- proxy put request: the three LVs fit into the 255-octet TLV value after `"cfdp"` and the type -/
def WFPutRequest (p : ProxyPutRequestParams) : Prop :=
  WFId p.destEntityId ∧
    3 + p.destEntityId.width + p.sourceFileName.value.length + p.destFileName.value.length ≤ 250
instance (p : ProxyPutRequestParams) : Decidable (WFPutRequest p) := by unfold WFPutRequest; infer_instance

def WFTransactionId (tid : TransactionId) : Prop := WFId tid.sourceId ∧ WFId tid.seqNum
instance (t : TransactionId) : Decidable (WFTransactionId t) := by unfold WFTransactionId; infer_instance

def WFListingRequest (p : DirectoryParams) : Prop := 2 + p.dirPath.value.length + p.dirFileName.value.length ≤ 250
instance (p : DirectoryParams) : Decidable (WFListingRequest p) := by unfold WFListingRequest; infer_instance
def WFListingResponse (p : DirectoryParams) : Prop := 3 + p.dirPath.value.length + p.dirFileName.value.length ≤ 250
instance (p : DirectoryParams) : Decidable (WFListingResponse p) := by unfold WFListingResponse; infer_instance

/-- every non-negative member of `ConditionCode`, both delivery codes, all four file statuses -/
def WFPutResponse (cc dc fs : Nat) : Prop := cc ∈ conditionCodes ∧ dc < 2 ∧ fs < 4
instance (cc dc fs : Nat) : Decidable (WFPutResponse cc dc fs) := by unfold WFPutResponse; infer_instance

def WFListingOptions (o : DirListingOptions) : Prop := o.recursive < 2 ∧ o.all < 2
instance (o : DirListingOptions) : Decidable (WFListingOptions o) := by unfold WFListingOptions; infer_instance

-- non-vacuity: concrete non-trivial members of each domain (every ID width, non-ASCII and long names)
example : WFId ⟨1, 255, [255]⟩ ∧ WFId ⟨2, 513, [2, 1]⟩ ∧ WFId ⟨4, 0xDEADBEEF, [0xDE, 0xAD, 0xBE, 0xEF]⟩ ∧
    WFId ⟨8, 2 ^ 64 - 1, List.replicate 8 255⟩ ∧ ¬ WFId ⟨3, 1, [0, 0, 1]⟩ ∧ ¬ WFId ⟨0, 0, []⟩ ∧
    ¬ WFId ⟨2, 1, [1, 0]⟩ := by decide +kernel
example : WFPutRequest ⟨⟨2, 513, [2, 1]⟩, ⟨[0x61, 0xC3, 0xA4, 0x2E, 0x74]⟩, ⟨[]⟩⟩ := by decide
example : WFPutRequest ⟨⟨8, 7, [0, 0, 0, 0, 0, 0, 0, 7]⟩, ⟨List.replicate 200 0x61⟩, ⟨List.replicate 39 0xFF⟩⟩ ∧
    ¬ WFPutRequest ⟨⟨8, 7, [0, 0, 0, 0, 0, 0, 0, 7]⟩, ⟨List.replicate 200 0x61⟩, ⟨List.replicate 40 0xFF⟩⟩ := by
  decide +kernel
example : WFTransactionId ⟨⟨8, 2 ^ 64 - 1, List.replicate 8 255⟩, ⟨1, 9, [9]⟩⟩ := by decide +kernel
example : WFListingRequest ⟨⟨List.replicate 248 0x2F⟩, ⟨[]⟩⟩ ∧ ¬ WFListingRequest ⟨⟨List.replicate 248 0x2F⟩, ⟨[0]⟩⟩ ∧
    WFListingResponse ⟨⟨[0xE2, 0x82, 0xAC]⟩, ⟨List.replicate 244 0x78⟩⟩ := by decide +kernel
example : WFPutResponse 15 1 3 ∧ ¬ WFPutResponse 9 0 0 ∧ WFListingOptions ⟨1, 1⟩ := by decide

private theorem wfId_inv {f : Field} (h : WFId f) : ByteField.Inv f ∧ W f.width :=
  ⟨⟨Or.inr h.1, h.2⟩, h.1⟩

private theorem spec_lv (v : Bytes) : Spec.lv v = lvOf v := rfl

private theorem spec_id {f : Field} (h : WFId f) : Spec.idOctets f = f.bytes := h.2.2.symm

private theorem classify_rsv (ty : Nat) (t : UInt8) (v : Bytes) :
    classify (rsv ty t v) = .ok (Spec.kind t.toNat) := by
  have hp : ∀ n : Nat, n ∈ proxyTypes ↔ (n ≤ 9 ∨ n = 11) := by
    intro n; simp only [proxyTypes, List.mem_cons, List.not_mem_nil, or_false]; omega
  have hd : ∀ n : Nat, n ∈ dirOpTypes ↔ (n = 16 ∨ n = 17 ∨ n = 21) := by
    intro n; simp only [dirOpTypes, List.mem_cons, List.not_mem_nil, or_false]
  simp only [classify, ReservedCfdpMessage.isCfdpProxyOperation, ReservedCfdpMessage.isDirectoryOperation,
    ReservedCfdpMessage.isOriginatingTransactionId, ReservedCfdpMessage.getCfdpProxyMessageType,
    ReservedCfdpMessage.getDirectoryOperationType, msgType_rsv, bind_ok, pure, Except.pure,
    ← apply_ite (Except.ok : Option Nat → Py _), hp, hd]
  simp [Spec.kind, origIdType]
  exact decide_eq_decide.2 Iff.rfl

private theorem kind_of (t : Nat) (ht : t < 256) : Spec.kind (u8 t).toNat = Spec.kind t := by
  have : (u8 t).toNat = t := by simp; omega
  rw [this]

/-- pack → decode → recognise → convert → classify, for any message type and any fields that fit -/
private theorem built (t : Nat) (ht : t < 256) (v rest : Bytes) (hv : v.length ≤ 250) :
    PacksTo (rsv tMsgToUser (u8 t) v) (Spec.reserved t v) ∧
    ReceivedAs (Spec.reserved t v ++ rest) (rsv tMsgToUser (u8 t) v) ∧
    classify (rsv tMsgToUser (u8 t) v) = .ok (Spec.kind t) := by
  have hl : (shape (u8 t) v).length ≤ 255 := by rw [shape_length]; omega
  have es : Spec.reserved t v = u8 tMsgToUser :: u8 (shape (u8 t) v).length :: shape (u8 t) v := by
    rw [shape_length]; rfl
  rw [es, classify_rsv, kind_of t ht]
  exact ⟨⟨CfdpTlv.pack_eq ⟨tMsgToUser, _⟩ (show tMsgToUser < 256 by decide) hl, Nat.add_comm 2 _⟩,
    ⟨_, MessageToUserTlv.unpack_pack_append _ rest hl, isReserved_shape _ _ _, by rw [toReserved_shape, if_pos hv]⟩,
    rfl⟩

/-- **proxy put request** (0x00): for every destination entity ID of width 1, 2, 4 or 8 and all
    source / destination names that fit -/
theorem C18_put_request (p : ProxyPutRequestParams) (wf : WFPutRequest p) (rest : Bytes) :
    ∃ r, ProxyPutRequest.new p = .ok r ∧ PacksTo r (Spec.putRequest p) ∧
      ReceivedAs (Spec.putRequest p ++ rest) r ∧ classify r = .ok (Spec.kind 0) ∧
      r.getProxyPutRequestParams = .ok (some p) := by
  obtain ⟨hid, hlen⟩ := wf
  obtain ⟨hI, hW⟩ := wfId_inv hid
  have l1 := hI.length
  have hv : (putReqValue p).length ≤ 250 := by rw [putReqValue_length, l1]; exact hlen
  have h1 : p.destEntityId.bytes.length ≤ 255 := by omega
  have es : Spec.putRequest p = Spec.reserved pPutRequest (putReqValue p) := by
    simp [Spec.putRequest, putReqValue, spec_lv, spec_id hid, pPutRequest]
  obtain ⟨a, b, c⟩ := built pPutRequest (by decide) (putReqValue p) rest hv
  rw [es]
  refine ⟨_, by rw [ProxyPutRequest.new_eq, if_pos ⟨h1, by omega, by omega, hv⟩], a, b, c, ?_⟩
  rw [getPutReq_rsv]
  show (CfdpLv.unpack (putReqValue p) >>= _) = _
  rw [putReqValue, lv_unpack _ _ h1, bind_ok, CfdpLv.packetLen, lv_drop,
    if_neg (by simp only [List.length_append, lvOf_length]; omega), lv_unpack _ _ (by omega), bind_ok,
    CfdpLv.packetLen, ← List.drop_drop, lv_drop, lv_drop,
    if_neg (by simp only [List.length_append, lvOf_length]; omega), lv_unpack_nil _ (by omega), bind_ok,
    fromBytes_field _ hI hW]
  rfl

/-- **proxy put cancel** (0x09) -/
theorem C18_put_cancel (rest : Bytes) :
    ∃ r, ProxyCancelRequest.new = .ok r ∧ PacksTo r Spec.putCancel ∧ ReceivedAs (Spec.putCancel ++ rest) r ∧
      classify r = .ok (Spec.kind 9) := by
  obtain ⟨a, b, c⟩ := built pPutCancel (by decide) [] rest (Nat.zero_le _)
  exact ⟨_, ProxyCancelRequest.new_eq, a, b, c⟩

/-- **proxy closure request** (0x0B): both values -/
theorem C18_closure_request (c : Nat) (wf : c < 2) (rest : Bytes) :
    ∃ r, ProxyClosureRequest.new c = .ok r ∧ PacksTo r (Spec.closureRequest c) ∧
      ReceivedAs (Spec.closureRequest c ++ rest) r ∧ classify r = .ok (Spec.kind 11) ∧
      r.getProxyClosureRequested = .ok (some c) := by
  obtain ⟨a, b, c'⟩ := built pClosureRequest (by decide) [u8 c] rest (Nat.le_add_left 1 249)
  refine ⟨_, by rw [ProxyClosureRequest.new_eq, if_pos (by omega)], a, b, c', ?_⟩
  rw [getClosure_rsv]
  show Except.ok (some ((u8 c).toNat % 2)) = _
  rw [u8_toNat, show c % 256 % 2 = c by omega]

/-- **proxy transmission mode** (0x04): acknowledged (0) and unacknowledged (1) -/
theorem C18_transmission_mode (mode : Nat) (wf : mode < 2) (rest : Bytes) :
    ∃ r, ProxyTransmissionMode.new mode = .ok r ∧ PacksTo r (Spec.transmissionMode mode) ∧
      ReceivedAs (Spec.transmissionMode mode ++ rest) r ∧ classify r = .ok (Spec.kind 4) ∧
      r.getProxyTransmissionMode = .ok (some mode) := by
  obtain ⟨a, b, c⟩ := built pTransmissionMode (by decide) [u8 mode] rest (Nat.le_add_left 1 249)
  refine ⟨_, by rw [ProxyTransmissionMode.new_eq, if_pos (by omega)], a, b, c, ?_⟩
  rw [getTxMode_rsv]
  show Except.ok (some ((u8 mode).toNat % 2)) = _
  rw [u8_toNat, show mode % 256 % 2 = mode by omega]

/-- **originating transaction ID** (0x0A): all 16 pairs of widths, every value of either field;
    the decoded fields are the original objects (width, value and octets) -/
theorem C18_originating_id (tid : TransactionId) (wf : WFTransactionId tid) (rest : Bytes) :
    ∃ r, OriginatingTransactionId.new tid = .ok r ∧ PacksTo r (Spec.originatingId tid) ∧
      ReceivedAs (Spec.originatingId tid ++ rest) r ∧ classify r = .ok (Spec.kind 10) ∧
      r.getOriginatingTransactionId = .ok (some tid) := by
  obtain ⟨ws, wq⟩ := wf
  obtain ⟨hI1, hW1⟩ := wfId_inv ws
  obtain ⟨hI2, hW2⟩ := wfId_inv wq
  have l1 := hI1.length
  have l2 := hI2.length
  have hv : (origIdValue tid).length ≤ 250 := by
    simp only [origIdValue, List.length_cons, List.length_append, l1, l2]
    unfold W at hW1 hW2; omega
  have es : Spec.originatingId tid = Spec.reserved origIdType (origIdValue tid) := by
    simp [Spec.originatingId, origIdValue, spec_id ws, spec_id wq, origIdType]
  obtain ⟨a, b, c⟩ := built origIdType (by decide) (origIdValue tid) rest hv
  rw [es]
  refine ⟨_, by rw [OriginatingTransactionId.new_eq, if_pos ⟨hW1, hW2, hv⟩], a, b, c, ?_⟩
  obtain ⟨n1, n2⟩ := orig_nibbles _ _ hW1 hW2
  rw [getOrig_rsv, if_neg (show ¬ ((u8 origIdType).toNat ≠ origIdType) by decide)]
  simp only [origIdValue, u8_toNat, n1, n2, List.length_append, l1, l2]
  rw [if_neg (by omega), List.take_left' l1, List.drop_left' l1, ← l2, List.take_length,
    fromBytes_field _ hI1 hW1, bind_ok, fromBytes_field _ hI2 hW2]
  rfl

/-- **directory listing request** (0x10): all directory and file names that fit -/
theorem C18_listing_request (p : DirectoryParams) (wf : WFListingRequest p) (rest : Bytes) :
    ∃ r, DirectoryListingRequest.new p = .ok r ∧ PacksTo r (Spec.listingRequest p) ∧
      ReceivedAs (Spec.listingRequest p ++ rest) r ∧ classify r = .ok (Spec.kind 16) ∧
      r.getDirListingRequestParams = .ok (some p) := by
  have hv : (dirValue p).length ≤ 250 := by rw [dirValue_length]; exact wf
  unfold WFListingRequest at wf
  obtain ⟨a, b, c⟩ := built dListingRequest (by decide) (dirValue p) rest hv
  refine ⟨_, by rw [DirectoryListingRequest.new_eq, if_pos ⟨by omega, by omega, hv⟩], a, b, c, ?_⟩
  rw [getDirReq_rsv]
  exact dir_two p (by omega) (by omega) _

/-- **directory listing response** (0x11): success and failure, all names that fit -/
theorem C18_listing_response (s : Bool) (p : DirectoryParams) (wf : WFListingResponse p) (rest : Bytes) :
    ∃ r, DirectoryListingResponse.new s p = .ok r ∧ PacksTo r (Spec.listingResponse s p) ∧
      ReceivedAs (Spec.listingResponse s p ++ rest) r ∧ classify r = .ok (Spec.kind 17) ∧
      r.getDirListingResponseParams = .ok (some (s, p)) := by
  unfold WFListingResponse at wf
  have hv : (dirRespValue s p).length ≤ 250 := by
    rw [dirRespValue, List.length_cons, dirValue_length]; omega
  obtain ⟨a, b, c⟩ := built dListingResponse (by decide) (dirRespValue s p) rest hv
  refine ⟨_, by rw [DirectoryListingResponse.new_eq, if_pos ⟨by omega, by omega, hv⟩], a, b, c, ?_⟩
  rw [getDirResp_rsv]
  refine (dir_two p (by omega) (by omega) _).trans ?_
  cases s <;> rfl

/-- **listing options** (0x15): all four (recursive, all) pairs -/
theorem C18_listing_options (o : DirListingOptions) (wf : WFListingOptions o) (rest : Bytes) :
    ∃ r, DirectoryListingParameters.new o = .ok r ∧ PacksTo r (Spec.listingOptions o) ∧
      ReceivedAs (Spec.listingOptions o ++ rest) r ∧ classify r = .ok (Spec.kind 21) ∧
      r.getDirListingOptions = .ok (some o) := by
  obtain ⟨hr, ha⟩ := wf
  obtain ⟨a, b, c⟩ := built dCustomListingParameters (by decide) [u8 (o.recursive * 2 + o.all)] rest
    (Nat.le_add_left 1 249)
  refine ⟨_, by rw [DirectoryListingParameters.new_eq o ha, if_pos (by omega)], a, b, c, ?_⟩
  rw [getDirOpts_rsv]
  show Except.ok (some (DirListingOptions.mk ((u8 (o.recursive * 2 + o.all)).toNat / 2 % 2) _)) = _
  rw [u8_toNat, Nat.mod_eq_of_lt (show o.recursive * 2 + o.all < 256 by omega),
    show (o.recursive * 2 + o.all) / 2 % 2 = o.recursive by omega,
    show (o.recursive * 2 + o.all) % 2 = o.all by omega]

/-- **proxy put response** (0x07): every condition code × delivery code × file status, built
    directly or from the parameters of a Finished PDU -/
theorem C18_put_response (cc dc fs : Nat) (wf : WFPutResponse cc dc fs) (rest : Bytes) :
    ∃ r, ProxyPutResponse.new ⟨(cc : Int), dc, fs⟩ = .ok r ∧
      ProxyPutResponse.new (ProxyPutResponseParams.fromFinishedParams (cc : Int) dc fs) = .ok r ∧
      PacksTo r (Spec.putResponse cc dc fs) ∧ ReceivedAs (Spec.putResponse cc dc fs ++ rest) r ∧
      classify r = .ok (Spec.kind 7) ∧
      r.getProxyPutResponseParams = .ok (some ⟨(cc : Int), dc, fs⟩) := by
  obtain ⟨hcc, hdc, hfs⟩ := wf
  have hc : cc < 16 := by
    simp only [conditionCodes, List.mem_cons, List.not_mem_nil, or_false] at hcc; omega
  have hn : ProxyPutResponse.new ⟨(cc : Int), dc, fs⟩ =
      .ok (rsv tMsgToUser (u8 pPutResponse) [u8 (cc * 16 + dc * 4 + fs)]) := by
    rw [ProxyPutResponse.new_nat cc dc fs (by omega) hfs, if_pos (by omega)]
  obtain ⟨a, b, c⟩ := built pPutResponse (by decide) [u8 (cc * 16 + dc * 4 + fs)] rest (Nat.le_add_left 1 249)
  refine ⟨_, hn, hn, a, b, c, ?_⟩
  rw [getPutResp_rsv]
  show (if _ ∈ conditionCodes then _ else _) = _
  rw [u8_toNat, Nat.mod_eq_of_lt (show cc * 16 + dc * 4 + fs < 256 by omega),
    show (cc * 16 + dc * 4 + fs) / 16 = cc by omega, if_pos hcc,
    show (cc * 16 + dc * 4 + fs) / 4 % 2 = dc by omega, show (cc * 16 + dc * 4 + fs) % 4 = fs by omega]

theorem C18_put_response_no_condition_field (cc : Int) (dc fs : Nat) (h : cc < 0) :
    ProxyPutResponse.new ⟨cc, dc, fs⟩ = .error .value :=
  ProxyPutResponse.new_neg _ h

/-- `is_reserved_cfdp_message()` is a total Boolean function (it has no error case at all) and
    answers `True` exactly for a value of at least five octets whose first four are `"cfdp"` -/
theorem C18_reserved_iff (m : MessageToUserTlv) :
    m.isReservedCfdpMessage = true ↔
      5 ≤ m.tlv.value.length ∧ m.tlv.value.take 4 = [0x63, 0x66, 0x64, 0x70] :=
  isReserved_iff m

/-- **every other message-to-user content is not reserved**: for EVERY octet string (any length,
    any octets — UTF-8 or not), `False`, and the conversion returns `None`; never an error -/
theorem C18_not_reserved (m : MessageToUserTlv)
    (h : ¬ (5 ≤ m.tlv.value.length ∧ m.tlv.value.take 4 = [0x63, 0x66, 0x64, 0x70])) :
    m.isReservedCfdpMessage = false ∧ toReservedMsgTlv m = .ok none := by
  have h1 := Bool.eq_false_iff.2 fun hr => h ((isReserved_iff m).1 hr)
  exact ⟨h1, toReserved_not m h1⟩

/-- the same through the packed TLV: decoding any TLV whose value is not reserved and asking gives
    `False` / `None` -/
theorem C18_not_reserved_via_tlv (v rest : Bytes) (hv : v.length ≤ 255)
    (h : ¬ (5 ≤ v.length ∧ v.take 4 = [0x63, 0x66, 0x64, 0x70])) :
    ∃ mu, MessageToUserTlv.unpack (u8 2 :: u8 v.length :: v ++ rest) = .ok mu ∧ mu.value = v ∧
      mu.isReservedCfdpMessage = false ∧ toReservedMsgTlv mu = .ok none := by
  obtain ⟨a, b⟩ := C18_not_reserved ⟨⟨2, v⟩⟩ h
  exact ⟨_, MessageToUserTlv.unpack_pack_append v rest hv, rfl, a, b⟩

/-- going through the generic TLV and `TlvHolder.to_msg_to_user()` is the same function -/
theorem C18_holder_route (d : Bytes) :
    (CfdpTlv.unpack d >>= fun t => holderToMsgToUser (.generic t)) = MessageToUserTlv.unpack d := rfl

theorem C18_conversion_total (d : Bytes) (m : MessageToUserTlv) (h : MessageToUserTlv.unpack d = .ok m) :
    ∃ x, toReservedMsgTlv m = .ok x := by
  obtain ⟨tl, hu, hf⟩ := bind_ok_inv h
  rw [MessageToUserTlv.fromTlv_eq] at hf
  split at hf <;> cases hf
  have hl := (CfdpTlv.unpack_spec d tl hu).2.1
  cases hr : (MessageToUserTlv.mk tl).isReservedCfdpMessage with
  | false => exact ⟨none, toReserved_not _ hr⟩
  | true =>
    obtain ⟨t, v, e⟩ := reserved_shape _ hr
    have hv : v.length ≤ 250 := by
      have := congrArg (·.tlv.value.length) e
      simp only [shape_length] at this; omega
    exact ⟨some (rsv tMsgToUser t v), by rw [e, toReserved_shape, if_pos hv]⟩

/-- **classification for all 256 type octets**: whatever `to_reserved_msg_tlv()` returns has the
    value of the TLV, `"cfdp"` + type octet + fields, and is classified by the type octet alone —
    never an error -/
theorem C18_classification (m : MessageToUserTlv) (r : ReservedCfdpMessage)
    (h : toReservedMsgTlv m = .ok (some r)) :
    ∃ (t : UInt8) (fields : Bytes), m.tlv.value = [0x63, 0x66, 0x64, 0x70] ++ t :: fields ∧
      r.value = m.tlv.value ∧ r.tlvType = 2 ∧ classify r = .ok (Spec.kind t.toNat) := by
  obtain ⟨t, v, e, hr⟩ := toReserved_some m r h
  subst hr
  exact ⟨t, v, e, e.symm, rfl, classify_rsv _ _ _⟩

/-- **a getter of another kind answers `None`**, never an error, whatever the fields are -/
theorem C18_wrong_kind (m : MessageToUserTlv) (r : ReservedCfdpMessage)
    (h : toReservedMsgTlv m = .ok (some r)) (t : Nat) (ht : r.msgType = .ok t) :
    (t ≠ 0 → r.getProxyPutRequestParams = .ok none) ∧
    (t ≠ 7 → r.getProxyPutResponseParams = .ok none) ∧
    (t ≠ 11 → r.getProxyClosureRequested = .ok none) ∧
    (t ≠ 4 → r.getProxyTransmissionMode = .ok none) ∧
    (t ≠ 10 → r.getOriginatingTransactionId = .ok none) ∧
    (t ≠ 16 → r.getDirListingRequestParams = .ok none) ∧
    (t ≠ 17 → r.getDirListingResponseParams = .ok none) ∧
    (t ≠ 21 → r.getDirListingOptions = .ok none) := by
  obtain ⟨t', v, _, hr⟩ := toReserved_some m r h
  subst hr
  rw [msgType_rsv] at ht
  cases ht
  exact ⟨fun h => (getPutReq_rsv _ _ _).trans (if_pos h), fun h => (getPutResp_rsv _ _ _).trans (if_pos h),
    fun h => (getClosure_rsv _ _ _).trans (if_pos h), fun h => (getTxMode_rsv _ _ _).trans (if_pos h),
    fun h => (getOrig_rsv _ _ _).trans (if_pos h), fun h => (getDirReq_rsv _ _ _).trans (if_pos h),
    fun h => (getDirResp_rsv _ _ _).trans (if_pos h), fun h => (getDirOpts_rsv _ _ _).trans (if_pos h)⟩

private theorem doc_param {β : Type} {v : Bytes} {k : UInt8 → Bytes → Py β} (h : ∀ b w, Documented (k b w)) :
    Documented (match v with | [] => .error .value | b :: w => k b w) := by
  cases v with
  | nil => exact Documented.err rfl
  | cons b w => exact h b w

/-- **malformed reserved messages fail only in the documented way**: on whatever the conversion
    returns (any type octet, any fields: cut short, wrong widths, LV lengths beyond the value),
    the conversion and all eight getters either return or raise `ValueError` — no `IndexError`,
    `struct.error`, `AssertionError` -/
theorem C18_documented (m : MessageToUserTlv) :
    Documented (toReservedMsgTlv m) ∧
    ∀ r, toReservedMsgTlv m = .ok (some r) →
      Documented r.getProxyPutRequestParams ∧ Documented r.getProxyPutResponseParams ∧
      Documented r.getProxyClosureRequested ∧ Documented r.getProxyTransmissionMode ∧
      Documented r.getOriginatingTransactionId ∧ Documented r.getDirListingRequestParams ∧
      Documented r.getDirListingResponseParams ∧ Documented r.getDirListingOptions ∧
      (∃ k, classify r = .ok k) := by
  refine ⟨toReserved_documented m, ?_⟩
  intro r h
  obtain ⟨t, v, _, hr⟩ := toReserved_some m r h
  subst hr
  have lv := CfdpLv.unpack_documented
  have fb := fromBytes_documented
  rw [getPutReq_rsv, getPutResp_rsv, getClosure_rsv, getTxMode_rsv, getOrig_rsv, getDirReq_rsv, getDirResp_rsv,
    getDirOpts_rsv]
  exact ⟨.ite (.ok _) (.bind (lv _) fun _ _ => .ite (.ok _) (.bind (lv _) fun _ _ => .ite (.ok _)
      (.bind (lv _) fun _ _ => .bind (fb _) fun _ _ => .ok _))),
    .ite (.ok _) (doc_param fun _ _ => .ite (.ok _) (.err rfl)),
    .ite (.ok _) (doc_param fun _ _ => .ok _), .ite (.ok _) (doc_param fun _ _ => .ok _),
    .ite (.ok _) (doc_param fun _ _ => .ite (.err rfl) (.bind (fb _) fun _ _ => .bind (fb _) fun _ _ => .ok _)),
    .ite (.ok _) (.bind (lv _) fun _ _ => .bind (lv _) fun _ _ => .ok _),
    .ite (.ok _) (doc_param fun _ _ => .bind (lv _) fun _ _ => .bind (lv _) fun _ _ => .ok _),
    .ite (.ok _) (doc_param fun _ _ => .ok _), _, classify_rsv _ _ _⟩

/-- all eight getters refuse a bare `"cfdp"` + type with `ValueError`: six miss the parameter octet, two
    the first LV -/
theorem C18_parameter_octet_missing (ty : Nat) :
    (rsv ty 7 []).getProxyPutResponseParams = .error .value ∧
    (rsv ty 11 []).getProxyClosureRequested = .error .value ∧
    (rsv ty 4 []).getProxyTransmissionMode = .error .value ∧
    (rsv ty 10 []).getOriginatingTransactionId = .error .value ∧
    (rsv ty 17 []).getDirListingResponseParams = .error .value ∧
    (rsv ty 21 []).getDirListingOptions = .error .value ∧
    (rsv ty 0 []).getProxyPutRequestParams = .error .value ∧
    (rsv ty 16 []).getDirListingRequestParams = .error .value :=
  ⟨rfl, rfl, rfl, rfl, rfl, rfl, rfl, rfl⟩

/-- **fields that do not fit the one-octet TLV length are refused** with `ValueError` by the three
    builders with variable-length fields -/
theorem C18_refuse_too_long :
    (∀ p : ProxyPutRequestParams,
      250 < 3 + p.destEntityId.bytes.length + p.sourceFileName.value.length + p.destFileName.value.length →
      ProxyPutRequest.new p = .error .value) ∧
    (∀ p : DirectoryParams, 250 < 2 + p.dirPath.value.length + p.dirFileName.value.length →
      DirectoryListingRequest.new p = .error .value) ∧
    (∀ (s : Bool) (p : DirectoryParams), 250 < 3 + p.dirPath.value.length + p.dirFileName.value.length →
      DirectoryListingResponse.new s p = .error .value) := by
  refine ⟨?_, ?_, ?_⟩
  · intro p h
    rw [ProxyPutRequest.new_eq, if_neg]
    rw [putReqValue_length]; omega
  · intro p h
    rw [DirectoryListingRequest.new_eq, if_neg]
    rw [dirValue_length]; omega
  · intro s p h
    rw [DirectoryListingResponse.new_eq, if_neg]
    simp only [dirRespValue, List.length_cons, dirValue_length]; omega

/-- the originating-ID builder refuses every width other than 1, 2, 4, 8 (also the empty field) -/
theorem C18_originating_id_bad_width (tid : TransactionId)
    (h : ¬ (tid.sourceId.width ∈ [1, 2, 4, 8] ∧ tid.seqNum.width ∈ [1, 2, 4, 8])) :
    OriginatingTransactionId.new tid = .error .value := by
  rw [OriginatingTransactionId.new_eq, if_neg]
  rintro ⟨a, b, _⟩
  exact h ⟨(W_mem _).2 a, (W_mem _).2 b⟩

/-- **index arithmetic over consecutive LVs** (list induction, any number of LVs, any lengths
    0..255): the `k`-th LV starts where the `k` previous ones end — at the sum of their packet
    lengths `value length + 1` — and decodes to the `k`-th value, whatever follows the sequence -/
theorem C18_consecutive_lvs (vs : List Bytes) (rest : Bytes) (k : Nat) (hk : k < vs.length)
    (h : ∀ v ∈ vs, v.length ≤ 255) :
    CfdpLv.unpack ((vs.flatMap Spec.lv ++ rest).drop (((vs.take k).map (fun v => v.length + 1)).sum)) =
      .ok ⟨vs[k]⟩ := by
  induction vs generalizing k with
  | nil => cases hk
  | cons a vs ih =>
    rw [List.flatMap_cons, List.append_assoc]
    cases k with
    | zero => exact lv_unpack a _ (h a List.mem_cons_self)
    | succ k =>
      rw [List.take_succ_cons, List.map_cons, List.sum_cons, ← List.drop_drop]
      exact (congrArg CfdpLv.unpack (congrArg _ (lv_drop a _))).trans
        (ih k (Nat.lt_of_succ_lt_succ hk) fun v hv => h v (List.mem_cons_of_mem _ hv))

/-- names that are text come back as the same text (`*_as_str` = UTF-8 decoding) -/
theorem C18_names_as_str (p : ProxyPutRequestParams) (d : DirectoryParams)
    (h1 : utf8Valid p.sourceFileName.value = true) (h2 : utf8Valid p.destFileName.value = true)
    (h3 : utf8Valid d.dirPath.value = true) (h4 : utf8Valid d.dirFileName.value = true) :
    p.sourceFileAsStr = .ok p.sourceFileName.value ∧ p.destFileAsStr = .ok p.destFileName.value ∧
    d.dirPathAsStr = .ok d.dirPath.value ∧ d.dirFileNameAsStr = .ok d.dirFileName.value :=
  ⟨decodeUtf8_ok h1, decodeUtf8_ok h2, decodeUtf8_ok h3, decodeUtf8_ok h4⟩

/-- the domain `WFId` is exactly what the byte-field constructors return for widths 1, 2, 4, 8:
    every in-range (width, value) pair is a member, and every member is such a constructor result -/
theorem C18_ids (w v : Nat) (hw : w = 1 ∨ w = 2 ∨ w = 4 ∨ w = 8) (hv : v < 256 ^ w) :
    Field.new (v : Int) (w : Int) = .ok ⟨w, v, beBytes w v⟩ ∧ WFId ⟨w, v, beBytes w v⟩ ∧
    ∀ f, WFId f → Field.new (f.value : Int) (f.width : Int) = .ok f := by
  have hw0 : W0 w := by unfold W0; omega
  refine ⟨by rw [ByteField.new_nat hw0, if_pos hv], ⟨hw, hv, rfl⟩, ?_⟩
  intro f hf
  obtain ⟨a, b, c⟩ := hf
  have : W0 f.width := by unfold W0; omega
  rw [ByteField.new_nat this, if_pos b, ← c]

/-- **`TransactionId.__eq__` / `__hash__` are functions of the two VALUES** (source entity ID value,
    sequence number value; the field widths are not compared): two transaction IDs with equal values
    are `==` and hash equal — whatever their widths —, two with a different source-ID value or a
    different sequence-number value are not `==`, and `==` holds exactly when the hashed tuples are
    equal. (For the decoded against the original ID the round-trip theorem gives more: equality of
    the whole objects, widths included.) -/
theorem C18_transaction_id_eq (a b : TransactionId) :
    (a.sourceId.value = b.sourceId.value ∧ a.seqNum.value = b.seqNum.value →
      a.beq b = true ∧ b.beq a = true ∧ a.hashKey = b.hashKey) ∧
    (a.sourceId.value ≠ b.sourceId.value ∨ a.seqNum.value ≠ b.seqNum.value →
      a.beq b = false ∧ b.beq a = false ∧ a.hashKey ≠ b.hashKey) ∧
    (a.beq b = true ↔ a.hashKey = b.hashKey) := by
  refine ⟨fun ⟨h1, h2⟩ => ?_, fun h => ?_, ?_⟩
  · simp [TransactionId.beq, TransactionId.hashKey, h1, h2]
  · simp only [TransactionId.beq, TransactionId.hashKey, Bool.and_eq_false_iff, beq_eq_false_iff_ne, ne_eq,
      Prod.mk.injEq, not_and]
    rcases h with h | h
    · exact ⟨.inl h, .inl (fun e => h e.symm), fun e => absurd e h⟩
    · exact ⟨.inr h, .inr (fun e => h e.symm), fun _ => h⟩
  · simp [TransactionId.beq, TransactionId.hashKey]

-- equal values in different widths are `==`; one differing value is not
example : TransactionId.beq ⟨⟨1, 5, [5]⟩, ⟨2, 7, [0, 7]⟩⟩ ⟨⟨4, 5, [0, 0, 0, 5]⟩, ⟨1, 7, [7]⟩⟩ = true ∧
    TransactionId.beq ⟨⟨1, 5, [5]⟩, ⟨2, 7, [0, 7]⟩⟩ ⟨⟨1, 5, [5]⟩, ⟨2, 8, [0, 8]⟩⟩ = false := by decide

-- the library's second length guard of `get_originating_transaction_id` is too weak (it does not
-- count the six octets before the fields): a value announcing 8 + 8 octets but carrying 8 + 4 is
-- decoded as an (8, 4)-octet pair instead of being refused. Not part of the statement (the decoder
-- stays inside the value and raises nothing); recorded here so that the model is seen to follow the code.
example : (rsv 2 10 (0x77 :: List.replicate 12 1)).getOriginatingTransactionId =
    .ok (some ⟨⟨8, 0x0101010101010101, List.replicate 8 1⟩, ⟨4, 0x01010101, List.replicate 4 1⟩⟩) := by decide +kernel

/-! ## distinct messages of one kind never pack to the same TLV

For every kind with parameters whose round trip is proved above: on the domain of that theorem the
prescribed octets determine the parameters (`Spec.k p = Spec.k q ↔ p = q`), and so do the octets
`pack()` returns for the objects the constructor builds. Each is a corollary of the kind's theorem:
equal octets are received as one message, whose getter returns both parameter values. (Put cancel
has no parameters.) -/

private theorem receivedAs_unique {raw : Bytes} {r r' : ReservedCfdpMessage}
    (h : ReceivedAs raw r) (h' : ReceivedAs raw r') : r = r' := by
  obtain ⟨m, hm, _, hr⟩ := h
  obtain ⟨m', hm', _, hr'⟩ := h'
  cases ok_unique hm hm' rfl
  exact Option.some.inj (ok_unique hr hr' rfl)

/-- injectivity from the theorem of a kind (`c` is its classification clause): built, packs to
    `spec p`, `spec p` is received as the built object, whose getter returns `emb p` -/
private theorem inj_of {α β : Type} (mk : α → Py ReservedCfdpMessage) (spec : α → Bytes)
    (get : ReservedCfdpMessage → Py (Option β)) (emb : α → β) (hemb : ∀ a b, emb a = emb b → a = b)
    (c : ReservedCfdpMessage → Prop) (p q : α)
    (hp : ∃ r, mk p = .ok r ∧ PacksTo r (spec p) ∧ ReceivedAs (spec p ++ []) r ∧ c r ∧ get r = .ok (some (emb p)))
    (hq : ∃ r, mk q = .ok r ∧ PacksTo r (spec q) ∧ ReceivedAs (spec q ++ []) r ∧ c r ∧ get r = .ok (some (emb q))) :
    (spec p = spec q ↔ p = q) ∧
    ∀ r r', mk p = .ok r → mk q = .ok r' → (r.pack = r'.pack ↔ p = q) := by
  obtain ⟨r1, n1, k1, v1, _, g1⟩ := hp
  obtain ⟨r2, n2, k2, v2, _, g2⟩ := hq
  have main : spec p = spec q → p = q := by
    intro h
    rw [h] at v1
    rw [receivedAs_unique v1 v2, g2] at g1
    exact (hemb _ _ (Option.some.inj (Except.ok.inj g1))).symm
  refine ⟨⟨main, congrArg spec⟩, fun r r' hr hr' => ?_⟩
  cases ok_unique n1 hr rfl
  cases ok_unique n2 hr' rfl
  exact ⟨fun h => main (Except.ok.inj (k1.1 ▸ k2.1 ▸ h)), fun h => by subst h; rw [ok_unique n1 n2 rfl]⟩

theorem C18_put_request_injective (p q : ProxyPutRequestParams) (wp : WFPutRequest p) (wq : WFPutRequest q) :
    (Spec.putRequest p = Spec.putRequest q ↔ p = q) ∧
    ∀ r r', ProxyPutRequest.new p = .ok r → ProxyPutRequest.new q = .ok r' → (r.pack = r'.pack ↔ p = q) :=
  inj_of _ _ _ id (fun _ _ h => h) _ p q (C18_put_request p wp []) (C18_put_request q wq [])

theorem C18_closure_request_injective (c d : Nat) (wc : c < 2) (wd : d < 2) :
    (Spec.closureRequest c = Spec.closureRequest d ↔ c = d) ∧
    ∀ r r', ProxyClosureRequest.new c = .ok r → ProxyClosureRequest.new d = .ok r' → (r.pack = r'.pack ↔ c = d) :=
  inj_of _ _ _ id (fun _ _ h => h) _ c d (C18_closure_request c wc []) (C18_closure_request d wd [])

theorem C18_transmission_mode_injective (c d : Nat) (wc : c < 2) (wd : d < 2) :
    (Spec.transmissionMode c = Spec.transmissionMode d ↔ c = d) ∧
    ∀ r r', ProxyTransmissionMode.new c = .ok r → ProxyTransmissionMode.new d = .ok r' →
      (r.pack = r'.pack ↔ c = d) :=
  inj_of _ _ _ id (fun _ _ h => h) _ c d (C18_transmission_mode c wc []) (C18_transmission_mode d wd [])

/-- **originating transaction IDs** that differ (in a width, a value or the octets of either field)
    never share a TLV — the request identity is faithful on the wire -/
theorem C18_originating_id_injective (s t : TransactionId) (ws : WFTransactionId s) (wt : WFTransactionId t) :
    (Spec.originatingId s = Spec.originatingId t ↔ s = t) ∧
    ∀ r r', OriginatingTransactionId.new s = .ok r → OriginatingTransactionId.new t = .ok r' →
      (r.pack = r'.pack ↔ s = t) :=
  inj_of _ _ _ id (fun _ _ h => h) _ s t (C18_originating_id s ws []) (C18_originating_id t wt [])

theorem C18_listing_request_injective (p q : DirectoryParams) (wp : WFListingRequest p) (wq : WFListingRequest q) :
    (Spec.listingRequest p = Spec.listingRequest q ↔ p = q) ∧
    ∀ r r', DirectoryListingRequest.new p = .ok r → DirectoryListingRequest.new q = .ok r' →
      (r.pack = r'.pack ↔ p = q) :=
  inj_of _ _ _ id (fun _ _ h => h) _ p q (C18_listing_request p wp []) (C18_listing_request q wq [])

theorem C18_listing_response_injective (s t : Bool) (p q : DirectoryParams)
    (wp : WFListingResponse p) (wq : WFListingResponse q) :
    (Spec.listingResponse s p = Spec.listingResponse t q ↔ (s = t ∧ p = q)) ∧
    ∀ r r', DirectoryListingResponse.new s p = .ok r → DirectoryListingResponse.new t q = .ok r' →
      (r.pack = r'.pack ↔ (s = t ∧ p = q)) := by
  have := inj_of (fun x : Bool × DirectoryParams => DirectoryListingResponse.new x.1 x.2)
    (fun x => Spec.listingResponse x.1 x.2) _ id (fun _ _ h => h) _ (s, p) (t, q)
    (C18_listing_response s p wp []) (C18_listing_response t q wq [])
  simpa only [Prod.mk.injEq] using this

theorem C18_listing_options_injective (o o' : DirListingOptions) (wo : WFListingOptions o) (wo' : WFListingOptions o') :
    (Spec.listingOptions o = Spec.listingOptions o' ↔ o = o') ∧
    ∀ r r', DirectoryListingParameters.new o = .ok r → DirectoryListingParameters.new o' = .ok r' →
      (r.pack = r'.pack ↔ o = o') :=
  inj_of _ _ _ id (fun _ _ h => h) _ o o' (C18_listing_options o wo []) (C18_listing_options o' wo' [])

theorem C18_put_response_injective (cc dc fs cc' dc' fs' : Nat)
    (w : WFPutResponse cc dc fs) (w' : WFPutResponse cc' dc' fs') :
    (Spec.putResponse cc dc fs = Spec.putResponse cc' dc' fs' ↔ (cc = cc' ∧ dc = dc' ∧ fs = fs')) ∧
    ∀ r r', ProxyPutResponse.new ⟨(cc : Int), dc, fs⟩ = .ok r → ProxyPutResponse.new ⟨(cc' : Int), dc', fs'⟩ = .ok r' →
      (r.pack = r'.pack ↔ (cc = cc' ∧ dc = dc' ∧ fs = fs')) := by
  obtain ⟨r1, a1, _, a2⟩ := C18_put_response cc dc fs w []
  obtain ⟨r2, b1, _, b2⟩ := C18_put_response cc' dc' fs' w' []
  have := inj_of (fun x : Nat × Nat × Nat => ProxyPutResponse.new ⟨(x.1 : Int), x.2.1, x.2.2⟩)
    (fun x => Spec.putResponse x.1 x.2.1 x.2.2) (·.getProxyPutResponseParams)
    (fun x : Nat × Nat × Nat => (⟨(x.1 : Int), x.2.1, x.2.2⟩ : ProxyPutResponseParams))
    (by
      rintro ⟨a, b, c⟩ ⟨a', b', c'⟩ h
      simp only [ProxyPutResponseParams.mk.injEq, Int.natCast_inj] at h
      simp only [Prod.mk.injEq]; exact h)
    (classify · = .ok (Spec.kind 7)) (cc, dc, fs) (cc', dc', fs') ⟨r1, a1, a2⟩ ⟨r2, b1, b2⟩
  simpa only [Prod.mk.injEq] using this

-- non-vacuity: for every kind two distinct members of the domain with different octets (they differ
-- in one octet / one bit only)
example : WFPutRequest ⟨⟨2, 513, [2, 1]⟩, ⟨[0x61, 0xC3]⟩, ⟨[]⟩⟩ ∧ WFPutRequest ⟨⟨2, 513, [2, 1]⟩, ⟨[0x61]⟩, ⟨[0xC3]⟩⟩ ∧
    Spec.putRequest ⟨⟨2, 513, [2, 1]⟩, ⟨[0x61, 0xC3]⟩, ⟨[]⟩⟩ ≠ Spec.putRequest ⟨⟨2, 513, [2, 1]⟩, ⟨[0x61]⟩, ⟨[0xC3]⟩⟩ := by
  decide
example : Spec.closureRequest 0 ≠ Spec.closureRequest 1 ∧ Spec.transmissionMode 0 ≠ Spec.transmissionMode 1 := by decide
example : WFTransactionId ⟨⟨2, 1, [0, 1]⟩, ⟨1, 2, [2]⟩⟩ ∧ WFTransactionId ⟨⟨1, 0, [0]⟩, ⟨2, 258, [1, 2]⟩⟩ ∧
    Spec.originatingId ⟨⟨2, 1, [0, 1]⟩, ⟨1, 2, [2]⟩⟩ ≠ Spec.originatingId ⟨⟨1, 0, [0]⟩, ⟨2, 258, [1, 2]⟩⟩ := by
  decide
example : WFListingRequest ⟨⟨[0x2F, 0x61]⟩, ⟨[]⟩⟩ ∧ WFListingRequest ⟨⟨[0x2F]⟩, ⟨[0x61]⟩⟩ ∧
    Spec.listingRequest ⟨⟨[0x2F, 0x61]⟩, ⟨[]⟩⟩ ≠ Spec.listingRequest ⟨⟨[0x2F]⟩, ⟨[0x61]⟩⟩ := by decide
example : WFListingResponse ⟨⟨[0x2F]⟩, ⟨[0x61]⟩⟩ ∧
    Spec.listingResponse true ⟨⟨[0x2F]⟩, ⟨[0x61]⟩⟩ ≠ Spec.listingResponse false ⟨⟨[0x2F]⟩, ⟨[0x61]⟩⟩ := by decide
example : WFListingOptions ⟨1, 0⟩ ∧ WFListingOptions ⟨0, 1⟩ ∧ Spec.listingOptions ⟨1, 0⟩ ≠ Spec.listingOptions ⟨0, 1⟩ := by
  decide
example : WFPutResponse 4 1 0 ∧ WFPutResponse 4 0 2 ∧ Spec.putResponse 4 1 0 ≠ Spec.putResponse 4 0 2 := by decide

end SpVerif.Props.C18
