import SpVerif.Proofs.CfdpCrcAccept
import SpVerif.Proofs.FileDirective
import SpVerif.Proofs.FileData
import SpVerif.Proofs.Factory
/-!
# Every CFDP PDU decoder runs the common front first

`RunsFirst fr dec`: whenever the front `fr` fails on a buffer, the decoder `dec` fails on it with the
very same error, so `dec` accepts only what `fr` accepts. The directive prelude *is* `directiveFront`
followed by the cut to `end_of_params` (`prelude_eq_front`), so every decoder `prelude d >>= parse` runs
it first; acceptance then gives the CRC facts of the front, and a burst on an accepted CRC-flagged PDU
is refused with `InvalidCrc` by whatever decoder is tried on it.
-/
namespace SpVerif.CfdpCrc
open SpVerif SpVerif.CfdpHeader SpVerif.CfdpFront SpVerif.FileDirective

/-- `dec` fails with the error of the front `fr` whenever the front fails -/
def RunsFirst {α β : Type} (fr : Bytes → Py β) (dec : Bytes → Py α) : Prop :=
  ∀ d e, fr d = .error e → dec d = .error e

theorem RunsFirst.accept {α β : Type} {fr : Bytes → Py β} {dec : Bytes → Py α} (hr : RunsFirst fr dec)
    {d : Bytes} {r : α} (h : dec d = .ok r) : ∃ b, fr d = .ok b := by
  cases hf : fr d with
  | error e => rw [hr d e hf] at h; cases h
  | ok b => exact ⟨b, rfl⟩

theorem RunsFirst.map {α β γ : Type} {fr : Bytes → Py β} {dec : Bytes → Py α} (hr : RunsFirst fr dec)
    (g : α → γ) : RunsFirst fr (fun d => g <$> dec d) := by
  intro d e he
  show g <$> dec d = _
  rw [hr d e he]; rfl

/-- **the prelude of every directive decoder is `directiveFront` followed by the cut to
    `end_of_params`** (same guards, same order, same errors) -/
theorem prelude_eq_front (d : Bytes) :
    prelude d = directiveFront d >>= fun r =>
      pure ((⟨r.1, r.2⟩ : FileDirective), d.take (FileDirective.paramsEnd ⟨r.1, r.2⟩)) := by
  unfold prelude directiveFront FileDirective.unpack FileDirective.verify
  simp only [bind_assoc, Nat.add_sub_cancel]
  refine bind_congr fun h => ?_
  split
  · rfl
  · simp only [bind_assoc, pure_bind]

/-- every decoder "prelude, then a parameter parser" runs the directive front first; the parser may
    depend on the buffer (NAK looks at its length) -/
theorem runsFirst_prelude_bind {α : Type} (f : Bytes → FileDirective × Bytes → Py α) :
    RunsFirst directiveFront (fun d => prelude d >>= f d) := by
  intro d e he
  show (prelude d >>= f d) = _
  rw [prelude_eq_front, he]; rfl

theorem runsFirst_of_eq {α : Type} {dec : Bytes → Py α} (f : Bytes → FileDirective × Bytes → Py α)
    (h : ∀ d, dec d = prelude d >>= f d) : RunsFirst directiveFront dec := by
  intro d e he
  rw [h]; exact runsFirst_prelude_bind f d e he

theorem prelude_ok_front {d : Bytes} {fd : FileDirective} {p : Bytes} (h : prelude d = .ok (fd, p)) :
    directiveFront d = .ok (fd.header, fd.code) := by
  rw [prelude_eq_front] at h
  cases hf : directiveFront d with
  | error e => rw [hf] at h; cases h
  | ok r =>
    rw [hf] at h
    simp only [bind, Except.bind, pure, Except.pure, Except.ok.injEq, Prod.mk.injEq] at h
    obtain ⟨rfl, _⟩ := h
    rfl

theorem runsFirst_fileData : RunsFirst pduFront FileData.Pdu.unpack := by
  intro d e he
  unfold pduFront at he
  unfold FileData.Pdu.unpack
  cases hu : PduHeader.unpack d with
  | error e' => simp only [hu, bind, Except.bind] at he ⊢; cases he; rfl
  | ok h =>
    simp only [hu, bind, Except.bind] at he ⊢
    cases hv : h.verifyLengthAndChecksum d with
    | error e' => simp only [hv] at he ⊢; cases he; rfl
    | ok n => simp [hv, pure, Except.pure] at he

theorem RunsFirst.directive_accept {α : Type} {dec : Bytes → Py α} (hr : RunsFirst directiveFront dec)
    {d : Bytes} {r : α} (h : dec d = .ok r) :
    ∃ hd c, directiveFront d = .ok (hd, c) ∧ pduFront d = .ok hd ∧ hd.headerLen + 1 ≤ d.length := by
  obtain ⟨⟨hd, c⟩, hf⟩ := hr.accept h
  obtain ⟨h1, h2⟩ := directiveFront_ok hf
  exact ⟨hd, c, hf, h1, h2⟩

/-- **burst on a PDU accepted by a directive decoder**: `InvalidCrc` from every decoder that runs
    the directive front first -/
theorem RunsFirst.directive_burst {α β : Type} {dec : Bytes → Py α} {dec' : Bytes → Py β}
    (hr : RunsFirst directiveFront dec) (hr' : RunsFirst directiveFront dec')
    {d d' : Bytes} {r : α} {k : Nat} {B : List Bool}
    (ha : dec d = .ok r) (hc : cfdpCrcFlag d = 1) (hb : Crc.Burst d d' k B)
    (hB : B.length ≤ 16) (hne : B ≠ List.replicate B.length false)
    (hin : k + B.length ≤ 8 * cfdpDeclaredLen d) (hav : AvoidsFixedHeader k) : dec' d' = .error .crc := by
  obtain ⟨hd, c, hf, _, _⟩ := hr.directive_accept ha
  exact hr' d' _ (burst_directiveFront_crc hf hc hb hB hne hin hav)

theorem RunsFirst.plain_burst {α β : Type} {dec : Bytes → Py α} {dec' : Bytes → Py β}
    (hr : RunsFirst pduFront dec) (hr' : RunsFirst pduFront dec')
    {d d' : Bytes} {r : α} {k : Nat} {B : List Bool}
    (ha : dec d = .ok r) (hc : cfdpCrcFlag d = 1) (hb : Crc.Burst d d' k B)
    (hB : B.length ≤ 16) (hne : B ≠ List.replicate B.length false)
    (hin : k + B.length ≤ 8 * cfdpDeclaredLen d) (hav : AvoidsFixedHeader k) : dec' d' = .error .crc := by
  obtain ⟨hd, hf⟩ := hr.accept ha
  exact hr' d' _ (burst_front_crc hf hc hb hB hne hin hav)

/-- what the burst leaves alone, seen from the buffer: declared length, and the CRC is now non-zero -/
theorem burst_declared {d d' : Bytes} {h : PduHeader} {k : Nat} {B : List Bool}
    (ha : pduFront d = .ok h) (hc : cfdpCrcFlag d = 1) (hb : Crc.Burst d d' k B)
    (hB : B.length ≤ 16) (hne : B ≠ List.replicate B.length false)
    (hin : k + B.length ≤ 8 * cfdpDeclaredLen d) (hav : AvoidsFixedHeader k) :
    cfdpDeclaredLen d' = cfdpDeclaredLen d ∧ cfdpCrcFlag d' = 1 ∧
    Crc.crc16 (d'.take (cfdpDeclaredLen d')) ≠ 0 := by
  obtain ⟨_, _, _, _, _, _, hne0⟩ := burst_verify_crc ha hc hb hB hne hin hav
  obtain ⟨_, f2, f3⟩ := fixed_congr (burst_fixed hb hav)
  exact ⟨f2, by rw [f3, hc], hne0⟩

theorem fronts_crc_of_verify {d : Bytes} {h : PduHeader} (hu : PduHeader.unpack d = .ok h)
    (hv : h.verifyLengthAndChecksum d = .error .crc) :
    pduFront d = .error .crc ∧ (h.headerLen < d.length → directiveFront d = .error .crc) := by
  refine ⟨by simp [pduFront, hu, hv, bind, Except.bind], fun hl => ?_⟩
  have g : ¬ h.headerLen + 1 > d.length := by omega
  simp only [directiveFront, hu, bind, Except.bind, g, ↓reduceIte, idx_ok hl, hv]

theorem RunsFirst.directive_accept_crc {α : Type} {dec : Bytes → Py α} (hr : RunsFirst directiveFront dec)
    {d : Bytes} {r : α} (ha : dec d = .ok r) (hc : cfdpCrcFlag d = 1) :
    cfdpDeclaredLen d ≤ d.length ∧ Crc.crc16 (d.take (cfdpDeclaredLen d)) = 0 := by
  obtain ⟨hd, _, _, hf, _⟩ := hr.directive_accept ha
  exact (front_accept_crc hf hc).2

theorem RunsFirst.plain_accept_crc {α : Type} {dec : Bytes → Py α} (hr : RunsFirst pduFront dec)
    {d : Bytes} {r : α} (ha : dec d = .ok r) (hc : cfdpCrcFlag d = 1) :
    cfdpDeclaredLen d ≤ d.length ∧ Crc.crc16 (d.take (cfdpDeclaredLen d)) = 0 := by
  obtain ⟨hd, hf⟩ := hr.accept ha
  exact (front_accept_crc hf hc).2

theorem RunsFirst.directive_reject {α : Type} {dec : Bytes → Py α} (hr : RunsFirst directiveFront dec)
    {d d' : Bytes} {r : α} {k : Nat} {B : List Bool}
    (ha : dec d = .ok r) (hc : cfdpCrcFlag d = 1) (hb : Crc.Burst d d' k B)
    (hB : B.length ≤ 16) (hne : B ≠ List.replicate B.length false)
    (hin : k + B.length ≤ 8 * cfdpDeclaredLen d) (hav : AvoidsFixedHeader k) :
    dec d' = .error .crc ∧ cfdpDeclaredLen d' = cfdpDeclaredLen d ∧ cfdpCrcFlag d' = 1 ∧
    Crc.crc16 (d'.take (cfdpDeclaredLen d')) ≠ 0 := by
  obtain ⟨hd, _, _, hf, _⟩ := hr.directive_accept ha
  exact ⟨hr.directive_burst hr ha hc hb hB hne hin hav, burst_declared hf hc hb hB hne hin hav⟩

theorem RunsFirst.plain_reject {α : Type} {dec : Bytes → Py α} (hr : RunsFirst pduFront dec)
    {d d' : Bytes} {r : α} {k : Nat} {B : List Bool}
    (ha : dec d = .ok r) (hc : cfdpCrcFlag d = 1) (hb : Crc.Burst d d' k B)
    (hB : B.length ≤ 16) (hne : B ≠ List.replicate B.length false)
    (hin : k + B.length ≤ 8 * cfdpDeclaredLen d) (hav : AvoidsFixedHeader k) :
    dec d' = .error .crc ∧ cfdpDeclaredLen d' = cfdpDeclaredLen d ∧ cfdpCrcFlag d' = 1 ∧
    Crc.crc16 (d'.take (cfdpDeclaredLen d')) ≠ 0 := by
  obtain ⟨hd, hf⟩ := hr.accept ha
  exact ⟨hr.plain_burst hr ha hc hb hB hne hin hav, burst_declared hf hc hb hB hne hin hav⟩

/-- `flipBurst` on a packed unit followed by anything is a burst of that buffer -/
theorem flip_packed (p rest : Bytes) (k : Nat) (B : List Bool) (hin : k + B.length ≤ 8 * p.length) :
    Crc.Burst (p ++ rest) (Crc.flipBurst (p ++ rest) k B) k B :=
  Crc.flipBurst_spec _ _ _ (by simp only [List.length_append]; omega)

/-- `framePdu` is the header's `pack()` followed by the CRC tail of `FileDirective.withCrc` -/
theorem framePdu_eq (h : PduHeader) (body : Bytes) :
    framePdu h body = h.pack >>= fun hd => pure (withCrc h.conf.crcFlag (hd ++ body)) := rfl

/-- `x`, when it succeeds, returns `withCrc c body` for some `body` -/
def EndsCrc (c : Nat) (x : Py Bytes) : Prop := ∀ raw, x = .ok raw → ∃ body, raw = withCrc c body

theorem EndsCrc.pure (c : Nat) (body : Bytes) : EndsCrc c (Pure.pure (withCrc c body)) := by
  intro raw h; exact ⟨body, (Except.ok.inj h).symm⟩

theorem EndsCrc.bind {α : Type} {c : Nat} {m : Py α} {f : α → Py Bytes} (h : ∀ a, EndsCrc c (f a)) :
    EndsCrc c (m >>= f) := by
  intro raw hr
  cases m with
  | error e => cases hr
  | ok a => exact h a raw hr

theorem EndsCrc.ite {c : Nat} {p : Prop} [Decidable p] {a b : Py Bytes} (ha : EndsCrc c a) (hb : EndsCrc c b) :
    EndsCrc c (if p then a else b) := by
  split
  · exact ha
  · exact hb

theorem EndsCrc.valid {x : Py Bytes} (h : EndsCrc 1 x) {raw : Bytes} (hr : x = .ok raw) :
    (∃ body, raw = body ++ Crc.crcTrailer body) ∧ Crc.crc16 raw = 0 := by
  obtain ⟨body, rfl⟩ := h raw hr
  exact ⟨⟨body, by simp [withCrc]⟩, by simp [withCrc, Crc.crc16_residue]⟩

/-- an octet string that starts with a laid-out header, of the header's declared length -/
theorem laid_out (S : Bytes) (h : PduHeader) (wf : Props.C05.WF h) (hS : ∃ A, S = Props.C05.Spec.octets h ++ A)
    (hlen : S.length = h.packetLen) (hc : h.conf.crcFlag = 1) (rest : Bytes) :
    cfdpDeclaredLen (S ++ rest) = S.length ∧ cfdpCrcFlag (S ++ rest) = 1 := by
  obtain ⟨A, rfl⟩ := hS
  obtain ⟨e1, e2, _, _⟩ := unpack_fixed (Props.C05.C05_roundtrip h wf (A ++ rest))
  rw [List.append_assoc, hlen, ← hc]
  exact ⟨e1.symm, e2.symm⟩

end SpVerif.CfdpCrc

namespace SpVerif.Factory
open SpVerif SpVerif.CfdpHeader SpVerif.CfdpFront SpVerif.FileDirective SpVerif.CfdpCrc

/-- the front a kind's decoder runs first: the plain one for File Data, the directive one otherwise -/
theorem decoderOf_runsFirst (k : Kind) :
    (k = .fileData → RunsFirst pduFront (decoderOf k)) ∧
    (k ≠ .fileData → RunsFirst directiveFront (decoderOf k)) := by
  cases k
  · exact ⟨fun _ => runsFirst_fileData.map _, fun h => absurd rfl h⟩
  all_goals refine ⟨nofun, fun _ => ?_⟩
  · exact (runsFirst_of_eq (fun _ => Eof.parse) Eof.unpack_eq).map _
  · exact (runsFirst_of_eq (fun _ => Finished.parse) Finished.unpack_eq).map _
  · exact (runsFirst_of_eq (fun _ => Ack.parse) Ack.unpack_eq).map _
  · exact (runsFirst_of_eq (fun _ => Metadata.parse) Metadata.unpack_eq).map _
  · exact (runsFirst_of_eq (fun d => Nak.parse d.length) Nak.unpack_eq).map _
  · exact (runsFirst_of_eq (fun _ => Prompt.parse) Prompt.unpack_eq).map _
  · exact (runsFirst_of_eq (fun _ => KeepAlive.parse) KeepAlive.unpack_eq).map _

theorem decoderOf_accept_front {k : Kind} {d : Bytes} {p : AnyPdu} (h : decoderOf k d = .ok p) :
    ∃ hd, pduFront d = .ok hd := by
  by_cases hk : k = .fileData
  · exact ((decoderOf_runsFirst k).1 hk).accept h
  · obtain ⟨hd, _, _, hf, _⟩ := ((decoderOf_runsFirst k).2 hk).directive_accept h
    exact ⟨hd, hf⟩

theorem fromRaw_some_inv {d : Bytes} {p : AnyPdu} (h : fromRaw d = .ok (some p)) :
    ∃ k, decoderOf k d = .ok p := by
  cases d with
  | nil => cases h
  | cons x r =>
    rw [fromRaw_cons] at h
    split at h
    · exact ⟨.fileData, decodeAs_inv _ _ _ h⟩
    · obtain ⟨dir, _, h⟩ := bind_ok_inv h
      rcases dispatch_cases dir (x :: r) with hn | ⟨k, _, hk⟩
      · rw [hn] at h; cases h
      · exact ⟨k, decodeAs_inv _ _ _ (hk ▸ h)⟩

theorem idx_congr {d d' : Bytes} {i : Nat} (h : d'[i]? = d[i]?) : idx d' i = idx d i := by
  unfold idx; rw [h]

theorem pduType_congr {d d' : Bytes} (h : d'[0]? = d[0]?) : pduType d' = pduType d := by
  cases d with
  | nil =>
    cases d' with
    | nil => rfl
    | cons y r' => simp at h
  | cons x r =>
    cases d' with
    | nil => simp at h
    | cons y r' =>
      simp only [List.getElem?_cons_zero, Option.some.injEq] at h
      subst h; rw [pduType_cons, pduType_cons]

theorem decodeAs_crc_directive {k : Kind} (hk : k ≠ .fileData) {d : Bytes}
    (h : directiveFront d = .error .crc) : decodeAs k d = .error .crc := by
  unfold decodeAs; rw [(decoderOf_runsFirst k).2 hk d _ h]; rfl

theorem decodeAs_crc_fileData {d : Bytes} (h : pduFront d = .error .crc) :
    decodeAs .fileData d = .error .crc := by
  unfold decodeAs; rw [(decoderOf_runsFirst .fileData).1 rfl d _ h]; rfl

/-- the chain on the code of a directive kind is that kind's decoder, for every buffer -/
theorem dispatch_kind (k : Kind) (hk : k ≠ .fileData) (d : Bytes) : dispatch k.code d = decodeAs k d := by
  cases k with
  | fileData => exact absurd rfl hk
  | _ => rfl

theorem dispatch_crc {d : Bytes} (h : directiveFront d = .error .crc) (dir : Option Nat) :
    dispatch dir d = .error .crc ∨ dispatch dir d = .ok none := by
  rcases dispatch_cases dir d with h0 | ⟨k, rfl, h1⟩
  · exact .inr h0
  · by_cases hk : k = .fileData
    · subst hk; exact .inr rfl
    · exact .inl (h1 ▸ decodeAs_crc_directive hk h)

theorem dispatch_some_inv {dir : Option Nat} {d : Bytes} {p : AnyPdu} (h : dispatch dir d = .ok (some p)) :
    ∃ k, k ≠ Kind.fileData ∧ ∀ d', dispatch dir d' = decodeAs k d' := by
  rcases dispatch_cases dir d with h0 | ⟨k, rfl, _⟩
  · rw [h0] at h; cases h
  · have hk : k ≠ .fileData := fun hk => by subst hk; cases h
    exact ⟨k, hk, dispatch_kind k hk⟩

end SpVerif.Factory
