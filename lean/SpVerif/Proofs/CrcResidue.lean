import SpVerif.Proofs.Crc
/-!
# CRC residue and trailer uniqueness, at octet level
-/
namespace SpVerif.Crc

/-- the sixteen bits of two octets, loaded into the register, are the 16-bit number they spell -/
theorem load_bits_two (x y : UInt8) :
    load (bits [x, y]) = BitVec.ofNat 16 (x.toNat * 256 + y.toNat) := by
  apply BitVec.eq_of_getLsbD_eq
  intro i hi
  have hx := toNat_lt x
  have hi' : i = 0 ∨ i = 1 ∨ i = 2 ∨ i = 3 ∨ i = 4 ∨ i = 5 ∨ i = 6 ∨ i = 7 ∨ i = 8 ∨ i = 9 ∨ i = 10 ∨ i = 11 ∨ i = 12 ∨ i = 13 ∨ i = 14 ∨ i = 15 := by omega
  rw [load_getLsbD _ _ hi, BitVec.getLsbD_ofNat, show x.toNat * 256 + y.toNat = 2 ^ 8 * x.toNat + y.toNat by omega,
    Nat.testBit_two_pow_mul_add _ (toNat_lt y)]
  rcases hi' with h|h|h|h|h|h|h|h|h|h|h|h|h|h|h|h <;> subst h <;> rfl

theorem bits_length (d : Bytes) : (bits d).length = 8 * d.length := by
  induction d with
  | nil => rfl
  | cons x d ih => simp [bits, bitsOf, List.flatMap_cons] at *; omega

theorem bits_append (a b : Bytes) : bits (a ++ b) = bits a ++ bits b := by
  simp [bits]

theorem crcFrom_append (s : BitVec 16) (a b : Bytes) :
    crcFrom s (a ++ b) = crcFrom (crcFrom s a) b := by
  simp [crcFrom, bits_append, feedBits_append]

theorem iter_zstep_inj : ∀ n (s t : BitVec 16), iter zstep n s = iter zstep n t → s = t
  | 0, _, _, h => h
  | n+1, _, _, h => zstep_inj (iter_zstep_inj n _ _ h)

theorem crcFrom_two_eq_zero (t : BitVec 16) (x y : UInt8) :
    crcFrom t [x, y] = 0 ↔ t = BitVec.ofNat 16 (x.toNat * 256 + y.toNat) := by
  unfold crcFrom
  rw [feedBits_load _ _ (by simp [bits_length]), load_bits_two]
  refine ⟨fun h => BitVec.xor_eq_zero_iff.mp (iter_zstep_eq_zero _ _ h), fun h => ?_⟩
  rw [h, BitVec.xor_self]
  exact iter_zstep_zero _

/-- **Residue**: feeding the two trailer octets after the message drives the register to zero. -/
theorem crcFrom_residue (s : BitVec 16) (m : Bytes) : crcFrom s (m ++ be16 (crcFrom s m)) = 0 := by
  rw [crcFrom_append]
  generalize crcFrom s m = t
  apply (crcFrom_two_eq_zero _ _ _).mpr
  apply BitVec.eq_of_toNat_eq
  have := t.isLt
  simp only [u8_toNat, BitVec.toNat_ofNat]
  omega

theorem crc16_residue (m : Bytes) : crc16 (m ++ crcTrailer m) = 0 := crcFrom_residue _ m

/-- **Trailer uniqueness**: only the CRC of the message, appended big-endian, gives residue zero. -/
theorem crcFrom_trailer_unique (s : BitVec 16) (m : Bytes) (x y : UInt8)
    (h : crcFrom s (m ++ [x, y]) = 0) : [x, y] = be16 (crcFrom s m) := by
  rw [crcFrom_append, crcFrom_two_eq_zero] at h
  have hx := toNat_lt x
  have hy := toNat_lt y
  rw [h, be16, BitVec.toNat_ofNat, show (x.toNat * 256 + y.toNat) % 2 ^ 16 / 256 = x.toNat by omega,
    show (x.toNat * 256 + y.toNat) % 2 ^ 16 % 256 = y.toNat by omega, u8_toNat_self, u8_toNat_self]

theorem crc16_trailer_unique (m : Bytes) (x y : UInt8) (h : crc16 (m ++ [x, y]) = 0) :
    [x, y] = crcTrailer m := crcFrom_trailer_unique _ m x y h

/-- catalogue check value of CRC-16/CCITT-FALSE -/
example : crc16 [0x31, 0x32, 0x33, 0x34, 0x35, 0x36, 0x37, 0x38, 0x39] = 0x29B1#16 := by decide +kernel

end SpVerif.Crc
