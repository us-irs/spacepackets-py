import SpVerif.Model.FileDirective
import SpVerif.Props.C05
/-!
# The file-directive base model and the framing all seven directive PDUs share

Every directive decoder is `prelude d >>= parse`: the base-class decoder, `verify_length_and_checksum`
and the cut to `end_of_params`, followed by a parameter parser that reads behind the directive
header. What can be said of such a decoder without knowing `parse` is said here, once:
`prelude_bind`, `bind_prelude_documented`, `bind_prelude_take`, `prelude_truncated`, and
`prelude_spec` for a PDU laid out as directive header ‖ parameters ‖ optional CRC trailer.
-/
namespace SpVerif.FileDirective
open SpVerif SpVerif.CfdpHeader
open SpVerif.Props

theorem packInt_nat (n v : Nat) : packInt n (v : Int) = packBE n v :=
  if_neg (by omega)

theorem packInt_neg (n : Nat) (v : Int) (h : v < 0) : packInt n v = .error .struct :=
  if_pos h

theorem packInt_ok (n : Nat) (v : Nat) (h : v < 256 ^ n) : packInt n (v : Int) = .ok (beBytes n v) := by
  rw [packInt_nat, packBE_ok h]

/-- `struct.pack` never truncates: outside `[0, 256^n)` it raises `struct.error` -/
theorem packInt_struct (n : Nat) (v : Int) (h : v < 0 ∨ 256 ^ n ≤ v.toNat) : packInt n v = .error .struct := by
  by_cases h0 : v < 0
  · exact packInt_neg n v h0
  · have h1 : ¬ v.toNat < 256 ^ n := by omega
    simp only [packInt, h0, ↓reduceIte, packBE, h1]

theorem fssWidth_pos (f : Nat) : 4 ≤ fssWidth f := by unfold fssWidth; split <;> omega
theorem fssWidth_le (f : Nat) : fssWidth f ≤ 8 := by unfold fssWidth; split <;> omega

/-- the width `pack()` selects with `large_file_flag_set` -/
theorem width_of_large (h : PduHeader) : (if h.largeFileFlagSet then 8 else 4) = fssWidth h.conf.fileFlag := by
  unfold PduHeader.largeFileFlagSet fssWidth
  by_cases hf : h.conf.fileFlag = 1 <;> simp [hf]

theorem width_of_not_large (h : PduHeader) :
    (if ¬ h.largeFileFlagSet then 4 else 8) = fssWidth h.conf.fileFlag := by
  rw [← width_of_large]; cases h.largeFileFlagSet <;> rfl

theorem crcTrailer_length (m : Bytes) : (Crc.crcTrailer m).length = 2 := rfl

theorem withCrc_set (b : Bytes) : withCrc 1 b = b ++ Crc.crcTrailer b := rfl

theorem withCrc_unset {c : Nat} (h : c ≠ 1) (b : Bytes) : withCrc c b = b := if_neg h

theorem withCrc_length (c : Nat) (b : Bytes) : (withCrc c b).length = b.length + (if c = 1 then 2 else 0) := by
  unfold withCrc; split <;> simp [crcTrailer_length]

theorem withCrc_eq_append (c : Nat) (b : Bytes) : ∃ T, withCrc c b = b ++ T := by
  unfold withCrc; split
  · exact ⟨_, rfl⟩
  · exact ⟨[], (List.append_nil b).symm⟩

theorem new_eq (c : PduConfig) (code pl : Nat) :
    FileDirective.new c code pl =
      if 65535 < pl + 1 ∨ c.source.width ≠ c.dest.width then .error .value
      else .ok ⟨⟨0, 0, pl + 1, c⟩, code⟩ := by
  unfold FileDirective.new
  rw [CfdpHeader.new_eq]
  split <;> rfl

theorem setParamLen_eq (d : FileDirective) (n : Nat) :
    d.setParamLen n = if 65535 < n + 1 then .error .value
      else .ok { d with header := { d.header with dataFieldLen := n + 1 } } := by
  unfold FileDirective.setParamLen
  rw [setDataFieldLen_eq]
  split <;> rfl

theorem setParamLen_documented (fd : FileDirective) (n : Nat) : Documented (fd.setParamLen n) := by
  rw [setParamLen_eq]
  exact Documented.ite (Documented.err rfl) (Documented.ok _)

/-- **every directive constructor** starts with the base constructor on a small provisional parameter
    length `p0`: it fails only for differing ID widths -/
theorem new_bind {β : Type} (c : PduConfig) (code p0 : Nat) (h0 : p0 + 1 ≤ 65535) (g : FileDirective → Py β) :
    (FileDirective.new c code p0 >>= g) =
      if c.source.width ≠ c.dest.width then .error .value else g ⟨⟨0, 0, p0 + 1, c⟩, code⟩ := by
  rw [new_eq]
  by_cases hw : c.source.width ≠ c.dest.width
  · rw [if_pos (.inr hw), if_pos hw]; rfl
  · rw [if_neg (by omega), if_neg hw]; rfl

theorem fd_eta (fd : FileDirective) (n : Nat) (h : fd.header.dataFieldLen = n) :
    ({ fd with header := { fd.header with dataFieldLen := n } } : FileDirective) = fd := by
  cases fd with
  | mk hd c => cases hd; simp_all

theorem headerLen_eq (fd : FileDirective) : fd.headerLen = fd.header.headerLen + 1 := rfl

theorem packetLen_eq (fd : FileDirective) :
    fd.packetLen = fd.header.dataFieldLen + fd.header.headerLen := rfl

/-- `end_of_params` leaves room for the trailer that was verified -/
theorem paramsEnd_add (fd : FileDirective) :
    fd.paramsEnd + (if fd.header.conf.crcFlag = 1 then 2 else 0) = fd.packetLen := by
  have := packetLen_ge fd.header
  unfold FileDirective.paramsEnd FileDirective.packetLen
  split <;> omega

theorem beq_refl (d : FileDirective) : d.beq d = true := by simp [FileDirective.beq, headerBeq]

/-- the directive header as CCSDS 727.0-B-5 lays it out: fixed PDU header (C05), then the
    directive code octet -/
def specOctets (d : FileDirective) : Bytes := C05.Spec.octets d.header ++ [u8 d.code]

theorem specOctets_length (d : FileDirective) (wf : C05.WF d.header) :
    (specOctets d).length = d.headerLen := by
  simp [specOctets, FileDirective.headerLen, (C05.C05_len d.header wf).2.1]

theorem pack_spec (d : FileDirective) (wf : C05.WF d.header) (hc : d.code < 256) :
    d.pack = .ok (specOctets d) := by
  unfold FileDirective.pack
  rw [C05.C05_pack_exact d.header wf, byteOfN_ok hc]
  rfl

/-- a directive code above 255 cannot be appended (`ValueError`) -/
theorem pack_bad_code (d : FileDirective) (wf : C05.WF d.header) (hc : 256 ≤ d.code) :
    d.pack = .error .value := by
  unfold FileDirective.pack
  rw [C05.C05_pack_exact d.header wf]
  have : ¬ d.code < 256 := by omega
  simp [byteOfN, this, bind, Except.bind]

theorem unpack_hdr_err (raw : Bytes) (e : Err) (h : PduHeader.unpack raw = .error e) :
    FileDirective.unpack raw = .error e := by
  unfold FileDirective.unpack; rw [h]; rfl

theorem unpack_short (raw : Bytes) (h : PduHeader) (hu : PduHeader.unpack raw = .ok h)
    (hl : raw.length ≤ h.headerLen) : FileDirective.unpack raw = .error .value := by
  unfold FileDirective.unpack
  rw [hu, bind_ok, if_pos (by omega : h.headerLen + 1 > raw.length)]; rfl

theorem unpack_ok (raw : Bytes) (h : PduHeader) (hu : PduHeader.unpack raw = .ok h)
    (hl : h.headerLen < raw.length) :
    FileDirective.unpack raw = .ok ⟨h, raw[h.headerLen].toNat⟩ := by
  unfold FileDirective.unpack
  rw [hu, bind_ok, if_neg (by omega : ¬ h.headerLen + 1 > raw.length), Nat.add_sub_cancel, idx_ok hl]; rfl

theorem unpack_inv (raw : Bytes) (d : FileDirective) (hu : FileDirective.unpack raw = .ok d) :
    PduHeader.unpack raw = .ok d.header ∧ d.header.headerLen < raw.length ∧
      idx raw d.header.headerLen = .ok d.code ∧ d.code < 256 := by
  cases hh : PduHeader.unpack raw with
  | error e => rw [unpack_hdr_err raw e hh] at hu; cases hu
  | ok h =>
    by_cases hl : h.headerLen < raw.length
    · rw [unpack_ok raw h hh hl] at hu
      cases hu
      exact ⟨rfl, hl, idx_ok hl, toNat_lt _⟩
    · rw [unpack_short raw h hh (by omega)] at hu; cases hu

theorem unpack_error (raw : Bytes) (e : Err) (h : FileDirective.unpack raw = .error e) :
    e = .value ∨ e = .cfdpVersion := by
  cases hh : PduHeader.unpack raw with
  | error e' =>
    rw [unpack_hdr_err raw e' hh] at h; cases h
    exact CfdpHeader.unpack_error raw _ hh
  | ok hd =>
    by_cases hl : hd.headerLen < raw.length
    · rw [unpack_ok raw hd hh hl] at h; cases h
    · rw [unpack_short raw hd hh (by omega)] at h; cases h; exact Or.inl rfl

theorem unpack_documented (raw : Bytes) : Documented (FileDirective.unpack raw) := by
  intro e h
  rcases unpack_error raw e h with rfl | rfl <;> rfl

theorem unpack_spec (d : FileDirective) (wf : C05.WF d.header) (hc : d.code < 256) (rest : Bytes) :
    FileDirective.unpack (specOctets d ++ rest) = .ok d := by
  have hlen := (C05.C05_len d.header wf).2.1
  have e : specOctets d ++ rest = C05.Spec.octets d.header ++ (u8 d.code :: rest) := by
    simp [specOctets]
  have hl : d.header.headerLen < (specOctets d ++ rest).length := by
    rw [List.length_append, specOctets_length d wf, headerLen_eq]; omega
  rw [unpack_ok _ _ (e ▸ C05.C05_roundtrip d.header wf _) hl]
  have : (specOctets d ++ rest)[d.header.headerLen] = u8 d.code := by
    simp only [e, hlen]
    rw [List.getElem_append_right (Nat.le_refl _)]
    simp
  rw [this, u8_toNat, Nat.mod_eq_of_lt hc]

/-- `FileDirectivePduBase.unpack(data)`, `verify_length_and_checksum(data)`, then
    `data = data[:end_of_params]`; returns the base object and the cut buffer -/
def prelude (data : Bytes) : Py (FileDirective × Bytes) := do
  let fd ← FileDirective.unpack data
  let _ ← fd.verify data
  pure (fd, data.take fd.paramsEnd)

theorem prelude_bind {α : Type} (d : Bytes) (f : FileDirective × Bytes → Py α) :
    (prelude d >>= f) =
      FileDirective.unpack d >>= fun fd => fd.verify d >>= fun _ => f (fd, d.take fd.paramsEnd) := by
  simp only [prelude, bind_assoc, pure_bind]

theorem prelude_ok_iff (data : Bytes) (fd : FileDirective) (p : Bytes) :
    prelude data = .ok (fd, p) ↔
      (PduHeader.unpack data = .ok fd.header ∧ idx data fd.header.headerLen = .ok fd.code ∧
        fd.packetLen ≤ data.length ∧
        (fd.header.conf.crcFlag = 1 → Crc.crc16 (data.take fd.packetLen) = 0) ∧
        p = data.take fd.paramsEnd) := by
  unfold prelude
  constructor
  · intro h
    obtain ⟨d, hu, h⟩ := bind_ok_inv h
    obtain ⟨n, hv, h⟩ := bind_ok_inv h
    cases pure_ok_inv h
    obtain ⟨h1, _, h3, _⟩ := unpack_inv data fd hu
    obtain ⟨_, h5, h6⟩ := (verify_ok_iff fd.header data n).mp hv
    exact ⟨h1, h3, h5, h6, rfl⟩
  · rintro ⟨h1, h2, h3, h4, rfl⟩
    have hl := lt_of_idx_ok h2
    have hu : FileDirective.unpack data = .ok fd := by
      rw [unpack_ok data fd.header h1 hl]
      rw [idx_ok hl] at h2
      cases fd
      simp only [Except.ok.injEq] at h2
      simp only [h2]
    have hv : fd.verify data = .ok fd.packetLen :=
      (verify_ok_iff fd.header data _).mpr ⟨rfl, h3, h4⟩
    rw [hu, bind_ok, hv]; rfl

theorem prelude_documented (data : Bytes) : Documented (prelude data) :=
  Documented.bind (unpack_documented data) fun fd _ =>
    Documented.bind (verify_documented fd.header data) fun _ _ => Documented.ok _

theorem prelude_facts (data : Bytes) (fd : FileDirective) (p : Bytes) (h : prelude data = .ok (fd, p)) :
    C05.WF fd.header ∧ fd.code < 256 ∧ p.length = fd.paramsEnd ∧ fd.paramsEnd ≤ fd.packetLen ∧
      fd.packetLen ≤ data.length ∧ fd.header.headerLen < data.length := by
  obtain ⟨h1, h2, h3, _, rfl⟩ := (prelude_ok_iff data fd p).mp h
  have hl := lt_of_idx_ok h2
  rw [idx_ok hl] at h2
  have hp := paramsEnd_add fd
  refine ⟨(C05.C05_decode_encode data fd.header h1).1, Except.ok.inj h2 ▸ toNat_lt _, ?_, by omega, h3, hl⟩
  rw [List.length_take]; omega

/-- **only the declared PDU matters**: when the declared data field is not empty, the prelude of
    the buffer cut to `packet_len`, followed by anything, is the prelude of the buffer -/
theorem prelude_take (data : Bytes) (fd : FileDirective) (p : Bytes) (h : prelude data = .ok (fd, p))
    (h1 : 1 ≤ fd.header.dataFieldLen) (rest : Bytes) :
    prelude (data.take fd.packetLen ++ rest) = .ok (fd, p) := by
  obtain ⟨hu, hi, hl, hc, rfl⟩ := (prelude_ok_iff data fd _).mp h
  obtain ⟨_, _, _, hpe, _, hlt⟩ := prelude_facts data fd _ h
  have hpl := packetLen_eq fd
  have hlt' : fd.header.headerLen < (data.take fd.packetLen).length := by
    rw [List.length_take]; omega
  have htk : ∀ n, n ≤ fd.packetLen → (data.take fd.packetLen ++ rest).take n = data.take n := by
    intro n hn
    rw [List.take_append_of_le_length (by rw [List.length_take]; omega), List.take_take,
      Nat.min_eq_left hn]
  rw [prelude_ok_iff]
  refine ⟨?_, ?_, ?_, fun hcf => (htk _ (Nat.le_refl _)).symm ▸ hc hcf, (htk _ hpe).symm⟩
  · have := C05.C05_unpack_prefix data fd.header hu
      ((data.take fd.packetLen ++ rest).drop fd.header.headerLen)
    rwa [← htk _ (by omega : fd.header.headerLen ≤ fd.packetLen), List.take_append_drop] at this
  · rw [idx_append_left _ _ _ hlt', idx_ok hlt', ← hi, idx_ok hlt, List.getElem_take]
  · rw [List.length_append, List.length_take]; omega

/-- **the prelude on a laid-out PDU**: directive header ‖ parameters `P` ‖ CRC trailer iff flagged
    ‖ anything, with the data-field length the standard prescribes -/
theorem prelude_spec (d : FileDirective) (wf : C05.WF d.header) (hc : d.code < 256) (P rest : Bytes)
    (hl : d.header.dataFieldLen = 1 + P.length + (if d.header.conf.crcFlag = 1 then 2 else 0)) :
    prelude (withCrc d.header.conf.crcFlag (specOctets d ++ P) ++ rest) = .ok (d, specOctets d ++ P) ∧
    (withCrc d.header.conf.crcFlag (specOctets d ++ P)).length = d.packetLen := by
  have hsl := specOctets_length d wf
  have hpe := paramsEnd_add d
  have hlen : (withCrc d.header.conf.crcFlag (specOctets d ++ P)).length = d.packetLen := by
    rw [withCrc_length, List.length_append, hsl, packetLen_eq, headerLen_eq]; omega
  have hS : (specOctets d ++ P).length = d.paramsEnd := by
    rw [withCrc_length] at hlen; omega
  refine ⟨?_, hlen⟩
  obtain ⟨T, hT⟩ := withCrc_eq_append d.header.conf.crcFlag (specOctets d ++ P)
  obtain ⟨u1, _, u3, _⟩ := unpack_inv _ _ (unpack_spec d wf hc (P ++ (T ++ rest)))
  rw [prelude_ok_iff, hT, List.append_assoc, List.append_assoc]
  refine ⟨u1, u3, ?_, fun hcf => ?_, ?_⟩
  · rw [← List.append_assoc, ← List.append_assoc, ← hT, List.length_append, hlen]; omega
  · rw [← List.append_assoc, ← List.append_assoc, ← hT, List.take_left' hlen, hcf, withCrc_set,
      Crc.crc16_residue]
  · rw [← List.append_assoc, List.take_left' hS]

theorem idx_after (A P : Bytes) (k : Nat) : idx (A ++ P) (A.length + k) = idx P k := by
  simp [idx, List.getElem?_append_right]

theorem drop_after (A P : Bytes) (k : Nat) : (A ++ P).drop (A.length + k) = P.drop k := by
  rw [← List.drop_drop, List.drop_left]

theorem parseFss_eq (d : FileDirective) (raw : Bytes) (i : Nat) :
    d.parseFss raw i =
      if raw.length < i + fssWidth d.header.conf.fileFlag then .error .value
      else .ok (i + fssWidth d.header.conf.fileFlag,
                beNat (slice raw i (i + fssWidth d.header.conf.fileFlag))) := by
  have key : ∀ w, (do
        if i + w > raw.length then throw .value
        let v ← unpackBE w (slice raw i (i + w))
        pure (i + w, v) : Py (Nat × Nat)) =
      if raw.length < i + w then .error .value else .ok (i + w, beNat (slice raw i (i + w))) := by
    intro w
    by_cases hl : raw.length < i + w
    · rw [if_pos hl, if_pos (by omega : i + w > raw.length)]; rfl
    · have hw : (slice raw i (i + w)).length = w := by simp; omega
      rw [if_neg hl, if_neg (by omega : ¬ i + w > raw.length), unpackBE_ok hw]; rfl
  unfold FileDirective.parseFss fssWidth
  split
  · exact key 8
  · exact key 4

theorem parseFss_spec (d : FileDirective) (pre rest : Bytes) (v : Nat)
    (hv : v < 256 ^ fssWidth d.header.conf.fileFlag) :
    d.parseFss (pre ++ beBytes (fssWidth d.header.conf.fileFlag) v ++ rest) pre.length =
      .ok (pre.length + fssWidth d.header.conf.fileFlag, v) := by
  have := slice_eq_of_append pre (beBytes (fssWidth d.header.conf.fileFlag) v) rest
  rw [beBytes_length] at this
  rw [parseFss_eq, if_neg (by simp), this, beNat_beBytes _ _ hv]

theorem parseFss_documented (d : FileDirective) (raw : Bytes) (i : Nat) : Documented (d.parseFss raw i) := by
  rw [parseFss_eq]
  exact Documented.ite (Documented.err rfl) (Documented.ok _)

theorem verifyFileLen_eq (d : FileDirective) (size : Int) :
    d.verifyFileLen size =
      if (d.header.conf.fileFlag = 1 ∧ size > 18446744073709551616) ∨
         (d.header.conf.fileFlag = 0 ∧ size > 4294967296) then .error .value else .ok () := by
  unfold FileDirective.verifyFileLen
  by_cases h1 : d.header.conf.fileFlag = 1 ∧ size > 18446744073709551616
  · simp [h1]
  · by_cases h2 : d.header.conf.fileFlag = 0 ∧ size > 4294967296 <;> simp [h1, h2]

theorem bind_prelude_documented {α : Type} (f : FileDirective × Bytes → Py α)
    (hf : ∀ r, Documented (f r)) (d : Bytes) : Documented (prelude d >>= f) :=
  Documented.bind (prelude_documented d) (fun r _ => hf r)

theorem bind_prelude_inv {α : Type} (f : FileDirective × Bytes → Py α) (d : Bytes) (a : α)
    (h : (prelude d >>= f) = .ok a) : ∃ fd p, prelude d = .ok (fd, p) ∧ f (fd, p) = .ok a := by
  obtain ⟨r, hp, hf⟩ := bind_ok_inv h
  exact ⟨r.1, r.2, hp, hf⟩

/-- **such a decoder reads nothing but the declared PDU**: an accepted buffer holds the whole
    declared PDU (CRC-16 zero when flagged), and cut to the declared length and followed by anything
    it is decoded to the same result -/
theorem bind_prelude_take {α : Type} (f : FileDirective × Bytes → Py α) (d : Bytes) (a : α)
    (h : (prelude d >>= f) = .ok a) :
    ∃ fd p, prelude d = .ok (fd, p) ∧ f (fd, p) = .ok a ∧ fd.packetLen ≤ d.length ∧
      (fd.header.conf.crcFlag = 1 → Crc.crc16 (d.take fd.packetLen) = 0) ∧
      (1 ≤ fd.header.dataFieldLen → ∀ rest, (prelude (d.take fd.packetLen ++ rest) >>= f) = .ok a) := by
  obtain ⟨fd, p, hp, hf⟩ := bind_prelude_inv f d a h
  obtain ⟨_, _, h3, h4, _⟩ := (prelude_ok_iff d fd p).mp hp
  refine ⟨fd, p, hp, hf, h3, h4, fun h1 rest => ?_⟩
  rw [prelude_take d fd p hp h1 rest, bind_ok]
  exact hf

theorem bind_prelude_keeps {α : Type} (f : FileDirective × Bytes → Py α) (fdOf : α → FileDirective)
    (hk : ∀ fd p a, f (fd, p) = .ok a → fdOf a = fd ∧ fd.headerLen < p.length) (d : Bytes) (a : α)
    (h : (prelude d >>= f) = .ok a) :
    prelude d = .ok (fdOf a, d.take (fdOf a).paramsEnd) ∧
    f (fdOf a, d.take (fdOf a).paramsEnd) = .ok a ∧ (fdOf a).packetLen ≤ d.length ∧
    ((fdOf a).header.conf.crcFlag = 1 → Crc.crc16 (d.take (fdOf a).packetLen) = 0) ∧
    ∀ rest, (prelude (d.take (fdOf a).packetLen ++ rest) >>= f) = .ok a := by
  obtain ⟨fd, p, hp, hf, h3, h4, h5⟩ := bind_prelude_take f d a h
  obtain ⟨rfl, hlt⟩ := hk fd p a hf
  obtain ⟨_, _, hlen, hpe, _, _⟩ := prelude_facts d _ p hp
  obtain rfl := ((prelude_ok_iff d _ p).mp hp).2.2.2.2
  have := packetLen_eq (fdOf a)
  have := headerLen_eq (fdOf a)
  exact ⟨hp, hf, h3, h4, h5 (by omega)⟩

/-- **every strict prefix of a laid-out PDU is refused by the prelude with `ValueError`**
    (directive header ‖ anything `R`, of the declared total length) -/
theorem prelude_truncated (d : FileDirective) (wf : C05.WF d.header) (R : Bytes)
    (hlen : (specOctets d ++ R).length = d.packetLen) (k : Nat) (hk : k < d.packetLen) :
    prelude ((specOctets d ++ R).take k) = .error .value := by
  have hh := (C05.C05_len d.header wf).2.1
  unfold prelude
  by_cases h1 : k < d.header.headerLen
  · have e : (specOctets d ++ R).take k = (C05.Spec.octets d.header).take k := by
      simp only [specOctets, List.append_assoc]
      rw [List.take_append_of_le_length (by omega)]
    rw [e, unpack_hdr_err _ _ (C05.C05_truncated d.header wf k h1)]
    rfl
  · have e : (specOctets d ++ R).take k
        = C05.Spec.octets d.header ++ ((u8 d.code :: R).take (k - d.header.headerLen)) := by
      simp only [specOctets, List.append_assoc, List.singleton_append]
      rw [List.take_append, hh, List.take_of_length_le (by omega)]
    have hu : PduHeader.unpack ((specOctets d ++ R).take k) = .ok d.header :=
      e ▸ C05.C05_roundtrip d.header wf _
    have hkl : ((specOctets d ++ R).take k).length = k := by
      rw [List.length_take]; omega
    by_cases h2 : k = d.header.headerLen
    · rw [unpack_short _ _ hu (by omega)]; rfl
    · rw [unpack_ok _ _ hu (by omega), bind_ok]
      have hv : d.header.verifyLengthAndChecksum ((specOctets d ++ R).take k) = .error .value := by
        rw [verify_eq, if_pos (by rw [hkl]; exact hk)]
      show (PduHeader.verifyLengthAndChecksum _ _ >>= _) = _
      rw [hv]; rfl

end SpVerif.FileDirective
