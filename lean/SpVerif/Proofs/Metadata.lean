import SpVerif.Model.Metadata
import SpVerif.Proofs.Eof
import SpVerif.Proofs.Lv
/-!
# The Metadata PDU model: constructor and setter equations, the option loop (documented errors
only), the decoder as prelude + `parse`
-/
namespace SpVerif.Metadata
open SpVerif SpVerif.CfdpHeader SpVerif.FileDirective SpVerif.Tlv SpVerif.Lv

/-- directive-parameter length of a Metadata PDU -/
def mdParamLen (fileFlag crcFlag : Nat) (src dst : CfdpLv) (opts : Option (List AnyTlv)) : Nat :=
  1 + fssWidth fileFlag + src.packetLen + dst.packetLen + optionsLen (optList opts)
    + (if crcFlag = 1 then 2 else 0)

theorem calcLen_eq (fd : FileDirective) (src dst : CfdpLv) (opts : Option (List AnyTlv)) :
    calcLen fd src dst opts =
      fd.setParamLen (mdParamLen fd.header.conf.fileFlag fd.header.conf.crcFlag src dst opts) := by
  unfold calcLen mdParamLen fssWidth
  by_cases hf : fd.header.conf.fileFlag = 1 <;> by_cases hc : fd.header.conf.crcFlag = 1 <;>
    simp only [hf, hc, ↓reduceIte] <;> congr 1 <;> omega

theorem calcLen_eq' (fd : FileDirective) (src dst : CfdpLv) (opts : Option (List AnyTlv)) :
    calcLen fd src dst opts =
      if 65535 < mdParamLen fd.header.conf.fileFlag fd.header.conf.crcFlag src dst opts + 1 then .error .value
      else .ok { fd with header := { fd.header with
        dataFieldLen := mdParamLen fd.header.conf.fileFlag fd.header.conf.crcFlag src dst opts + 1 } } := by
  rw [calcLen_eq, setParamLen_eq]

theorem calcLen_documented (fd : FileDirective) (src dst : CfdpLv) (opts : Option (List AnyTlv)) :
    Documented (calcLen fd src dst opts) := by
  rw [calcLen_eq]; exact setParamLen_documented _ _

/-- octets of a name as the constructor / setters take it (`None` = no name) -/
def nameOctets : Option Bytes → Bytes
  | some n => n
  | none => []

theorem nameLv_bind {β : Type} (n : Option Bytes) (g : CfdpLv → Py β) :
    (nameLv n >>= g) = if 255 < (nameOctets n).length then .error .value else g ⟨nameOctets n⟩ := by
  have : nameLv n = CfdpLv.new (nameOctets n) := by cases n <;> rfl
  rw [this]
  by_cases h : 255 < (nameOctets n).length
  · rw [if_pos h, CfdpLv.new_err h, bind_err]
  · rw [if_neg h, CfdpLv.new_ok (by omega), bind_ok]

theorem new_eq (c : PduConfig) (cl : Bool) (ct : Nat) (size : Int) (src dst : Option Bytes)
    (opts : Option (List AnyTlv)) :
    Metadata.new c cl ct size src dst opts =
      if 255 < (nameOctets src).length ∨ 255 < (nameOctets dst).length then .error .value
      else if c.source.width ≠ c.dest.width ∨
          65535 < mdParamLen c.fileFlag c.crcFlag ⟨nameOctets src⟩ ⟨nameOctets dst⟩ opts + 1 then .error .value
      else .ok ⟨⟨⟨0, 0, mdParamLen c.fileFlag c.crcFlag ⟨nameOctets src⟩ ⟨nameOctets dst⟩ opts + 1,
                  { c with direction := 0 }⟩, 7⟩, cl, ct, size, ⟨nameOctets src⟩, ⟨nameOctets dst⟩, opts⟩ := by
  unfold Metadata.new
  rw [nameLv_bind, nameLv_bind]
  by_cases h1 : 255 < (nameOctets src).length
  · rw [if_pos h1, if_pos (Or.inl h1)]
  by_cases h2 : 255 < (nameOctets dst).length
  · rw [if_neg h1, if_pos h2, if_pos (Or.inr h2)]
  rw [if_neg h1, if_neg h2, if_neg (not_or.mpr ⟨h1, h2⟩), new_bind _ _ _ (by omega), calcLen_eq']
  by_cases hw : c.source.width ≠ c.dest.width
  · rw [if_pos hw, if_pos (Or.inl hw)]
  simp only [hw, false_or, ↓reduceIte]
  split <;> rfl

theorem setOptions_eq (k : Metadata) (opts : Option (List AnyTlv)) :
    k.setOptions opts =
      if 65535 < mdParamLen k.fd.header.conf.fileFlag k.fd.header.conf.crcFlag k.srcLv k.dstLv opts + 1
      then .error .value
      else .ok { k with options := opts, fd := { k.fd with header := { k.fd.header with
        dataFieldLen := mdParamLen k.fd.header.conf.fileFlag k.fd.header.conf.crcFlag k.srcLv k.dstLv opts + 1 } } } := by
  unfold Metadata.setOptions
  rw [calcLen_eq']
  split <;> rfl

theorem setSrcName_eq (k : Metadata) (n : Option Bytes) :
    k.setSrcName n =
      if 255 < (nameOctets n).length ∨
        65535 < mdParamLen k.fd.header.conf.fileFlag k.fd.header.conf.crcFlag ⟨nameOctets n⟩ k.dstLv k.options + 1
      then .error .value
      else .ok { k with srcLv := ⟨nameOctets n⟩, fd := { k.fd with header := { k.fd.header with
        dataFieldLen :=
          mdParamLen k.fd.header.conf.fileFlag k.fd.header.conf.crcFlag ⟨nameOctets n⟩ k.dstLv k.options + 1 } } } := by
  unfold Metadata.setSrcName
  rw [nameLv_bind, calcLen_eq']
  by_cases h1 : 255 < (nameOctets n).length
  · rw [if_pos h1, if_pos (Or.inl h1)]
  simp only [h1, false_or, ↓reduceIte]
  split <;> rfl

theorem setDstName_eq (k : Metadata) (n : Option Bytes) :
    k.setDstName n =
      if 255 < (nameOctets n).length ∨
        65535 < mdParamLen k.fd.header.conf.fileFlag k.fd.header.conf.crcFlag k.srcLv ⟨nameOctets n⟩ k.options + 1
      then .error .value
      else .ok { k with dstLv := ⟨nameOctets n⟩, fd := { k.fd with header := { k.fd.header with
        dataFieldLen :=
          mdParamLen k.fd.header.conf.fileFlag k.fd.header.conf.crcFlag k.srcLv ⟨nameOctets n⟩ k.options + 1 } } } := by
  unfold Metadata.setDstName
  rw [nameLv_bind, calcLen_eq']
  by_cases h1 : 255 < (nameOctets n).length
  · rw [if_pos h1, if_pos (Or.inl h1)]
  simp only [h1, false_or, ↓reduceIte]
  split <;> rfl

theorem parseOptions_doc (d : Bytes) : Documented (parseOptions d) := by
  fun_induction parseOptions d with
  | case1 d ih =>
    refine Documented.bind (CfdpTlv.unpack_documented d) fun t _ => ?_
    by_cases h1 : t.packetLen > d.length
    · rw [if_pos h1]; exact Documented.err rfl
    rw [if_neg h1]
    split
    · exact Documented.ok _
    · exact Documented.bind (ih t h1) fun _ _ => Documented.ok _

/-- **the loop fails only with `ValueError`** on any input; termination is by construction
    (well-founded recursion on the number of unconsumed octets) -/
theorem parseOptions_documented : ∀ (n : Nat) (d : Bytes), d.length = n → Documented (parseOptions d) :=
  fun _ d _ => parseOptions_doc d

/-- index just behind the first parameter octet and the file size -/
def fixedEnd (fd : FileDirective) : Nat := fd.headerLen + 1 + fssWidth fd.header.conf.fileFlag

/-- the parameter parser on the base object and the cut buffer the prelude returns -/
def parse (r : FileDirective × Bytes) : Py Metadata := do
  let fd := r.1
  let data := r.2
  let i := fd.headerLen
  if data.length < (if fd.header.conf.fileFlag = 1 then i + 7 + 4 else i + 7) then throw .value
  let b ← idx data i
  let ct ← enumOf checksumTypes (b % 16)
  let (j, size) ← fd.parseFss data (i + 1)
  let s ← CfdpLv.unpack (data.drop j)
  let j := j + s.packetLen
  let t ← CfdpLv.unpack (data.drop j)
  let j := j + t.packetLen
  if j < data.length then
    let opts ← parseOptions (data.drop j)
    pure ⟨fd, decide (b / 64 % 2 = 1), ct, (size : Int), s, t, some (opts.map AnyTlv.generic)⟩
  else
    pure ⟨fd, decide (b / 64 % 2 = 1), ct, (size : Int), s, t, none⟩

theorem minLen_ge (fd : FileDirective) :
    fd.headerLen + 7 ≤ (if fd.header.conf.fileFlag = 1 then fd.headerLen + 7 + 4 else fd.headerLen + 7) := by
  split <;> omega

theorem unpack_eq (d : Bytes) : Metadata.unpack d = prelude d >>= parse := by
  rw [prelude_bind]
  refine bind_congr fun fd => ?_
  cases hv : fd.verify d with
  | error e => rfl
  | ok n =>
    have hle : fd.packetLen ≤ d.length := ((verify_ok_iff fd.header d n).mp hv).2.1
    rw [bind_ok, bind_ok]
    unfold parse
    dsimp only
    generalize (if fd.header.conf.fileFlag = 1 then fd.headerLen + 7 + 4 else fd.headerLen + 7) = m
    by_cases h1 : d.length < max m fd.packetLen
    · have h2 : (d.take fd.paramsEnd).length < m := by rw [List.length_take]; omega
      rw [if_pos h1, if_pos h2, throw_eq, bind_err, bind_err]
    · rw [if_neg h1]

/-- **the parser on a laid-out parameter field**: first octet `b0`, file size `v` in the selected
    width, two octet strings that decode (whatever follows) to the LVs `s` and `t`, then the octets `O`
    of the options, all behind any `A` of the directive header's length -/
theorem parse_layout (fd : FileDirective) (A S T O : Bytes) (b0 : UInt8) (ct v : Nat) (s t : CfdpLv)
    (hA : A.length = fd.headerLen) (hct : enumOf checksumTypes (b0.toNat % 16) = .ok ct)
    (hv : v < 256 ^ fssWidth fd.header.conf.fileFlag)
    (hS : ∀ rest, CfdpLv.unpack (S ++ rest) = .ok s) (hSl : S.length = s.packetLen)
    (hT : ∀ rest, CfdpLv.unpack (T ++ rest) = .ok t) (hTl : T.length = t.packetLen) :
    parse (fd, A ++ [b0] ++ beBytes (fssWidth fd.header.conf.fileFlag) v ++ (S ++ (T ++ O))) =
      if O = [] then .ok ⟨fd, decide (b0.toNat / 64 % 2 = 1), ct, (v : Int), s, t, none⟩
      else parseOptions O >>= fun opts =>
        .ok ⟨fd, decide (b0.toNat / 64 % 2 = 1), ct, (v : Int), s, t, some (opts.map AnyTlv.generic)⟩ := by
  have hs1 : 1 ≤ s.packetLen := Nat.le_add_left _ _
  have ht1 : 1 ≤ t.packetLen := Nat.le_add_left _ _
  have hf := parseFss_spec fd (A ++ [b0]) (S ++ (T ++ O)) v hv
  generalize hw : fssWidth fd.header.conf.fileFlag = w at *
  have hm : (if fd.header.conf.fileFlag = 1 then fd.headerLen + 7 + 4 else fd.headerLen + 7)
      = fd.headerLen + 3 + w := by rw [← hw]; unfold fssWidth; split <;> omega
  have l1 : (A ++ [b0]).length = fd.headerLen + 1 := by rw [List.length_append, hA]; rfl
  have hi : idx (A ++ [b0] ++ beBytes w v ++ (S ++ (T ++ O))) fd.headerLen = .ok b0.toNat := by
    rw [← hA]; simp [idx]
  have hd1 : (A ++ [b0] ++ beBytes w v ++ (S ++ (T ++ O))).drop (fd.headerLen + 1 + w) = S ++ (T ++ O) :=
    List.drop_left' (by rw [List.length_append, l1, beBytes_length])
  have hlen : (A ++ [b0] ++ beBytes w v ++ (S ++ (T ++ O))).length
      = fd.headerLen + 1 + w + s.packetLen + t.packetLen + O.length := by
    simp only [List.length_append, l1, beBytes_length, hSl, hTl]; omega
  rw [l1] at hf
  generalize A ++ [b0] ++ beBytes w v ++ (S ++ (T ++ O)) = D at *
  unfold parse
  dsimp only
  rw [hm, if_neg (by omega)]
  show (idx D fd.headerLen >>= _) = _
  rw [hi, bind_ok, hct, bind_ok, hf, bind_ok]
  dsimp only
  rw [hd1, hS, bind_ok, ← List.drop_drop, hd1, ← hSl, List.drop_left, hT, bind_ok, ← List.drop_drop,
    ← List.drop_drop, hd1, List.drop_left, ← hTl, List.drop_left, hlen, hSl, hTl]
  by_cases hO : O = []
  · rw [if_pos hO, hO, if_neg (by simp)]; rfl
  · rw [if_neg hO, if_pos (by have := List.length_pos_iff.mpr hO; omega)]; rfl

theorem parse_keeps (fd : FileDirective) (p : Bytes) (a : Metadata) (h : parse (fd, p) = .ok a) :
    a.fd = fd ∧ fd.headerLen < p.length := by
  have hm7 := minLen_ge fd
  unfold parse at h
  dsimp only at h
  generalize (if fd.header.conf.fileFlag = 1 then fd.headerLen + 7 + 4 else fd.headerLen + 7) = m at hm7 h
  by_cases hlt : p.length < m
  · rw [if_pos hlt, throw_eq, bind_err] at h; cases h
  rw [if_neg hlt] at h
  refine ⟨?_, by omega⟩
  obtain ⟨b, _, h⟩ := bind_ok_inv h
  obtain ⟨ct, _, h⟩ := bind_ok_inv h
  obtain ⟨js, _, h⟩ := bind_ok_inv h
  obtain ⟨s, _, h⟩ := bind_ok_inv h
  obtain ⟨t, _, h⟩ := bind_ok_inv h
  split at h
  · obtain ⟨o, _, h⟩ := bind_ok_inv h
    cases pure_ok_inv h; rfl
  · cases pure_ok_inv h; rfl

theorem parse_documented (r : FileDirective × Bytes) : Documented (parse r) := by
  obtain ⟨fd, p⟩ := r
  have hm7 := minLen_ge fd
  unfold parse
  dsimp only
  generalize (if fd.header.conf.fileFlag = 1 then fd.headerLen + 7 + 4 else fd.headerLen + 7) = m at hm7 ⊢
  by_cases hlt : p.length < m
  · rw [if_pos hlt]; exact Documented.err rfl
  rw [if_neg hlt]
  show Documented (idx p fd.headerLen >>= _)
  rw [idx_ok (by omega), bind_ok]
  refine Documented.bind (enumOf_documented _ _) fun ct _ =>
    Documented.bind (parseFss_documented _ _ _) fun js _ =>
    Documented.bind (CfdpLv.unpack_documented _) fun s _ =>
    Documented.bind (CfdpLv.unpack_documented _) fun t _ =>
    Documented.ite (Documented.bind (parseOptions_doc _) fun _ _ => Documented.ok _) (Documented.ok _)

/-- the decoder fails, on any octet string whatever, only with `ValueError`,
    `UnsupportedCfdpVersion` or `InvalidCrc` (never `IndexError` / `struct.error`) -/
theorem unpack_documented (d : Bytes) : Documented (Metadata.unpack d) := by
  rw [unpack_eq]; exact bind_prelude_documented parse parse_documented d

theorem unpack_inv (d : Bytes) (a : Metadata) (h : Metadata.unpack d = .ok a) :
    ∃ p, prelude d = .ok (a.fd, p) ∧ parse (a.fd, p) = .ok a ∧ a.packetLen ≤ d.length ∧
      (a.fd.header.conf.crcFlag = 1 → Crc.crc16 (d.take a.packetLen) = 0) ∧
      ∀ rest, Metadata.unpack (d.take a.packetLen ++ rest) = .ok a := by
  rw [unpack_eq] at h
  obtain ⟨hp, hf, h3, h4, ht⟩ := bind_prelude_keeps parse (·.fd) parse_keeps d a h
  exact ⟨_, hp, hf, h3, h4, fun rest => unpack_eq _ ▸ ht rest⟩

theorem unpack_take (d : Bytes) (a : Metadata) (h : Metadata.unpack d = .ok a) (rest : Bytes) :
    Metadata.unpack (d.take a.packetLen ++ rest) = .ok a := by
  obtain ⟨_, _, _, _, _, ht⟩ := unpack_inv d a h
  exact ht rest

end SpVerif.Metadata
