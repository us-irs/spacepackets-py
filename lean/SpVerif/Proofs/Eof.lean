import SpVerif.Model.Eof
import SpVerif.Proofs.FileDirective
import SpVerif.Proofs.Tlv
import SpVerif.Proofs.Nak
/-!
# The EOF PDU model: constructor and setter equations, the decoder as prelude + `parse`, with
`parse_eq` as the case-by-case equation of the parser
-/
namespace SpVerif.FileDirective
open SpVerif SpVerif.CfdpHeader

/-- the octet at index `i` (0 when out of range; only used under a length guard) -/
def octetAt (p : Bytes) (i : Nat) : Nat := (p[i]?.getD 0).toNat

theorem idx_octetAt {p : Bytes} {i : Nat} (h : i < p.length) : idx p i = .ok (octetAt p i) := by
  simp [idx_ok h, octetAt, List.getElem?_eq_getElem h]

theorem octetAt_lt (p : Bytes) (i : Nat) : octetAt p i < 256 := toNat_lt _

end SpVerif.FileDirective

namespace SpVerif.Tlv

theorem EntityIdTlv.unpack_le {d : Bytes} {e : EntityIdTlv} (h : EntityIdTlv.unpack d = .ok e) :
    e.packetLen ≤ d.length := by
  rw [EntityIdTlv.unpack_bind] at h
  obtain ⟨t, ht, h⟩ := bind_ok_inv h
  rw [EntityIdTlv.fromTlv_eq] at h
  split at h
  · cases h; exact (CfdpTlv.unpack_spec d t ht).2.2.1
  · cases h

end SpVerif.Tlv

namespace SpVerif.Eof
open SpVerif SpVerif.CfdpHeader SpVerif.FileDirective SpVerif.Tlv

/-- octets a fault location adds -/
def faultLen : Option EntityIdTlv → Nat
  | some t => t.packetLen
  | none => 0

/-- directive-parameter length of an EOF PDU -/
def eofParamLen (fileFlag crcFlag : Nat) (fl : Option EntityIdTlv) : Nat :=
  5 + fssWidth fileFlag + faultLen fl + (if crcFlag = 1 then 2 else 0)

theorem calcLen_eq (fd : FileDirective) (fl : Option EntityIdTlv) :
    calcLen fd fl = fd.setParamLen (eofParamLen fd.header.conf.fileFlag fd.header.conf.crcFlag fl) := by
  unfold calcLen eofParamLen
  rw [← width_of_large]
  cases fl <;> cases fd.header.largeFileFlagSet <;> by_cases hc : fd.header.conf.crcFlag = 1 <;>
    simp only [hc, ↓reduceIte, faultLen, Bool.false_eq_true] <;> congr 1 <;> omega

theorem calcLen_eq' (fd : FileDirective) (fl : Option EntityIdTlv) :
    calcLen fd fl =
      if 65535 < eofParamLen fd.header.conf.fileFlag fd.header.conf.crcFlag fl + 1 then .error .value
      else .ok { fd with header := { fd.header with
        dataFieldLen := eofParamLen fd.header.conf.fileFlag fd.header.conf.crcFlag fl + 1 } } := by
  rw [calcLen_eq, setParamLen_eq]

theorem calcLen_documented (fd : FileDirective) (fl : Option EntityIdTlv) : Documented (calcLen fd fl) := by
  rw [calcLen_eq]; exact setParamLen_documented _ _

theorem new_eq (c : PduConfig) (cs : Bytes) (size : Int) (fl : Option EntityIdTlv) (cond : Int) :
    Eof.new c cs size fl cond =
      if cs.length ≠ 4 then .error .value
      else if c.source.width ≠ c.dest.width ∨ 65535 < eofParamLen c.fileFlag c.crcFlag fl + 1 then .error .value
      else .ok ⟨⟨⟨0, 0, eofParamLen c.fileFlag c.crcFlag fl + 1, { c with direction := 0 }⟩, 4⟩,
                cond, cs, size, fl⟩ := by
  unfold Eof.new
  by_cases h1 : cs.length ≠ 4
  · rw [if_pos h1, if_pos h1]; rfl
  rw [if_neg h1, if_neg h1]
  show (FileDirective.new _ _ _ >>= _) = _
  rw [new_bind _ _ _ (by omega)]
  by_cases hw : c.source.width ≠ c.dest.width
  · rw [if_pos hw, if_pos (Or.inl hw)]
  rw [if_neg hw, calcLen_eq']
  by_cases h3 : 65535 < eofParamLen c.fileFlag c.crcFlag fl + 1
  · rw [if_pos h3, if_pos (Or.inr h3)]; rfl
  · rw [if_neg h3, if_neg (not_or.mpr ⟨hw, h3⟩)]; rfl

theorem setFaultLoc_eq (k : Eof) (fl : Option EntityIdTlv) :
    k.setFaultLoc fl =
      if 65535 < eofParamLen k.fd.header.conf.fileFlag k.fd.header.conf.crcFlag fl + 1 then .error .value
      else .ok { k with faultLoc := fl, fd := { k.fd with header := { k.fd.header with
        dataFieldLen := eofParamLen k.fd.header.conf.fileFlag k.fd.header.conf.crcFlag fl + 1 } } } := by
  unfold Eof.setFaultLoc
  rw [calcLen_eq']
  split <;> rfl

/-- the parameter parser on the base object and the cut buffer the prelude returns -/
def parse (r : FileDirective × Bytes) : Py Eof := do
  let fd := r.1
  let data := r.2
  if fd.headerLen + 9 > data.length then throw .value
  let i := fd.headerLen
  let b ← idx data i
  let checksum := slice data (i + 1) (i + 5)
  let (j, size) ← fd.parseFss data (i + 5)
  if data.length > j then
    let fl ← EntityIdTlv.unpack (data.drop j)
    let fd ← calcLen fd (some fl)
    pure ⟨fd, ((b / 16 % 16 : Nat) : Int), checksum, (size : Int), some fl⟩
  else
    pure ⟨fd, ((b / 16 % 16 : Nat) : Int), checksum, (size : Int), none⟩

theorem unpack_eq (d : Bytes) : Eof.unpack d = prelude d >>= parse := by
  rw [prelude_bind]; rfl

/-- index just behind the fixed parameters (condition code, checksum, file size) -/
def fixedEnd (fd : FileDirective) : Nat := fd.headerLen + 5 + fssWidth fd.header.conf.fileFlag

/-- condition code, checksum and file size as read from the cut buffer -/
def condOf (fd : FileDirective) (p : Bytes) : Int := ((octetAt p fd.headerLen / 16 % 16 : Nat) : Int)
def checksumOf (fd : FileDirective) (p : Bytes) : Bytes := slice p (fd.headerLen + 1) (fd.headerLen + 5)
def sizeOf (fd : FileDirective) (p : Bytes) : Int :=
  ((beNat (slice p (fd.headerLen + 5) (fixedEnd fd)) : Nat) : Int)

theorem parse_eq (fd : FileDirective) (p : Bytes) :
    parse (fd, p) =
      if p.length < fixedEnd fd then .error .value
      else if p.length = fixedEnd fd then .ok ⟨fd, condOf fd p, checksumOf fd p, sizeOf fd p, none⟩
      else EntityIdTlv.unpack (p.drop (fixedEnd fd)) >>= fun fl =>
        calcLen fd (some fl) >>= fun fd' => .ok ⟨fd', condOf fd p, checksumOf fd p, sizeOf fd p, some fl⟩ := by
  have hw := fssWidth_pos fd.header.conf.fileFlag
  unfold parse fixedEnd
  dsimp only
  by_cases h1 : fd.headerLen + 9 > p.length
  · rw [if_pos h1, if_pos (by omega)]; rfl
  rw [if_neg h1]
  show (idx p fd.headerLen >>= _) = _
  rw [idx_octetAt (by omega), bind_ok, parseFss_eq]
  by_cases h2 : p.length < fd.headerLen + 5 + fssWidth fd.header.conf.fileFlag
  · rw [if_pos h2, if_pos h2]; rfl
  rw [if_neg h2, if_neg h2, bind_ok]
  by_cases h3 : p.length = fd.headerLen + 5 + fssWidth fd.header.conf.fileFlag
  · rw [if_pos h3]; exact if_neg (by omega)
  · rw [if_neg h3]; exact if_pos (by omega)

theorem parse_documented (r : FileDirective × Bytes) : Documented (parse r) := by
  obtain ⟨fd, p⟩ := r
  rw [parse_eq]
  exact Documented.ite (Documented.err rfl) (Documented.ite (Documented.ok _)
    (Documented.bind (EntityIdTlv.unpack_documented _) fun fl _ =>
      Documented.bind (calcLen_documented fd (some fl)) fun _ _ => Documented.ok _))

/-- the decoder fails, on any octet string whatever, only with `ValueError`,
    `UnsupportedCfdpVersion`, `InvalidCrc` or `TlvTypeMissmatch` (never `IndexError` / `struct.error`) -/
theorem unpack_documented (d : Bytes) : Documented (Eof.unpack d) := by
  rw [unpack_eq]; exact bind_prelude_documented parse parse_documented d

theorem parse_fd (fd : FileDirective) (p : Bytes) (a : Eof) (h : parse (fd, p) = .ok a) :
    fixedEnd fd ≤ p.length ∧ a.fd.code = fd.code ∧ a.fd.header.conf = fd.header.conf ∧
    (a.faultLoc = none → a.fd = fd ∧ p.length = fixedEnd fd) ∧
    (∀ t, a.faultLoc = some t →
      EntityIdTlv.unpack (p.drop (fixedEnd fd)) = .ok t ∧
      a.fd.header.dataFieldLen = eofParamLen fd.header.conf.fileFlag fd.header.conf.crcFlag (some t) + 1) := by
  rw [parse_eq] at h
  split at h
  · cases h
  split at h
  · rename_i h2
    cases h
    exact ⟨by omega, rfl, rfl, fun _ => ⟨rfl, h2⟩, fun t ht => nomatch ht⟩
  obtain ⟨fl, hu, h⟩ := bind_ok_inv h
  obtain ⟨fd', hc, h⟩ := bind_ok_inv h
  cases h
  rw [calcLen_eq'] at hc
  split at hc
  · cases hc
  · cases hc
    refine ⟨by omega, rfl, rfl, nofun, fun t ht => ?_⟩
    cases ht; exact ⟨hu, rfl⟩

theorem unpack_inv (d : Bytes) (a : Eof) (h : Eof.unpack d = .ok a) :
    ∃ fd p, prelude d = .ok (fd, p) ∧ parse (fd, p) = .ok a ∧ fd.packetLen ≤ d.length ∧
      (fd.header.conf.crcFlag = 1 → Crc.crc16 (d.take fd.packetLen) = 0) ∧
      a.packetLen ≤ fd.packetLen ∧ ∀ rest, Eof.unpack (d.take fd.packetLen ++ rest) = .ok a := by
  rw [unpack_eq] at h
  obtain ⟨fd, p, hp, hf, h3, h4, ht⟩ := bind_prelude_take parse d a h
  obtain ⟨_, _, hlen, hpe, _, _⟩ := prelude_facts d fd p hp
  obtain ⟨g1, _, gc, gn, gs⟩ := parse_fd fd p a hf
  have hw := fssWidth_pos fd.header.conf.fileFlag
  have hpl := packetLen_eq fd
  have hhl := headerLen_eq fd
  have hfe : fixedEnd fd = fd.headerLen + 5 + fssWidth fd.header.conf.fileFlag := rfl
  refine ⟨fd, p, hp, hf, h3, h4, ?_, fun rest => unpack_eq _ ▸ ht (by omega) rest⟩
  cases hfl : a.faultLoc with
  | none => rw [show a.packetLen = a.fd.packetLen from rfl, (gn hfl).1]; exact Nat.le_refl _
  | some t =>
    obtain ⟨hu, hdl⟩ := gs t hfl
    have hle := EntityIdTlv.unpack_le hu
    rw [List.length_drop] at hle
    have hpe2 := paramsEnd_add fd
    have hhh : a.fd.header.headerLen = fd.header.headerLen := by
      unfold PduHeader.headerLen; rw [gc]
    rw [show a.packetLen = a.fd.header.dataFieldLen + a.fd.header.headerLen from rfl, hdl, hhh]
    simp only [eofParamLen, faultLen]
    generalize (if fd.header.conf.crcFlag = 1 then 2 else 0) = c2 at hpe2 ⊢
    omega

/-- **only the declared PDU matters**: an accepted buffer decodes to the same PDU when it is cut
    to the declared length and followed by anything else -/
theorem unpack_take (d : Bytes) (a : Eof) (h : Eof.unpack d = .ok a) :
    ∃ fd p, prelude d = .ok (fd, p) ∧ ∀ rest, Eof.unpack (d.take fd.packetLen ++ rest) = .ok a := by
  obtain ⟨fd, p, hp, _, _, _, _, ht⟩ := unpack_inv d a h
  exact ⟨fd, p, hp, ht⟩

end SpVerif.Eof
