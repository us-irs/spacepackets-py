import SpVerif.Model.CfdpHeader
import SpVerif.Proofs.CrcResidue
/-!
# The CFDP fixed PDU header model, case by case

Each operation of `PduHeader` is characterised by one equation over all inputs (`unpack_cons4`, `new_eq`,
`verify_eq`); what the decoder accepts is read back with `unpack_cases` / `unpack_ok_inv`.
-/
namespace SpVerif.CfdpHeader
open SpVerif

/-- the four widths a CFDP header can carry -/
def okWidth (w : Nat) : Prop := w = 1 ∨ w = 2 ∨ w = 4 ∨ w = 8

instance (w : Nat) : Decidable (okWidth w) := by unfold okWidth; infer_instance

theorem okWidth_pos {w : Nat} (h : okWidth w) : 1 ≤ w := by unfold okWidth at h; omega
theorem okWidth_le {w : Nat} (h : okWidth w) : w ≤ 8 := by unfold okWidth at h; omega

theorem BF.new_ok {w n : Nat} (hw : okWidth w) (hn : n < 256 ^ w) : BF.new w (n : Int) = .ok ⟨w, n⟩ := by
  unfold okWidth at hw
  unfold BF.new
  rw [if_neg (by omega), if_neg (by omega)]
  rfl

theorem BF.new_refuse (w : Nat) (v : Int) (h : v < 0 ∨ (256 ^ w : Nat) ≤ v) : BF.new w v = .error .value := by
  unfold BF.new
  split
  · rfl
  · have : v < 0 ∨ 256 ^ w ≤ v.toNat := by omega
    simp [this]

theorem BF.new_bad_width (w : Nat) (v : Int) (h : ¬ (w = 0 ∨ w = 1 ∨ w = 2 ∨ w = 4 ∨ w = 8)) :
    BF.new w v = .error .value := by
  simp [BF.new, h]

theorem BF.bytes_length (f : BF) : f.bytes.length = f.width := by simp [BF.bytes]

theorem beNat_lt_of_length {b : Bytes} {n : Nat} (h : b.length = n) : beNat b < 256 ^ n := h ▸ beNat_lt b

theorem beBytes_beNat_of_length {b : Bytes} {n : Nat} (h : b.length = n) : beBytes n (beNat b) = b :=
  h ▸ beBytes_beNat b

/-- the three ID slices behind the fixed octets have the lengths their width codes announce -/
theorem id_slice_lengths (r : Bytes) (i s : Nat) (h : 2 * i + s ≤ r.length) :
    (r.take i).length = i ∧ ((r.drop i).take s).length = s ∧ ((r.drop (i + s)).take i).length = i := by
  simp only [List.length_take, List.length_drop]; omega

theorem BF.fromBytes_ok {w : Nat} (hw : okWidth w) (s : Bytes) (hs : w ≤ s.length) :
    BF.fromBytes w s = .ok ⟨w, beNat (s.take w)⟩ := by
  have hlen : (s.take w).length = w := by rw [List.length_take]; omega
  unfold BF.fromBytes
  rw [if_pos (show w = 1 ∨ w = 2 ∨ w = 4 ∨ w = 8 from hw), if_neg (by omega), show slice s 0 w = s.take w from rfl,
    unpackBE_ok hlen, bind_ok]
  exact BF.new_ok hw (beNat_lt_of_length hlen)

theorem BF.fromBytes_bad_width {w : Nat} (hw : ¬ okWidth w) (s : Bytes) :
    BF.fromBytes w s = .error .value := by
  have hw' : ¬ (w = 1 ∨ w = 2 ∨ w = 4 ∨ w = 8) := hw
  simp [BF.fromBytes, hw']

theorem BF.fromBytes_short {w : Nat} (s : Bytes) (hs : s.length < w) :
    BF.fromBytes w s = .error .value := by
  unfold BF.fromBytes
  by_cases hw : (w = 1 ∨ w = 2 ∨ w = 4 ∨ w = 8)
  · rw [if_pos hw, if_pos hs]
  · rw [if_neg hw]

theorem BF.fromBytes_bytes (f : BF) (hw : okWidth f.width) (hv : f.value < 256 ^ f.width) (rest : Bytes) :
    BF.fromBytes f.width (f.bytes ++ rest) = .ok f := by
  rw [BF.fromBytes_ok hw _ (by simp [BF.bytes])]
  have : (f.bytes ++ rest).take f.width = f.bytes := List.take_left' (BF.bytes_length f)
  rw [this]
  simp [BF.bytes, beNat_beBytes _ _ hv]

theorem checkLenInBytes_eq (n : Nat) :
    checkLenInBytes n = if okWidth n then .ok n else .error .value := rfl

theorem exists_cons4 (d : Bytes) (h : 4 ≤ d.length) :
    ∃ x0 x1 x2 x3 r, d = x0 :: x1 :: x2 :: x3 :: r := by
  match d, h with
  | x0 :: x1 :: x2 :: x3 :: r, _ => exact ⟨x0, x1, x2, x3, r, rfl⟩

/-- fewer than four octets: `BytesTooShortError` -/
theorem unpack_short (d : Bytes) (h : d.length < 4) : PduHeader.unpack d = .error .value := by
  simp [PduHeader.unpack, h, throw, throwThe, MonadExceptOf.throw, bind, Except.bind]

/-- what `unpack` returns for the fixed octets `x0 x1 x2 x3` followed by `r` (when it accepts) -/
def decoded (x0 x1 x2 x3 : Nat) (r : Bytes) : PduHeader :=
  ⟨x0 / 16 % 2, x3 / 8 % 2, x1 * 256 + x2,
    ⟨⟨x3 / 16 % 8 + 1, beNat (r.take (x3 / 16 % 8 + 1))⟩,
     ⟨x3 / 16 % 8 + 1, beNat ((r.drop (x3 / 16 % 8 + 1 + (x3 % 8 + 1))).take (x3 / 16 % 8 + 1))⟩,
     ⟨x3 % 8 + 1, beNat ((r.drop (x3 / 16 % 8 + 1)).take (x3 % 8 + 1))⟩,
     x0 / 4 % 2, x0 % 2, x0 / 2 % 2, x0 / 8 % 2, x3 / 128 % 2⟩⟩

private theorem slice_cons4 (x0 x1 x2 x3 : UInt8) (r : Bytes) (a n : Nat) :
    slice (x0 :: x1 :: x2 :: x3 :: r) (4 + a) (4 + a + n) = (r.drop a).take n := by
  simp only [slice, List.drop_take, Nat.add_comm 4 a, List.drop_succ_cons]
  congr 1
  omega

theorem unpack_cons4 (x0 x1 x2 x3 : UInt8) (r : Bytes) :
    PduHeader.unpack (x0 :: x1 :: x2 :: x3 :: r) =
      if x0.toNat / 32 ≠ 1 then .error .cfdpVersion
      else if ¬ okWidth (x3.toNat / 16 % 8 + 1) then .error .value
      else if ¬ okWidth (x3.toNat % 8 + 1) then .error .value
      else if r.length < 2 * (x3.toNat / 16 % 8 + 1) + (x3.toNat % 8 + 1) then .error .value
      else .ok (decoded x0.toNat x1.toNat x2.toNat x3.toNat r) := by
  have b1 := toNat_lt x1
  have b2 := toNat_lt x2
  have hl : ¬ (x0 :: x1 :: x2 :: x3 :: r).length < 4 := by simp
  have hd : ¬ x1.toNat * 256 + x2.toNat > 65535 := by omega
  have i0 : idx (x0 :: x1 :: x2 :: x3 :: r) 0 = .ok x0.toNat := rfl
  have i1 : idx (x0 :: x1 :: x2 :: x3 :: r) 1 = .ok x1.toNat := rfl
  have i2 : idx (x0 :: x1 :: x2 :: x3 :: r) 2 = .ok x2.toNat := rfl
  have i3 : idx (x0 :: x1 :: x2 :: x3 :: r) 3 = .ok x3.toNat := rfl
  have e0 : x0.toNat / 32 % 8 = x0.toNat / 32 := by have := toNat_lt x0; omega
  unfold PduHeader.unpack
  simp only [hl, ↓reduceIte, i0, i1, i2, i3, hd, e0, bind, Except.bind, pure, Except.pure,
    checkLenInBytes_eq]
  by_cases hv : x0.toNat / 32 ≠ 1
  · simp [hv, throw, throwThe, MonadExceptOf.throw]
  · simp only [hv, ↓reduceIte]
    by_cases hi : okWidth (x3.toNat / 16 % 8 + 1)
    · simp only [hi, ↓reduceIte, not_true_eq_false]
      by_cases hs : okWidth (x3.toNat % 8 + 1)
      · simp only [hs, ↓reduceIte, not_true_eq_false]
        unfold decoded
        generalize x3.toNat / 16 % 8 + 1 = idw at hi ⊢
        generalize x3.toNat % 8 + 1 = seqw at hs ⊢
        rw [slice_cons4 x0 x1 x2 x3 r 0 idw, slice_cons4 x0 x1 x2 x3 r idw seqw, Nat.add_assoc 4 idw seqw, slice_cons4]
        by_cases hlen : r.length < 2 * idw + seqw
        · simp [hlen, throw, throwThe, MonadExceptOf.throw]
        · rw [BF.fromBytes_ok hi _ (by simp; omega), BF.fromBytes_ok hs _ (by simp; omega),
            BF.fromBytes_ok hi _ (by simp; omega)]
          simp [hlen, List.take_take]
      · simp [hs]
    · simp [hi]

theorem unpack_layout (x0 x1 x2 x3 : UInt8) (A B C rest : Bytes)
    (hv : x0.toNat / 32 = 1) (hi : okWidth (x3.toNat / 16 % 8 + 1)) (hs : okWidth (x3.toNat % 8 + 1))
    (hA : A.length = x3.toNat / 16 % 8 + 1) (hB : B.length = x3.toNat % 8 + 1)
    (hC : C.length = x3.toNat / 16 % 8 + 1) :
    PduHeader.unpack (x0 :: x1 :: x2 :: x3 :: (A ++ B ++ C ++ rest)) =
      .ok ⟨x0.toNat / 16 % 2, x3.toNat / 8 % 2, x1.toNat * 256 + x2.toNat,
        ⟨⟨x3.toNat / 16 % 8 + 1, beNat A⟩, ⟨x3.toNat / 16 % 8 + 1, beNat C⟩, ⟨x3.toNat % 8 + 1, beNat B⟩,
          x0.toNat / 4 % 2, x0.toNat % 2, x0.toNat / 2 % 2, x0.toNat / 8 % 2, x3.toNat / 128 % 2⟩⟩ := by
  rw [unpack_cons4]
  have g1 : ¬ x0.toNat / 32 ≠ 1 := by omega
  have g4 : ¬ (A ++ B ++ C ++ rest).length < 2 * (x3.toNat / 16 % 8 + 1) + (x3.toNat % 8 + 1) := by
    simp only [List.length_append]; omega
  simp only [g1, hi, hs, g4, ↓reduceIte, not_true_eq_false, decoded]
  rw [List.append_assoc A, List.append_assoc A, List.take_left' hA, List.drop_left' hA, List.append_assoc B,
    List.take_left' hB, ← List.append_assoc A, List.drop_left' (by rw [List.length_append, hA, hB]),
    List.take_left' hC]

theorem unpack_ge4 (d : Bytes) (h : 4 ≤ d.length) :
    ∃ x0 x1 x2 x3 r, d = x0 :: x1 :: x2 :: x3 :: r ∧
      PduHeader.unpack d =
        if x0.toNat / 32 ≠ 1 then .error .cfdpVersion
        else if ¬ okWidth (x3.toNat / 16 % 8 + 1) then .error .value
        else if ¬ okWidth (x3.toNat % 8 + 1) then .error .value
        else if r.length < 2 * (x3.toNat / 16 % 8 + 1) + (x3.toNat % 8 + 1) then .error .value
        else .ok (decoded x0.toNat x1.toNat x2.toNat x3.toNat r) := by
  obtain ⟨x0, x1, x2, x3, r, rfl⟩ := exists_cons4 d h
  exact ⟨x0, x1, x2, x3, r, rfl, unpack_cons4 x0 x1 x2 x3 r⟩

/-- every verdict of the decoder: the two refusals, or the accepted layout -/
theorem unpack_cases (d : Bytes) :
    PduHeader.unpack d = .error .value ∨ PduHeader.unpack d = .error .cfdpVersion ∨
    ∃ x0 x1 x2 x3 r, d = x0 :: x1 :: x2 :: x3 :: r ∧ x0.toNat / 32 = 1 ∧
      okWidth (x3.toNat / 16 % 8 + 1) ∧ okWidth (x3.toNat % 8 + 1) ∧
      2 * (x3.toNat / 16 % 8 + 1) + (x3.toNat % 8 + 1) ≤ r.length ∧
      PduHeader.unpack d = .ok (decoded x0.toNat x1.toNat x2.toNat x3.toNat r) := by
  by_cases h4 : d.length < 4
  · exact .inl (unpack_short d h4)
  obtain ⟨x0, x1, x2, x3, r, rfl⟩ := exists_cons4 d (by omega)
  rw [unpack_cons4]
  by_cases hv : x0.toNat / 32 ≠ 1
  · exact .inr (.inl (if_pos hv))
  rw [if_neg hv]
  by_cases hi : ¬ okWidth (x3.toNat / 16 % 8 + 1)
  · exact .inl (if_pos hi)
  rw [if_neg hi]
  by_cases hs : ¬ okWidth (x3.toNat % 8 + 1)
  · exact .inl (if_pos hs)
  rw [if_neg hs]
  by_cases hl : r.length < 2 * (x3.toNat / 16 % 8 + 1) + (x3.toNat % 8 + 1)
  · exact .inl (if_pos hl)
  exact .inr (.inr ⟨x0, x1, x2, x3, r, rfl, Classical.not_not.mp hv, Classical.not_not.mp hi,
    Classical.not_not.mp hs, Nat.le_of_not_lt hl, if_neg hl⟩)

theorem unpack_ok_inv {d : Bytes} {h : PduHeader} (hu : PduHeader.unpack d = .ok h) :
    ∃ x0 x1 x2 x3 r, d = x0 :: x1 :: x2 :: x3 :: r ∧ x0.toNat / 32 = 1 ∧
      okWidth (x3.toNat / 16 % 8 + 1) ∧ okWidth (x3.toNat % 8 + 1) ∧
      2 * (x3.toNat / 16 % 8 + 1) + (x3.toNat % 8 + 1) ≤ r.length ∧
      h = decoded x0.toNat x1.toNat x2.toNat x3.toNat r := by
  rcases unpack_cases d with e | e | ⟨x0, x1, x2, x3, r, h1, h2, h3, h4, h5, e⟩
  · rw [e] at hu; cases hu
  · rw [e] at hu; cases hu
  · exact ⟨x0, x1, x2, x3, r, h1, h2, h3, h4, h5, Except.ok.inj (hu.symm.trans e)⟩

/-- the only errors of the decoder are `ValueError` (too short, bad width code) and
    `UnsupportedCfdpVersion` -/
theorem unpack_error (d : Bytes) (e : Err) (h : PduHeader.unpack d = .error e) :
    e = .value ∨ e = .cfdpVersion := by
  rcases unpack_cases d with g | g | ⟨_, _, _, _, _, _, _, _, _, _, g⟩ <;> rw [g] at h
  · exact .inl (Except.error.inj h).symm
  · exact .inr (Except.error.inj h).symm
  · cases h

theorem unpack_documented (d : Bytes) : Documented (PduHeader.unpack d) := by
  intro e h
  rcases unpack_error d e h with rfl | rfl <;> rfl

theorem headerLenFromRaw_short (d : Bytes) (h : d.length < 4) : headerLenFromRaw d = .error .value := by
  simp [headerLenFromRaw, h, throw, throwThe, MonadExceptOf.throw, bind, Except.bind]

theorem headerLenFromRaw_cons4 (x0 x1 x2 x3 : UInt8) (r : Bytes) :
    headerLenFromRaw (x0 :: x1 :: x2 :: x3 :: r) =
      .ok (4 + 2 * (x3.toNat / 16 % 8 + 1) + (x3.toNat % 8 + 1)) := by
  have hl : ¬ (x0 :: x1 :: x2 :: x3 :: r).length < 4 := by simp
  have i3 : idx (x0 :: x1 :: x2 :: x3 :: r) 3 = .ok x3.toNat := by simp [idx]
  simp only [headerLenFromRaw, hl, ↓reduceIte, i3, bind, Except.bind, pure, Except.pure]

theorem headerLenFromRaw_documented (d : Bytes) : Documented (headerLenFromRaw d) := by
  by_cases h4 : d.length < 4
  · rw [headerLenFromRaw_short d h4]; exact Documented.err rfl
  · obtain ⟨x0, x1, x2, x3, r, rfl⟩ := exists_cons4 d (by omega)
    rw [headerLenFromRaw_cons4]; exact Documented.ok _

theorem setDataFieldLen_eq (h : PduHeader) (n : Nat) :
    h.setDataFieldLen n = if 65535 < n then .error .value else .ok { h with dataFieldLen := n } := rfl

theorem setEntityIds_eq (h : PduHeader) (s t : BF) :
    h.setEntityIds s t = if s.width ≠ t.width then .error .value
      else .ok { h with conf := { h.conf with source := s, dest := t } } := rfl

theorem new_eq (t m n : Nat) (c : PduConfig) :
    PduHeader.new t m n c =
      if 65535 < n ∨ c.source.width ≠ c.dest.width then .error .value else .ok ⟨t, m, n, c⟩ := by
  unfold PduHeader.new PduHeader.setDataFieldLen PduHeader.setEntityIds
  by_cases h1 : 65535 < n
  · have : n > 65535 := h1
    simp [this, bind, Except.bind]
  · have : ¬ n > 65535 := h1
    by_cases h2 : c.source.width = c.dest.width
    · simp [this, h2, bind, Except.bind]
    · simp [this, h2, bind, Except.bind]

theorem headerLen_ge (h : PduHeader) : 4 ≤ h.headerLen := by unfold PduHeader.headerLen; omega
theorem packetLen_ge (h : PduHeader) : 4 ≤ h.packetLen := by
  have := headerLen_ge h; unfold PduHeader.packetLen; omega

/-- **complete case analysis**: too short → `ValueError`; CRC flag set and the CRC-16 over exactly
    the declared PDU is not zero → `InvalidCrc`; otherwise the declared PDU length. -/
theorem verify_eq (h : PduHeader) (d : Bytes) :
    h.verifyLengthAndChecksum d =
      if d.length < h.packetLen then .error .value
      else if h.conf.crcFlag = 1 ∧ Crc.crc16 (d.take h.packetLen) ≠ 0 then .error .crc
      else .ok h.packetLen := by
  have h4 := packetLen_ge h
  unfold PduHeader.verifyLengthAndChecksum
  by_cases hl : d.length < h.packetLen
  · simp [hl, throw, throwThe, MonadExceptOf.throw, bind, Except.bind]
  · have hs : slice d 0 h.packetLen = d.take h.packetLen := by simp [slice]
    have h2 : (slice d (h.packetLen - 2) h.packetLen).length = 2 := by simp; omega
    simp only [hl, ↓reduceIte, hs, unpackBE_ok h2, bind, Except.bind, pure, Except.pure]
    by_cases hc : h.conf.crcFlag = 1
    · by_cases hz : Crc.crc16 (d.take h.packetLen) = 0
      · simp [hc, hz]
      · simp [hc, throw, throwThe, MonadExceptOf.throw]
    · simp [hc]

theorem verify_ok_iff (h : PduHeader) (d : Bytes) (n : Nat) :
    h.verifyLengthAndChecksum d = .ok n ↔
      (n = h.packetLen ∧ h.packetLen ≤ d.length ∧
        (h.conf.crcFlag = 1 → Crc.crc16 (d.take h.packetLen) = 0)) := by
  rw [verify_eq]
  by_cases hl : d.length < h.packetLen
  · rw [if_pos hl]
    exact ⟨nofun, fun ⟨_, h2, _⟩ => absurd hl (Nat.not_lt.mpr h2)⟩
  rw [if_neg hl]
  by_cases hc : h.conf.crcFlag = 1 ∧ Crc.crc16 (d.take h.packetLen) ≠ 0
  · rw [if_pos hc]
    exact ⟨nofun, fun ⟨_, _, h3⟩ => absurd (h3 hc.1) hc.2⟩
  rw [if_neg hc]
  exact ⟨fun h' => ⟨(Except.ok.inj h').symm, Nat.le_of_not_lt hl, fun h1 => Classical.byContradiction fun hz => hc ⟨h1, hz⟩⟩,
    fun ⟨h1, _, _⟩ => h1 ▸ rfl⟩

theorem verify_documented (h : PduHeader) (d : Bytes) : Documented (h.verifyLengthAndChecksum d) := by
  rw [verify_eq]
  exact .ite (.err rfl) (.ite (.err rfl) (.ok _))

/-- the verdict depends only on the first `packet_len` octets of the buffer -/
theorem verify_prefix (h : PduHeader) (d rest : Bytes) (hl : h.packetLen ≤ d.length) :
    h.verifyLengthAndChecksum (d ++ rest) = h.verifyLengthAndChecksum d := by
  rw [verify_eq, verify_eq]
  have g1 : ¬ (d ++ rest).length < h.packetLen := by simp; omega
  have g2 : ¬ d.length < h.packetLen := by omega
  simp only [g1, g2, ↓reduceIte, List.take_append_of_le_length hl]


/-- a packed CFDP header is `header_len` octets long (ID widths agreeing, as every constructor and
    the decoder enforce) and its octets 1–2 hold the cached data-field length -/
theorem PduHeader.pack_inv {h : PduHeader} {b : Bytes} (hp : h.pack = .ok b)
    (hw : h.conf.dest.width = h.conf.source.width) :
    b.length = h.headerLen ∧ (b.drop 1).take 2 = beBytes 2 h.dataFieldLen := by
  unfold PduHeader.pack at hp
  obtain ⟨b0, _, hp⟩ := bind_ok_inv hp
  by_cases hz : h.conf.source.width = 0 ∨ h.conf.seqNum.width = 0
  · rw [if_pos hz] at hp; cases hp
  · rw [if_neg hz] at hp
    obtain ⟨b3, _, hp⟩ := bind_ok_inv hp
    cases pure_ok_inv hp
    constructor
    · simp only [List.length_append, List.length_cons, List.length_nil, BF.bytes_length, PduHeader.headerLen, hw]
      omega
    · rw [beBytes_2]; rfl

/-- **reported length = packed length**: header ‖ `P` ‖ CRC trailer iff flagged, the cached
    data-field length counting `P` and the trailer, is `packet_len` octets long, and octets 1–2 say
    how many octets follow the header -/
theorem PduHeader.pack_len_field {h : PduHeader} {hdr P body b : Bytes} (hh : h.pack = .ok hdr)
    (hw : h.conf.dest.width = h.conf.source.width) (hbody : hdr ++ P = body)
    (hb : (if h.conf.crcFlag = 1 then body ++ Crc.crcTrailer body else body) = b)
    (hd : h.dataFieldLen = P.length + (if h.conf.crcFlag = 1 then 2 else 0)) :
    b.length = h.packetLen ∧ (b.drop 1).take 2 = beBytes 2 h.dataFieldLen := by
  obtain ⟨hl, hf⟩ := PduHeader.pack_inv hh hw
  have h4 := headerLen_ge h
  have hfield : ∀ t : Bytes, ((hdr ++ t).drop 1).take 2 = beBytes 2 h.dataFieldLen := fun t => by
    rw [List.drop_append_of_le_length (by omega), List.take_append_of_le_length (by simp; omega), hf]
  subst hbody hb
  unfold PduHeader.packetLen
  split at hd <;> rename_i hc
  · rw [if_pos hc, List.append_assoc]
    refine ⟨?_, hfield _⟩
    simp only [List.length_append, hl, Crc.crcTrailer, Crc.be16, List.length_cons, List.length_nil]
    omega
  · rw [if_neg hc]
    refine ⟨?_, hfield _⟩
    rw [List.length_append, hl]
    omega

end SpVerif.CfdpHeader
