import SpVerif.Model.Mutation
import SpVerif.Proofs.FileDirective
import SpVerif.Proofs.Nak
import SpVerif.Proofs.KeepAlive
import SpVerif.Proofs.FileData
/-!
# Lemmas for the setter state machines (C11)

"What a successful `pack` tells about its pieces": lengths of the octet strings the primitive
encoders return whenever they return at all — no well-formedness hypothesis, so the length clauses
of C11 hold for every object that packs, in whatever way it was reached.
-/
namespace SpVerif.Mutation
open SpVerif

theorem Machine.run_cons {S O : Type} (m : Machine S O) (s : S) (o : O) (ops : List O) :
    m.run s (o :: ops) = m.run (m.step s o).1 ops := rfl

/-- a `pack` that fills no cache (`do let b ← k.pack; pure (b, k)`) returns the object itself -/
theorem pack_self_inv {α : Type} {pk : Py Bytes} {k k' : α} {b : Bytes}
    (hp : (pk >>= fun b => pure (b, k)) = .ok (b, k')) : pk = .ok b ∧ k' = k := by
  obtain ⟨b0, h0, hp⟩ := bind_ok_inv hp
  cases pure_ok_inv hp
  exact ⟨h0, rfl⟩

theorem packInt_len {n : Nat} {v : Int} {w : Bytes} (h : FileDirective.packInt n v = .ok w) : w.length = n := by
  unfold FileDirective.packInt at h
  split at h
  · cases h
  · exact packBE_len h

section SpacePacket
open SpVerif.SpacePacket

/-- a packed space packet header has six octets, the last two being the data length field -/
theorem sph_pack_inv {h : Sph} {b : Bytes} (hp : h.pack = .ok b) :
    b.length = 6 ∧ b.drop 4 = beBytes 2 h.dlen ∧ h.dlen < 65536 := by
  unfold Sph.pack at hp
  obtain ⟨w0, h0, hp⟩ := bind_ok_inv hp
  obtain ⟨w1, h1, hp⟩ := bind_ok_inv hp
  obtain ⟨w2, h2, hp⟩ := bind_ok_inv hp
  cases pure_ok_inv hp
  obtain ⟨e0, _⟩ := packBE_inv h0
  obtain ⟨e1, _⟩ := packBE_inv h1
  obtain ⟨e2, b2⟩ := packBE_inv h2
  subst e0 e1 e2
  refine ⟨by simp, ?_, by simpa using b2⟩
  simp [beBytes_2]

/-- **reported length = packed length** of a space packet: header ‖ `rest` ‖ CRC-16 with the data
    length field counting `rest` and the CRC, minus one -/
theorem sph_packet_len {h : Sph} {hb rest p : Bytes} (hh : h.pack = .ok hb) (hp : hb ++ rest = p)
    (hinv : h.dlen = rest.length + 1) :
    (p ++ Crc.crcTrailer p).length = h.packetLen ∧
    beNat (((p ++ Crc.crcTrailer p).drop 4).take 2) = (p ++ Crc.crcTrailer p).length - 7 := by
  obtain ⟨l6, hd, hlt⟩ := sph_pack_inv hh
  subst hp
  have hlen : (hb ++ rest ++ Crc.crcTrailer (hb ++ rest)).length = h.packetLen := by
    simp only [List.length_append, l6, Crc.crcTrailer, Crc.be16, List.length_cons, List.length_nil, Sph.packetLen]
    omega
  refine ⟨hlen, ?_⟩
  rw [List.append_assoc, List.drop_append_of_le_length (by omega), hd, List.take_left' (beBytes_length 2 _),
    beNat_beBytes 2 _ hlt, ← List.append_assoc, hlen, Sph.packetLen]
  omega

end SpacePacket

theorem byteOfN_inv {v : Nat} {x : UInt8} (h : byteOfN v = .ok x) : v < 256 ∧ x = u8 v := by
  unfold byteOfN at h
  split at h
  · cases h; exact ⟨by assumption, rfl⟩
  · cases h

/-- the PUS TC secondary header packs to five octets -/
theorem tcsec_pack_len {s : PusTc.TcSec} {b : Bytes} (hp : s.pack = .ok b) : b.length = 5 := by
  unfold PusTc.TcSec.pack at hp
  obtain ⟨b0, _, hp⟩ := bind_ok_inv hp
  obtain ⟨b1, _, hp⟩ := bind_ok_inv hp
  obtain ⟨b2, _, hp⟩ := bind_ok_inv hp
  obtain ⟨src, hs, hp⟩ := bind_ok_inv hp
  cases pure_ok_inv hp
  simp [packBE_len hs]

/-- the PUS TM secondary header packs to seven octets plus the timestamp -/
theorem tmsec_pack_len {s : PusTm.TmSec} {b : Bytes} (hp : s.pack = .ok b) : b.length = 7 + s.timestamp.length := by
  unfold PusTm.TmSec.pack at hp
  obtain ⟨b0, _, hp⟩ := bind_ok_inv hp
  obtain ⟨b1, _, hp⟩ := bind_ok_inv hp
  obtain ⟨b2, _, hp⟩ := bind_ok_inv hp
  obtain ⟨cnt, hc, hp⟩ := bind_ok_inv hp
  obtain ⟨dst, hd, hp⟩ := bind_ok_inv hp
  cases pure_ok_inv hp
  simp [packBE_len hc, packBE_len hd]
  omega

section Cfdp
open SpVerif.CfdpHeader SpVerif.FileDirective

/-- **reported length = packed length** of a file directive: directive base ‖ `P` ‖ CRC trailer iff
    flagged, the cached data-field length counting the directive code, `P` and the trailer, is
    `packet_len` octets long and its octets 1–2 say how many octets follow the header -/
theorem directive_pack_len {fd : FileDirective} {d P b : Bytes} (hdp : fd.pack = .ok d)
    (hw : fd.header.conf.dest.width = fd.header.conf.source.width)
    (hb : withCrc fd.header.conf.crcFlag (d ++ P) = b) (hle : fd.header.dataFieldLen ≤ 65535)
    (hd : fd.header.dataFieldLen = P.length + (if fd.header.conf.crcFlag = 1 then 2 else 0) + 1) :
    b.length = fd.header.packetLen ∧ beNat ((b.drop 1).take 2) = b.length - fd.header.headerLen := by
  unfold FileDirective.pack at hdp
  obtain ⟨hdr, hh, hdp⟩ := bind_ok_inv hdp
  obtain ⟨c, _, hdp⟩ := bind_ok_inv hdp
  cases pure_ok_inv hdp
  obtain ⟨hl, hf⟩ := PduHeader.pack_len_field hh hw (List.append_assoc hdr [c] P).symm hb
    (by rw [hd, List.length_append, List.length_singleton]; omega)
  rw [hf, beNat_beBytes 2 _ (by omega), hl, PduHeader.packetLen]
  exact ⟨rfl, by omega⟩

/-- a directive base with file-directive type, no segment metadata, directive code `code` and direction
    `dir` is the one `FileDirective.new` builds from its own configuration and cached length -/
theorem directive_built {fd : FileDirective} {code dir : Nat} (h1 : fd.header.pduType = 0)
    (h2 : fd.header.segMeta = 0) (h3 : fd.code = code) (h4 : fd.header.conf.direction = dir) :
    (⟨⟨0, 0, fd.header.dataFieldLen, { fd.header.conf with direction := dir }⟩, code⟩ : FileDirective) = fd := by
  obtain ⟨⟨pt, sm, dfl, ⟨src, dst, seq, tm, ff, crc, d, sc⟩⟩, c⟩ := fd
  simp only at h1 h2 h3 h4
  subst h1 h2 h3 h4
  rfl

end Cfdp

section Nak
open SpVerif.Nak SpVerif.FileDirective

theorem packPair_len {large : Bool} {a b : Int} {x : Bytes} (h : packPair large a b = .ok x) :
    x.length = 2 * segW large := by
  have key : ∀ n, (packInt n a >>= fun p => packInt n b >>= fun q => pure (p ++ q)) = .ok x → x.length = 2 * n := by
    intro n h
    obtain ⟨p, hp, h⟩ := bind_ok_inv h
    obtain ⟨q, hq, h⟩ := bind_ok_inv h
    cases pure_ok_inv h
    rw [List.length_append, packInt_len hp, packInt_len hq]
    omega
  unfold packPair at h
  cases large with
  | false =>
    rw [if_pos (by decide)] at h
    split at h
    · cases h
    · exact key 4 h
  | true =>
    rw [if_neg (by decide)] at h
    exact key 8 h

theorem packSegs_len {large : Bool} : ∀ {l : List Seg} {x : Bytes}, packSegs large l = .ok x →
    x.length = l.length * (2 * segW large)
  | [], x, h => by
    cases pure_ok_inv h
    simp
  | p :: r, x, h => by
    unfold packSegs at h
    obtain ⟨y, hy, h⟩ := bind_ok_inv h
    obtain ⟨rest, hr, h⟩ := bind_ok_inv h
    cases pure_ok_inv h
    simp only [List.length_append, List.length_cons, packPair_len hy, packSegs_len hr, Nat.add_mul, Nat.one_mul]
    omega

end Nak

end SpVerif.Mutation
