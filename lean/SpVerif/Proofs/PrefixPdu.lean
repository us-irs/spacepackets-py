import SpVerif.Model.PrefixPdu
import SpVerif.Proofs.Prefix
import SpVerif.Proofs.CfdpCrcAccept
import SpVerif.Props.C06Fixed
import SpVerif.Props.C06Var
import SpVerif.Props.C07
/-!
# Locality of the CFDP PDU decoders

The length that matters for a PDU is the one its fixed header **declares**
(`CfdpCrc.cfdpDeclaredLen`: data-field length + header length, a function of octets 1–3).
`DeclLocal dec` — whenever `dec` accepts `d` with result `r`, the declared PDU lies inside `d` and
every buffer that agrees with `d` on the declared PDU (and holds all of it) is decoded to `r`.
All kinds but NAK are `DeclLocal`; a NAK buffer *is* its declared PDU, and followed by anything it
is refused with `ValueError`. The decoded object reports exactly the declared length for every kind
except EOF and Finished (reported ≤ declared: the object recomputes its length from the TLVs it kept).
-/
namespace SpVerif.Prefix
open SpVerif SpVerif.CfdpHeader SpVerif.FileDirective SpVerif.CfdpCrc

def DeclLocal {α : Type} (dec : Bytes → Py α) : Prop :=
  ∀ d r, dec d = .ok r → LocalOn dec d r (cfdpDeclaredLen d)

theorem DeclLocal.map {α β : Type} {dec : Bytes → Py α} (h : DeclLocal dec) (f : α → β) :
    DeclLocal (fun d => f <$> dec d) := by
  intro d r hd
  obtain ⟨a, ha, rfl⟩ := map_ok_inv hd
  exact (h d a ha).map f

/-- the directive prelude reads the declared length off the fixed header -/
theorem prelude_declared {d : Bytes} {fd : FileDirective} {p : Bytes} (h : prelude d = .ok (fd, p)) :
    fd.packetLen = cfdpDeclaredLen d :=
  (unpack_fixed ((prelude_ok_iff d fd p).mp h).1).1

/-- … and hands the parameter parser the buffer cut before the CRC trailer -/
theorem prelude_cut {d : Bytes} {fd : FileDirective} {p : Bytes} (h : prelude d = .ok (fd, p)) :
    p = d.take fd.paramsEnd :=
  ((prelude_ok_iff d fd p).mp h).2.2.2.2

theorem ack_declared {d : Bytes} {a : Ack.Ack} (h : Ack.Ack.unpack d = .ok a) : a.packetLen = cfdpDeclaredLen d :=
  prelude_declared (Ack.unpack_inv d a h).1
theorem prompt_declared {d : Bytes} {a : Prompt.Prompt} (h : Prompt.Prompt.unpack d = .ok a) :
    a.packetLen = cfdpDeclaredLen d := prelude_declared (Prompt.unpack_inv d a h).1
theorem keepAlive_declared {d : Bytes} {a : KeepAlive.KeepAlive} (h : KeepAlive.KeepAlive.unpack d = .ok a) :
    a.packetLen = cfdpDeclaredLen d := prelude_declared (KeepAlive.unpack_inv d a h).1
theorem nak_declared {d : Bytes} {a : Nak.Nak} (h : Nak.Nak.unpack d = .ok a) : a.packetLen = cfdpDeclaredLen d :=
  prelude_declared (Nak.unpack_inv d a h).1
theorem metadata_declared {d : Bytes} {a : Metadata.Metadata} (h : Metadata.Metadata.unpack d = .ok a) :
    a.packetLen = cfdpDeclaredLen d := by
  obtain ⟨p, hp, _⟩ := Metadata.unpack_inv d a h
  exact prelude_declared hp
theorem fileData_declared {d : Bytes} {x : FileData.Pdu} (h : FileData.Pdu.unpack d = .ok x) :
    x.packetLen = cfdpDeclaredLen d :=
  (unpack_fixed (Props.C07.C07_decode_encode d x h).2.2.2).1
theorem eof_reported_le {d : Bytes} {a : Eof.Eof} (h : Eof.Eof.unpack d = .ok a) : a.packetLen ≤ cfdpDeclaredLen d := by
  obtain ⟨fd, p, hp, _, _, _, hle, _⟩ := Eof.unpack_inv d a h
  rw [← prelude_declared hp]; exact hle
theorem finished_reported_le {d : Bytes} {a : Finished.Finished} (h : Finished.Finished.unpack d = .ok a) :
    a.packetLen ≤ cfdpDeclaredLen d := by
  obtain ⟨fd, p, hp, hle⟩ := Finished.unpack_reported_le d a h
  rw [← prelude_declared hp]; exact hle

/-- locality, per directive kind: the prelude fixes the declared length and puts the declared PDU inside the
    buffer; the owner shows that the declared PDU followed by anything is decoded to the same result -/
theorem declLocal_of_prelude {α : Type} {dec : Bytes → Py α} {d p : Bytes} {a : α} {fd : FileDirective}
    (hp : prelude d = .ok (fd, p)) (ht : ∀ s, dec (d.take fd.packetLen ++ s) = .ok a) :
    LocalOn dec d a (cfdpDeclaredLen d) := by
  rw [← prelude_declared hp]
  exact .of_take_append ((prelude_ok_iff d fd p).mp hp).2.2.1 ht

theorem ack_declLocal : DeclLocal Ack.Ack.unpack := fun d a h =>
  declLocal_of_prelude (Ack.unpack_inv d a h).1 (Ack.unpack_take d a h)

theorem prompt_declLocal : DeclLocal Prompt.Prompt.unpack := fun d a h =>
  declLocal_of_prelude (Prompt.unpack_inv d a h).1 (Prompt.unpack_take d a h)

theorem keepAlive_declLocal : DeclLocal KeepAlive.KeepAlive.unpack := fun d a h =>
  declLocal_of_prelude (KeepAlive.unpack_inv d a h).1 (KeepAlive.unpack_take d a h)

theorem metadata_declLocal : DeclLocal Metadata.Metadata.unpack := fun d a h => by
  obtain ⟨p, hp, _⟩ := Metadata.unpack_inv d a h
  exact declLocal_of_prelude hp (Metadata.unpack_take d a h)

theorem eof_declLocal : DeclLocal Eof.Eof.unpack := fun d a h => by
  obtain ⟨fd, p, hp, ht⟩ := Eof.unpack_take d a h
  exact declLocal_of_prelude hp ht

theorem finished_declLocal : DeclLocal Finished.Finished.unpack := fun d a h => by
  obtain ⟨fd, p, hp, ht⟩ := Finished.unpack_take d a h
  exact declLocal_of_prelude hp ht

theorem fileData_local : Local fileDataCodec := by
  intro d x hx
  obtain ⟨wf, hl, hp, _⟩ := Props.C07.C07_decode_encode d x hx
  rw [Props.C07.C07_pack_exact x wf] at hp
  exact LocalOn.of_take_append (n := x.packetLen) hl fun s => by rw [← Except.ok.inj hp]; exact Props.C07.C07_roundtrip x wf s
theorem fileData_declLocal : DeclLocal FileData.Pdu.unpack := fun d x h => by
  rw [← fileData_declared h]
  exact fileData_local d x h

/-- NAK: an accepted buffer is exactly the declared PDU -/
theorem nak_exact {d : Bytes} {k : Nak.Nak} (h : Nak.Nak.unpack d = .ok k) : d.length = k.packetLen :=
  (Nak.unpack_inv d k h).2.2.1

/-- NAK: **every** accepted buffer followed by at least one octet is refused with `ValueError` -/
theorem nak_trailing_refused {d : Bytes} {k : Nak.Nak} (h : Nak.Nak.unpack d = .ok k) (s : Bytes) (hs : s ≠ []) :
    Nak.Nak.unpack (d ++ s) = .error .value := by
  obtain ⟨hp, _, hl, _, _, hdl, _⟩ := Nak.unpack_inv d k h
  have h1 : 1 ≤ k.fd.header.dataFieldLen := by omega
  have hpl : k.packetLen = k.fd.packetLen := rfl
  have ht := prelude_take d k.fd _ hp h1 s
  rw [List.take_of_length_le (by omega)] at ht
  apply Nak.unpack_longer _ _ _ ht
  have : 0 < s.length := List.length_pos_iff.mpr hs
  rw [List.length_append]; omega

theorem PduKind.declLocal (k : PduKind) (hk : k.acceptsTrailing = true) : DeclLocal k.decode := by
  cases k with
  | ack => exact ack_declLocal.map _
  | prompt => exact prompt_declLocal.map _
  | keepAlive => exact keepAlive_declLocal.map _
  | nak => cases hk
  | fileData => exact fileData_declLocal.map _
  | eof => exact eof_declLocal.map _
  | finished => exact finished_declLocal.map _
  | metadata => exact metadata_declLocal.map _

/-- a decoded NAK buffer is its own declared PDU -/
theorem nak_declared_length {d : Bytes} {r : PduDecoded} (h : PduKind.nak.decode d = .ok r) :
    cfdpDeclaredLen d = d.length := by
  obtain ⟨x, hx, _⟩ := map_ok_inv h
  rw [← nak_declared hx, nak_exact hx]

/-- every kind, NAK included: the declared PDU lies inside the buffer and decoding only it gives
    the same result -/
theorem PduKind.declRestricts (k : PduKind) (d : Bytes) (r : PduDecoded) (h : k.decode d = .ok r) :
    cfdpDeclaredLen d ≤ d.length ∧ k.decode (d.take (cfdpDeclaredLen d)) = .ok r := by
  cases hk : k.acceptsTrailing with
  | true => exact ⟨(PduKind.declLocal k hk d r h).1, (PduKind.declLocal k hk d r h).take⟩
  | false =>
    cases k <;> try cases hk
    rw [nak_declared_length h, List.take_of_length_le (Nat.le_refl _)]
    exact ⟨Nat.le_refl _, h⟩

/-- the decoded object reports exactly the declared length, for every kind except EOF and Finished,
    which report at most the declared length -/
theorem PduKind.reported (k : PduKind) (d : Bytes) (r : PduDecoded) (h : k.decode d = .ok r) :
    (k ≠ .eof → k ≠ .finished → r.len = cfdpDeclaredLen d) ∧ r.len ≤ cfdpDeclaredLen d := by
  have same {n : Nat} (e : n = cfdpDeclaredLen d) :
      (k ≠ .eof → k ≠ .finished → n = cfdpDeclaredLen d) ∧ n ≤ cfdpDeclaredLen d := ⟨fun _ _ => e, Nat.le_of_eq e⟩
  cases k <;> obtain ⟨a, ha, rfl⟩ := map_ok_inv h
  case ack => exact same (ack_declared ha)
  case prompt => exact same (prompt_declared ha)
  case keepAlive => exact same (keepAlive_declared ha)
  case nak => exact same (nak_declared ha)
  case fileData => exact same (fileData_declared ha)
  case metadata => exact same (metadata_declared ha)
  case eof => exact ⟨fun hc => absurd rfl hc, eof_reported_le ha⟩
  case finished => exact ⟨fun _ hc => absurd rfl hc, finished_reported_le ha⟩

end SpVerif.Prefix
