import SpVerif.Py
import SpVerif.BE
import SpVerif.Model.SpacePacket
import SpVerif.Model.PusTc
import SpVerif.Model.PusTm
import SpVerif.Model.Srv1
import SpVerif.Model.Cds
import SpVerif.Model.CfdpHeader
import SpVerif.Model.CfdpFront
import SpVerif.Model.ByteField
import SpVerif.Model.Lv
import SpVerif.Model.Tlv
import SpVerif.Proofs.FileDirective
import SpVerif.Model.Ack
import SpVerif.Model.Prompt
import SpVerif.Model.KeepAlive
import SpVerif.Model.Nak
import SpVerif.Model.Eof
import SpVerif.Model.Finished
import SpVerif.Model.Metadata
import SpVerif.Model.MsgToUser
import SpVerif.Model.Factory
import SpVerif.Proofs.FileData
import SpVerif.Model.UslpHeader
/-!
# Error sets of the decoder models

`Err.documented` (the shared predicate of every `*_documented` theorem) accepts eight categories,
three of which (`overflow`, `fileNotFound`, `verifParams`) are not in C10's list and are produced by
no decoder. The set is determined per decoder in two steps:

1. `ErrIn S x` — `x` fails, if at all, with a member of the list `S` — is proved for every model
   function **structurally** (`*_raises`): the set is read off the definition (every `throw`, every
   primitive with the classes it can raise: `idx` → `index`, `unpackBE` → `struct`, `enumOf` →
   `value`, …). No guard reasoning, so these sets are loose: they still contain `index` / `struct`.
2. `ErrIn.restrict` / `ErrIn.tighten`: together with the owner's `Documented x` (which excludes the
   undocumented classes by guard reasoning) the set shrinks to its documented members — the exact
   classes of the decoder.
-/
namespace SpVerif

/-- `x` fails, if at all, only with a member of `S` -/
def ErrIn {α : Type} (S : List Err) (x : Py α) : Prop := ∀ e, x = .error e → e ∈ S

namespace ErrIn
variable {α β : Type} {S T : List Err}

theorem ok (a : α) : ErrIn S (Except.ok a : Py α) := by intro e h; cases h
theorem pure' (a : α) : ErrIn S (pure a : Py α) := ok a
theorem err {e : Err} (h : e ∈ S) : ErrIn S (Except.error e : Py α) := by intro e' h'; cases h'; exact h
theorem throw' {e : Err} (h : e ∈ S) : ErrIn S (throw e : Py α) := err h
theorem mono {x : Py α} (h : ErrIn S x) (hs : S ⊆ T) : ErrIn T x := fun e he => hs (h e he)
/-- **the generic lemma**: a structural (loose) error set and the owner's `Documented` give the
    exact set — the documented members of the loose one -/
theorem tighten {x : Py α} (hd : Documented x) (hl : ErrIn S x)
    (hs : ∀ e, e ∈ S → e.documented = true → e ∈ T) : ErrIn T x :=
  fun e he => hs e (hl e he) (hd e he)
/-- the same with the exact set computed: what remains of `S` when the undocumented classes are struck -/
theorem restrict {x : Py α} (hl : ErrIn S x) (hd : Documented x) : ErrIn (S.filter Err.documented) x :=
  fun e he => List.mem_filter.2 ⟨hl e he, hd e he⟩
/-- from an owner's lemma of the shape `x = error e → e = a ∨ e = b …` -/
theorem of_forall {x : Py α} (h : ∀ e, x = .error e → e ∈ S) : ErrIn S x := h
/-- every member of the set is a documented class ⇒ `Documented` -/
theorem documented {x : Py α} (h : ErrIn S x) (hs : ∀ e, e ∈ S → e.documented = true) : Documented x :=
  fun e he => hs e (h e he)

/-! The error set of a `do` block, node by node. As rewrite rules these let `simp` walk the block by
    matching its head symbols; trying `bind`, `ok`, … one after the other with `exact` is two orders of
    magnitude slower, because every failed attempt makes the unifier look into the whole block. -/
theorem bind_iff {x : Py α} {f : α → Py β} :
    ErrIn S (x >>= f) ↔ ErrIn S x ∧ ∀ a, x = .ok a → ErrIn S (f a) := by
  cases x <;> simp [ErrIn, Bind.bind, Except.bind]
theorem map_iff {x : Py α} (f : α → β) : ErrIn S (f <$> x) ↔ ErrIn S x := by
  cases x <;> simp [ErrIn, Functor.map, Except.map]
theorem bind {x : Py α} {f : α → Py β} (hx : ErrIn S x) (hf : ∀ a, ErrIn S (f a)) : ErrIn S (x >>= f) :=
  bind_iff.2 ⟨hx, fun a _ => hf a⟩
theorem map {x : Py α} (f : α → β) (hx : ErrIn S x) : ErrIn S (f <$> x) := (map_iff f).2 hx
theorem pure_iff (a : α) : ErrIn S (pure a : Py α) ↔ True := iff_true_intro (ok a)
theorem ok_iff (a : α) : ErrIn S (Except.ok a : Py α) ↔ True := iff_true_intro (ok a)
theorem throw_iff (e : Err) : ErrIn S (throw e : Py α) ↔ e ∈ S := ⟨fun h => h e rfl, err⟩
theorem error_iff (e : Err) : ErrIn S (Except.error e : Py α) ↔ e ∈ S := ⟨fun h => h e rfl, err⟩
theorem ite_iff {c : Prop} [Decidable c] {x y : Py α} :
    ErrIn S (if c then x else y) ↔ (c → ErrIn S x) ∧ (¬c → ErrIn S y) := by
  split <;> simp [*]
theorem dite_iff {c : Prop} [Decidable c] {x : c → Py α} {y : ¬c → Py α} :
    ErrIn S (if h : c then x h else y h) ↔ (∀ h, ErrIn S (x h)) ∧ (∀ h, ErrIn S (y h)) := by
  split <;> simp [*]
end ErrIn


theorem idx_raises (b : Bytes) (i : Nat) : ErrIn [.index] (idx b i) := by
  unfold idx; split <;> simp [ErrIn.ok_iff, ErrIn.error_iff]
theorem unpackBE_raises (n : Nat) (b : Bytes) : ErrIn [.struct] (unpackBE n b) := by
  simp [unpackBE, ErrIn.ite_iff, ErrIn.ok_iff, ErrIn.error_iff]
theorem packBE_raises (n v : Nat) : ErrIn [.struct] (packBE n v) := by
  simp [packBE, ErrIn.ite_iff, ErrIn.ok_iff, ErrIn.error_iff]
theorem enumOf_raises (m : List Nat) (v : Nat) : ErrIn [.value] (enumOf m v) := by
  simp [enumOf, ErrIn.ite_iff, ErrIn.ok_iff, ErrIn.error_iff]
theorem byteOf_raises (v : Int) : ErrIn [.value] (byteOf v) := by
  simp [byteOf, ErrIn.ite_iff, ErrIn.ok_iff, ErrIn.error_iff]
theorem byteOfN_raises (v : Nat) : ErrIn [.value] (byteOfN v) := by
  simp [byteOfN, ErrIn.ite_iff, ErrIn.ok_iff, ErrIn.error_iff]

/-- `errin [callee lemmas]`: the error set of a `do` block is read off its structure. `simp` takes the
    block apart with the `ErrIn.*_iff` rules; a callee `c` with `h : ErrIn T c` is discharged by
    `h.mono : T ⊆ S → ErrIn S c`, the inclusion of the two literal lists by the list lemmas. The
    primitives of the Python kit are always among the callees. -/
syntax "errin" "[" term,* "]" : tactic
macro_rules
  | `(tactic| errin [$ts,*]) => `(tactic| simp only [ErrIn.bind_iff, ErrIn.map_iff, ErrIn.pure_iff, ErrIn.ok_iff,
      ErrIn.throw_iff, ErrIn.error_iff, ErrIn.ite_iff, ErrIn.dite_iff,
      List.cons_subset, List.nil_subset, List.mem_cons, List.mem_nil_iff, reduceCtorEq,
      or_true, true_or, or_false, and_self, and_true, true_and, implies_true, false_implies,
      ErrIn.mono (idx_raises _ _), ErrIn.mono (unpackBE_raises _ _), ErrIn.mono (packBE_raises _ _),
      ErrIn.mono (enumOf_raises _ _), ErrIn.mono (byteOf_raises _), ErrIn.mono (byteOfN_raises _),
      $[ErrIn.mono $ts:term],*])

section Pus
open SpacePacket PusTc PusTm Srv1

theorem Sph.unpack_raises (d : Bytes) : ErrIn [.value, .index, .struct] (Sph.unpack d) := by
  unfold Sph.unpack Sph.new; errin []
theorem apidFromRaw_raises (d : Bytes) : ErrIn [.value, .index] (apidFromRaw d) := by
  unfold apidFromRaw; errin []
theorem TcSec.unpack_raises (d : Bytes) : ErrIn [.value, .index, .struct] (TcSec.unpack d) := by
  unfold TcSec.unpack; errin []
theorem Tc.unpack_raises (d : Bytes) : ErrIn [.value, .crc, .index, .struct] (Tc.unpack d) := by
  unfold Tc.unpack; errin [Sph.unpack_raises _, TcSec.unpack_raises _]
theorem TmSec.unpack_raises (d : Bytes) (n : Nat) : ErrIn [.value, .index, .struct] (TmSec.unpack d n) := by
  unfold TmSec.unpack; errin []
theorem Tm.unpack_raises (d : Bytes) (n : Nat) : ErrIn [.value, .crc, .index, .struct] (Tm.unpack d n) := by
  unfold Tm.unpack; errin [Sph.unpack_raises _, TmSec.unpack_raises _ _]
theorem serviceFromBytes_raises (d : Bytes) : ErrIn [.value, .index] (serviceFromBytes d) := by
  unfold serviceFromBytes; errin []
theorem ReqId.unpack_raises (d : Bytes) : ErrIn [.value, .struct] (ReqId.unpack d) := by
  unfold ReqId.unpack Psc.fromRaw Psc.new; errin []
theorem checkPfc_raises (p : Nat) : ErrIn [.value] (checkPfc p) := by unfold checkPfc; errin []
theorem Pfe.unpack_raises (d : Bytes) (p : Nat) : ErrIn [.value, .struct] (Pfe.unpack d p) := by
  unfold Pfe.unpack Pfe.new; errin [checkPfc_raises _]
theorem unpackRaw_raises (tm : Tm) (sb eb : Nat) : ErrIn [.value, .struct] (unpackRaw tm sb eb) := by
  unfold unpackRaw FailureNotice.unpack; errin [ReqId.unpack_raises _, Pfe.unpack_raises _ _]
theorem S1Tm.unpack_raises (d : Bytes) (n sb eb : Nat) :
    ErrIn [.value, .crc, .index, .struct] (S1Tm.unpack d n sb eb) := by
  unfold S1Tm.unpack; errin [Tm.unpack_raises _ _, unpackRaw_raises _ _ _]
theorem Cds.unpackFromRaw_raises (d : Bytes) : ErrIn [.value, .index, .struct] (Cds.unpackFromRaw d) := by
  unfold Cds.unpackFromRaw; errin []
end Pus

section Cfdp
open CfdpHeader CfdpFront FileDirective

theorem headerLenFromRaw_raises (d : Bytes) : ErrIn [.value, .index] (headerLenFromRaw d) := by
  unfold headerLenFromRaw; errin []
theorem PduHeader.unpack_raises (d : Bytes) : ErrIn [.value, .cfdpVersion, .index, .struct] (PduHeader.unpack d) := by
  unfold PduHeader.unpack checkLenInBytes BF.fromBytes BF.new; errin []
theorem PduHeader.verify_raises (h : PduHeader) (d : Bytes) :
    ErrIn [.value, .crc, .struct] (h.verifyLengthAndChecksum d) := by
  unfold PduHeader.verifyLengthAndChecksum; errin []
theorem pduFront_raises (d : Bytes) : ErrIn [.value, .cfdpVersion, .crc, .index, .struct] (pduFront d) := by
  unfold pduFront; errin [PduHeader.unpack_raises _, PduHeader.verify_raises _ _]
theorem directiveFront_raises (d : Bytes) :
    ErrIn [.value, .cfdpVersion, .crc, .index, .struct] (directiveFront d) := by
  unfold directiveFront; errin [PduHeader.unpack_raises _, PduHeader.verify_raises _ _]
theorem FileDirective.unpack_raises (d : Bytes) :
    ErrIn [.value, .cfdpVersion, .index, .struct] (FileDirective.unpack d) := by
  unfold FileDirective.unpack; errin [PduHeader.unpack_raises _]
theorem FileDirective.verify_raises (fd : FileDirective) (d : Bytes) : ErrIn [.value, .crc, .struct] (fd.verify d) :=
  PduHeader.verify_raises _ _
theorem FileDirective.setParamLen_raises (fd : FileDirective) (n : Nat) : ErrIn [.value] (fd.setParamLen n) := by
  unfold FileDirective.setParamLen PduHeader.setDataFieldLen; errin []
theorem FileDirective.parseFss_raises (fd : FileDirective) (d : Bytes) (i : Nat) :
    ErrIn [.value, .struct] (fd.parseFss d i) := by
  unfold FileDirective.parseFss; errin []
theorem prelude_raises (d : Bytes) : ErrIn [.value, .cfdpVersion, .crc, .index, .struct] (prelude d) := by
  unfold prelude; errin [FileDirective.unpack_raises _, FileDirective.verify_raises _ _]
end Cfdp

section ByteFields
open ByteField

theorem structSpec_raises (n : Int) : ErrIn [.value] (structSpec n) := by unfold structSpec; errin []
theorem Field.new_raises (v n : Int) : ErrIn [.value, .struct] (Field.new v n) := by
  unfold Field.new verifyInt ByteField.toUnsigned packU; errin [structSpec_raises _]
theorem fromBytes_raises (d : Bytes) : ErrIn [.value, .struct] (fromBytes d) := by
  unfold fromBytes; errin [structSpec_raises _, Field.new_raises _ _]
theorem genFromBytes_raises (n : Int) (d : Bytes) : ErrIn [.value, .index, .struct] (genFromBytes n d) := by
  unfold genFromBytes fromU8Bytes fromU16Bytes fromU32Bytes fromU64Bytes u8New u16New u32New u64New
  errin [structSpec_raises _, Field.new_raises _ _]
end ByteFields

section Tlvs
open Lv Tlv

theorem CfdpLv.unpack_raises (d : Bytes) : ErrIn [.value, .index] (CfdpLv.unpack d) := by
  unfold CfdpLv.unpack CfdpLv.new; errin []
theorem CfdpTlv.new_raises (t : Nat) (v : Bytes) : ErrIn [.value] (CfdpTlv.new t v) := by
  unfold CfdpTlv.new; errin []
theorem CfdpTlv.unpack_raises (d : Bytes) : ErrIn [.value, .index] (CfdpTlv.unpack d) := by
  unfold CfdpTlv.unpack; errin [CfdpTlv.new_raises _ _]
theorem commonUnpacker_raises (d : Bytes) : ErrIn [.value, .index] (commonUnpacker d) := by
  unfold commonUnpacker decodeUtf8; errin [CfdpLv.unpack_raises _]
theorem EntityIdTlv.fromTlv_raises (t : CfdpTlv) : ErrIn [.tlvType] (EntityIdTlv.fromTlv t) := by
  unfold EntityIdTlv.fromTlv; errin []
theorem FlowLabelTlv.fromTlv_raises (t : CfdpTlv) : ErrIn [.tlvType] (FlowLabelTlv.fromTlv t) := by
  unfold FlowLabelTlv.fromTlv; errin []
theorem MessageToUserTlv.fromTlv_raises (t : CfdpTlv) : ErrIn [.tlvType] (MessageToUserTlv.fromTlv t) := by
  unfold MessageToUserTlv.fromTlv; errin []
theorem FaultHandlerOverrideTlv.fromTlv_raises (t : CfdpTlv) :
    ErrIn [.value, .tlvType, .index] (FaultHandlerOverrideTlv.fromTlv t) := by
  unfold FaultHandlerOverrideTlv.fromTlv; errin []
theorem FileStoreRequestTlv.fromTlv_raises (t : CfdpTlv) :
    ErrIn [.value, .tlvType, .index] (FileStoreRequestTlv.fromTlv t) := by
  unfold FileStoreRequestTlv.fromTlv; errin [commonUnpacker_raises _]
  intros; split <;> exact ErrIn.pure' _
theorem FileStoreResponseTlv.fromTlv_raises (t : CfdpTlv) :
    ErrIn [.value, .tlvType, .index] (FileStoreResponseTlv.fromTlv t) := by
  unfold FileStoreResponseTlv.fromTlv; errin [commonUnpacker_raises _, CfdpLv.unpack_raises _]
  intros; split <;> exact ErrIn.pure' _
theorem EntityIdTlv.unpack_raises (d : Bytes) : ErrIn [.value, .tlvType, .index] (EntityIdTlv.unpack d) := by
  unfold EntityIdTlv.unpack; errin [CfdpTlv.unpack_raises _, EntityIdTlv.fromTlv_raises _]
theorem FlowLabelTlv.unpack_raises (d : Bytes) : ErrIn [.value, .tlvType, .index] (FlowLabelTlv.unpack d) := by
  unfold FlowLabelTlv.unpack; errin [CfdpTlv.unpack_raises _, FlowLabelTlv.fromTlv_raises _]
theorem MessageToUserTlv.unpack_raises (d : Bytes) :
    ErrIn [.value, .tlvType, .index] (MessageToUserTlv.unpack d) := by
  unfold MessageToUserTlv.unpack; errin [CfdpTlv.unpack_raises _, MessageToUserTlv.fromTlv_raises _]
theorem FaultHandlerOverrideTlv.unpack_raises (d : Bytes) :
    ErrIn [.value, .tlvType, .index] (FaultHandlerOverrideTlv.unpack d) := by
  unfold FaultHandlerOverrideTlv.unpack; errin [CfdpTlv.unpack_raises _, FaultHandlerOverrideTlv.fromTlv_raises _]
theorem FileStoreRequestTlv.unpack_raises (d : Bytes) :
    ErrIn [.value, .tlvType, .index] (FileStoreRequestTlv.unpack d) := by
  unfold FileStoreRequestTlv.unpack; errin [CfdpTlv.unpack_raises _, FileStoreRequestTlv.fromTlv_raises _]
theorem FileStoreResponseTlv.unpack_raises (d : Bytes) :
    ErrIn [.value, .tlvType, .index] (FileStoreResponseTlv.unpack d) := by
  unfold FileStoreResponseTlv.unpack; errin [CfdpTlv.unpack_raises _, FileStoreResponseTlv.fromTlv_raises _]
end Tlvs

section Pdus
open CfdpHeader FileDirective Lv Tlv

theorem Ack.unpack_raises (d : Bytes) : ErrIn [.value, .cfdpVersion, .crc, .index, .struct] (Ack.Ack.unpack d) := by
  unfold Ack.Ack.unpack; errin [FileDirective.unpack_raises _, FileDirective.verify_raises _ _]
theorem Prompt.unpack_raises (d : Bytes) :
    ErrIn [.value, .cfdpVersion, .crc, .index, .struct] (Prompt.Prompt.unpack d) := by
  unfold Prompt.Prompt.unpack; errin [FileDirective.unpack_raises _, FileDirective.verify_raises _ _]
theorem KeepAlive.unpack_raises (d : Bytes) :
    ErrIn [.value, .cfdpVersion, .crc, .index, .struct] (KeepAlive.KeepAlive.unpack d) := by
  unfold KeepAlive.KeepAlive.unpack; errin [FileDirective.unpack_raises _, FileDirective.verify_raises _ _]

theorem Nak.parseSegs_raises (large : Bool) (d : Bytes) : ErrIn [.struct] (Nak.parseSegs large d) := by
  fun_induction Nak.parseSegs large d with
  | case1 => errin []
  | case2 d h w ih => errin [ih]
theorem Nak.unpack_raises (d : Bytes) : ErrIn [.value, .cfdpVersion, .crc, .index, .struct] (Nak.Nak.unpack d) := by
  unfold Nak.Nak.unpack Nak.calcLen
  errin [FileDirective.unpack_raises _, FileDirective.verify_raises _ _, Nak.parseSegs_raises _ _,
    FileDirective.setParamLen_raises _ _]

theorem Eof.unpack_raises (d : Bytes) :
    ErrIn [.value, .cfdpVersion, .crc, .tlvType, .index, .struct] (Eof.Eof.unpack d) := by
  unfold Eof.Eof.unpack Eof.calcLen
  errin [FileDirective.unpack_raises _, FileDirective.verify_raises _ _, FileDirective.parseFss_raises _ _ _,
    EntityIdTlv.unpack_raises _, FileDirective.setParamLen_raises _ _]

theorem Finished.calcLen_raises (fd : FileDirective) (c : Int) (rs : List FileStoreResponseTlv)
    (fl : Option EntityIdTlv) : ErrIn [.value] (Finished.calcLen fd c rs fl) := by
  unfold Finished.calcLen; errin [FileDirective.setParamLen_raises _ _]
theorem Finished.unpackTlvs_raises (might : Bool) (d : Bytes) :
    ErrIn [.value, .tlvType, .index] (Finished.unpackTlvs might d) := by
  fun_induction Finished.unpackTlvs might d with
  | case1 d ihR ihE =>
    errin [FileStoreResponseTlv.unpack_raises _, EntityIdTlv.unpack_raises _]
    exact fun _ _ => ⟨fun _ r _ => ihR r, fun _ _ _ e _ => ihE e⟩
theorem Finished.unpack_raises (d : Bytes) :
    ErrIn [.value, .cfdpVersion, .crc, .tlvType, .index, .struct] (Finished.Finished.unpack d) := by
  unfold Finished.Finished.unpack
  errin [FileDirective.unpack_raises _, FileDirective.verify_raises _ _, Finished.unpackTlvs_raises _ _,
    Finished.calcLen_raises _ _ _ _]
  intros; split <;> errin [Finished.calcLen_raises _ _ _ _]

theorem Metadata.parseOptions_raises (d : Bytes) : ErrIn [.value, .index] (Metadata.parseOptions d) := by
  fun_induction Metadata.parseOptions d with
  | case1 d ih => errin [CfdpTlv.unpack_raises _]; exact fun t _ h _ => ih t h
theorem Metadata.unpack_raises (d : Bytes) :
    ErrIn [.value, .cfdpVersion, .crc, .index, .struct] (Metadata.Metadata.unpack d) := by
  unfold Metadata.Metadata.unpack
  errin [FileDirective.unpack_raises _, FileDirective.verify_raises _ _, FileDirective.parseFss_raises _ _ _,
    CfdpLv.unpack_raises _, Metadata.parseOptions_raises _]
end Pdus

section FactoryReserved
open CfdpHeader Lv Tlv Factory MsgToUser ByteField

theorem pduType_raises (d : Bytes) : ErrIn [.value, .index] (Factory.pduType d) := by
  unfold Factory.pduType; errin []
theorem isFileDirective_raises (d : Bytes) : ErrIn [.value, .index] (isFileDirective d) := by
  unfold isFileDirective; errin [pduType_raises _]
theorem pduDirectiveType_raises (d : Bytes) : ErrIn [.value, .index] (pduDirectiveType d) := by
  unfold pduDirectiveType; errin [isFileDirective_raises _, headerLenFromRaw_raises _]

theorem toReservedMsgTlv_raises (m : MessageToUserTlv) : ErrIn [.value, .index] (toReservedMsgTlv m) := by
  unfold toReservedMsgTlv ReservedCfdpMessage.new; errin [CfdpTlv.new_raises _ _]
theorem ReservedCfdpMessage.msgType_raises (r : ReservedCfdpMessage) : ErrIn [.index] r.msgType :=
  idx_raises _ _
theorem ReservedCfdpMessage.getOriginatingTransactionId_raises (r : ReservedCfdpMessage) :
    ErrIn [.value, .index, .struct] r.getOriginatingTransactionId := by
  unfold ReservedCfdpMessage.getOriginatingTransactionId
  errin [ReservedCfdpMessage.msgType_raises _, fromBytes_raises _]
theorem ReservedCfdpMessage.getProxyPutRequestParams_raises (r : ReservedCfdpMessage) :
    ErrIn [.value, .index, .struct] r.getProxyPutRequestParams := by
  unfold ReservedCfdpMessage.getProxyPutRequestParams
  errin [ReservedCfdpMessage.msgType_raises _, fromBytes_raises _, CfdpLv.unpack_raises _]
theorem ReservedCfdpMessage.getProxyPutResponseParams_raises (r : ReservedCfdpMessage) :
    ErrIn [.value, .index] r.getProxyPutResponseParams := by
  unfold ReservedCfdpMessage.getProxyPutResponseParams; errin [ReservedCfdpMessage.msgType_raises _]
theorem ReservedCfdpMessage.getProxyClosureRequested_raises (r : ReservedCfdpMessage) :
    ErrIn [.value, .index] r.getProxyClosureRequested := by
  unfold ReservedCfdpMessage.getProxyClosureRequested; errin [ReservedCfdpMessage.msgType_raises _]
theorem ReservedCfdpMessage.getProxyTransmissionMode_raises (r : ReservedCfdpMessage) :
    ErrIn [.value, .index] r.getProxyTransmissionMode := by
  unfold ReservedCfdpMessage.getProxyTransmissionMode; errin [ReservedCfdpMessage.msgType_raises _]
theorem ReservedCfdpMessage.getDirListingRequestParams_raises (r : ReservedCfdpMessage) :
    ErrIn [.value, .index] r.getDirListingRequestParams := by
  unfold ReservedCfdpMessage.getDirListingRequestParams
  errin [ReservedCfdpMessage.msgType_raises _, CfdpLv.unpack_raises _]
theorem ReservedCfdpMessage.getDirListingResponseParams_raises (r : ReservedCfdpMessage) :
    ErrIn [.value, .index] r.getDirListingResponseParams := by
  unfold ReservedCfdpMessage.getDirListingResponseParams
  errin [ReservedCfdpMessage.msgType_raises _, CfdpLv.unpack_raises _]
theorem ReservedCfdpMessage.getDirListingOptions_raises (r : ReservedCfdpMessage) :
    ErrIn [.value, .index] r.getDirListingOptions := by
  unfold ReservedCfdpMessage.getDirListingOptions; errin [ReservedCfdpMessage.msgType_raises _]

/-- File Data PDU: the owner's exact error lemma (`Proofs/FileData.lean`) -/
theorem FileData.unpack_raises (d : Bytes) : ErrIn [.value, .cfdpVersion, .crc] (FileData.Pdu.unpack d) := by
  intro e he
  rcases FileData.unpack_error d e he with rfl | rfl | rfl <;> simp

theorem decodeAs_raises (k : Factory.Kind) (d : Bytes) :
    ErrIn [.value, .cfdpVersion, .crc, .tlvType, .index, .struct] (decodeAs k d) := by
  cases k <;> unfold decodeAs decoderOf <;>
    errin [FileData.unpack_raises _, Ack.unpack_raises _, Nak.unpack_raises _, Prompt.unpack_raises _,
      KeepAlive.unpack_raises _, Eof.unpack_raises _, Finished.unpack_raises _, Metadata.unpack_raises _]
theorem fromRaw_raises (d : Bytes) :
    ErrIn [.value, .cfdpVersion, .crc, .tlvType, .index, .struct] (fromRaw d) := by
  unfold fromRaw dispatch; errin [isFileDirective_raises _, pduDirectiveType_raises _, decodeAs_raises _ _]
end FactoryReserved

/-! ## USLP: the decoders have their own error type; `toPy` collapses it -/

theorem errIn_toPy {α : Type} {S : List Err} {x : Uslp.UPy α} (h : ∀ e, x = .error e → e.toErr ∈ S) :
    ErrIn S x.toPy := by
  intro e he
  cases x with
  | ok a => cases he
  | error e' => cases he; exact h e' rfl

end SpVerif
