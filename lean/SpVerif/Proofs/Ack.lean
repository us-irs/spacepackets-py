import SpVerif.Model.Ack
import SpVerif.Proofs.FileDirective
/-!
# The ACK PDU model: constructor equation, and the decoder as prelude + two parameter octets
-/
namespace SpVerif.Ack
open SpVerif SpVerif.CfdpHeader SpVerif.FileDirective

theorem calcLen_eq (fd : FileDirective) :
    calcLen fd = .ok { fd with header := { fd.header with
      dataFieldLen := (if fd.header.conf.crcFlag = 1 then 4 else 2) + 1 } } := by
  unfold calcLen
  rw [setParamLen_eq, if_neg (by split <;> omega)]

theorem new_eq (c : PduConfig) (acked : Nat) (cond : Int) (status : Nat) :
    Ack.new c acked cond status =
      if (acked ≠ 5 ∧ acked ≠ 4) ∨ c.source.width ≠ c.dest.width then .error .value
      else .ok ⟨⟨⟨0, 0, (if c.crcFlag = 1 then 4 else 2) + 1,
                  { c with direction := if acked = 5 then 0 else 1 }⟩, 6⟩,
                acked, if acked = 5 then 1 else 0, cond, status⟩ := by
  unfold Ack.new
  by_cases h1 : acked ≠ DIR_FINISHED ∧ acked ≠ DIR_EOF
  · rw [if_pos h1]; exact (if_pos (Or.inl h1)).symm
  rw [if_neg h1]
  show (FileDirective.new _ _ _ >>= _) = _
  rw [new_bind _ _ _ (by omega)]
  by_cases hw : c.source.width ≠ c.dest.width
  · rw [if_pos hw]; exact (if_pos (Or.inr hw)).symm
  rw [if_neg hw]
  refine Eq.trans ?_ (if_neg (not_or.mpr ⟨h1, hw⟩)).symm
  rw [calcLen_eq]; rfl

/-- the parameter parser: two octets behind the directive header -/
def parse (r : FileDirective × Bytes) : Py Ack := do
  let i := r.1.headerLen
  if i + 2 > r.2.length then throw .value
  let b0 ← idx r.2 i
  let b1 ← idx r.2 (i + 1)
  pure ⟨r.1, b0 / 16 % 16, b0 % 16, ((b1 / 16 % 16 : Nat) : Int), b1 % 4⟩

theorem unpack_eq (d : Bytes) : Ack.unpack d = prelude d >>= parse := by
  rw [prelude_bind]; rfl

theorem parse_inv {fd : FileDirective} {p : Bytes} {a : Ack} (h : parse (fd, p) = .ok a) :
    a.fd = fd ∧ fd.headerLen + 2 ≤ p.length := by
  unfold parse at h
  by_cases hs : fd.headerLen + 2 > p.length
  · rw [if_pos hs] at h; cases h
  · rw [if_neg hs] at h
    obtain ⟨_, _, h⟩ := bind_ok_inv h
    obtain ⟨_, _, h⟩ := bind_ok_inv h
    cases pure_ok_inv h
    exact ⟨rfl, by omega⟩

theorem parse_documented (r : FileDirective × Bytes) : Documented (parse r) := by
  obtain ⟨fd, p⟩ := r
  unfold parse
  by_cases hs : fd.headerLen + 2 > p.length
  · rw [if_pos hs]; exact Documented.err rfl
  · rw [if_neg hs]
    show Documented (idx p fd.headerLen >>= fun _ => idx p (fd.headerLen + 1) >>= _)
    rw [idx_ok (by omega), bind_ok, idx_ok (by omega)]
    exact Documented.ok _

/-- the decoder fails, on any octet string whatever, only with `ValueError`,
    `UnsupportedCfdpVersion` or `InvalidCrc` -/
theorem unpack_documented (d : Bytes) : Documented (Ack.unpack d) := by
  rw [unpack_eq]; exact bind_prelude_documented parse parse_documented d

theorem parse_keeps (fd : FileDirective) (p : Bytes) (a : Ack) (h : parse (fd, p) = .ok a) :
    a.fd = fd ∧ fd.headerLen < p.length :=
  (parse_inv h).imp_right fun _ => by omega

theorem unpack_inv (d : Bytes) (a : Ack) (h : Ack.unpack d = .ok a) :
    prelude d = .ok (a.fd, d.take a.fd.paramsEnd) ∧ a.fd.headerLen + 2 ≤ a.fd.paramsEnd ∧
    parse (a.fd, d.take a.fd.paramsEnd) = .ok a ∧
    a.packetLen ≤ d.length ∧ (a.fd.header.conf.crcFlag = 1 → Crc.crc16 (d.take a.packetLen) = 0) := by
  rw [unpack_eq] at h
  obtain ⟨hp, hf, h3, h4, _⟩ := bind_prelude_keeps parse (·.fd) parse_keeps d a h
  have := (parse_inv hf).2
  rw [List.length_take] at this
  exact ⟨hp, by omega, hf, h3, h4⟩

theorem unpack_take (d : Bytes) (a : Ack) (h : Ack.unpack d = .ok a) (rest : Bytes) :
    Ack.unpack (d.take a.packetLen ++ rest) = .ok a := by
  rw [unpack_eq] at h ⊢
  exact (bind_prelude_keeps parse (·.fd) parse_keeps d a h).2.2.2.2 rest

end SpVerif.Ack
