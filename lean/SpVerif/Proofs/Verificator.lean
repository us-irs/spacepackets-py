import SpVerif.Model.Verificator
/-!
# The tracker model: the dictionary as an association list with unique keys, every call as an
equation, the `if/elif` chain of `_check_subservice` as the per-field table.
-/
namespace SpVerif.Verificator
open SpVerif

/-- the dictionary invariant -/
def KeysUnique (t : Tracker) : Prop := (keys t).Nodup

@[simp] theorem lookup_nil (r : Nat) : lookup [] r = none := rfl

@[simp] theorem lookup_cons (k : Nat) (s : VStatus) (t : Tracker) (r : Nat) :
    lookup ((k, s) :: t) r = if k = r then some s else lookup t r := rfl

@[simp] theorem keys_nil : keys ([] : Tracker) = [] := rfl

@[simp] theorem keys_cons (e : Nat × VStatus) (t : Tracker) : keys (e :: t) = e.1 :: keys t := rfl

theorem lookup_eq_none_iff (t : Tracker) (r : Nat) : lookup t r = none ↔ r ∉ keys t := by
  induction t with
  | nil => simp
  | cons e t ih =>
    obtain ⟨k, s⟩ := e
    by_cases h : k = r
    · simp [h]
    · have h' : ¬ r = k := fun x => h x.symm
      simp [h, h', ih]

theorem lookup_isSome_iff (t : Tracker) (r : Nat) : (lookup t r).isSome = true ↔ r ∈ keys t := by
  rw [Option.isSome_iff_ne_none, ne_eq, lookup_eq_none_iff, Classical.not_not]

theorem mem_of_lookup {t : Tracker} {r : Nat} {s : VStatus} (h : lookup t r = some s) : (r, s) ∈ t := by
  induction t with
  | nil => simp at h
  | cons e t ih =>
    obtain ⟨k, s0⟩ := e
    by_cases hk : k = r
    · simp [hk] at h; simp [hk, h]
    · simp [hk] at h; exact List.mem_cons_of_mem _ (ih h)

/-- an entry of a tracker does not carry a key the tracker does not have -/
theorem fst_ne_of_mem {t : Tracker} {k : Nat} (hk : k ∉ keys t) {e : Nat × VStatus} (he : e ∈ t) : ¬ e.1 = k :=
  fun x => hk (x ▸ List.mem_map_of_mem he)

theorem lookup_of_mem {t : Tracker} (hu : KeysUnique t) {r : Nat} {s : VStatus} (h : (r, s) ∈ t) :
    lookup t r = some s := by
  induction t with
  | nil => simp at h
  | cons e t ih =>
    obtain ⟨k, s0⟩ := e
    have hu' : k ∉ keys t ∧ (keys t).Nodup := List.nodup_cons.1 hu
    rcases List.mem_cons.1 h with h1 | h1
    · cases h1; simp
    · have hk : ¬ k = r := fun x => fst_ne_of_mem hu'.1 h1 x.symm
      simp [hk, ih hu'.2 h1]

theorem lookup_append (t u : Tracker) (r : Nat) :
    lookup (t ++ u) r = (lookup t r).or (lookup u r) := by
  induction t with
  | nil => simp
  | cons e t ih =>
    obtain ⟨k, s⟩ := e
    by_cases hk : k = r <;> simp [hk, ih]

theorem keys_append (t u : Tracker) : keys (t ++ u) = keys t ++ keys u := by simp [keys]

theorem keys_set (t : Tracker) (r : Nat) (s : VStatus) : keys (set t r s) = keys t := by
  induction t with
  | nil => rfl
  | cons e t ih =>
    obtain ⟨k, s0⟩ := e
    by_cases hk : k = r <;> simp [set, hk, ih]

theorem lookup_set_ne (t : Tracker) (r r' : Nat) (s : VStatus) (h : r' ≠ r) :
    lookup (set t r s) r' = lookup t r' := by
  induction t with
  | nil => rfl
  | cons e t ih =>
    obtain ⟨k, s0⟩ := e
    by_cases hk : k = r
    · subst hk
      have : ¬ k = r' := fun x => h x.symm
      simp [set, this]
    · simp [set, hk, ih]

theorem lookup_set_eq (t : Tracker) (r : Nat) (s : VStatus) (h : (lookup t r).isSome = true) :
    lookup (set t r s) r = some s := by
  induction t with
  | nil => simp at h
  | cons e t ih =>
    obtain ⟨k, s0⟩ := e
    by_cases hk : k = r
    · simp [set, hk]
    · simp [hk] at h
      simp [set, hk, ih h]

theorem length_set (t : Tracker) (r : Nat) (s : VStatus) : (set t r s).length = t.length := by
  have := congrArg List.length (keys_set t r s)
  simpa [keys] using this

/-- modifying the entry of an existing key = applying the change to every entry with that key
    (there is exactly one) -/
theorem set_eq_map {t : Tracker} (hu : KeysUnique t) {r : Nat} {s0 : VStatus} (h : lookup t r = some s0)
    (f : VStatus → VStatus) :
    set t r (f s0) = t.map (fun e => if e.1 = r then (e.1, f e.2) else e) := by
  induction t with
  | nil => simp at h
  | cons e t ih =>
    obtain ⟨k, s⟩ := e
    have hu' : k ∉ keys t ∧ (keys t).Nodup := List.nodup_cons.1 hu
    by_cases hk : k = r
    · simp [hk] at h
      subst hk; subst h
      have : t.map (fun e => if e.1 = k then (e.1, f e.2) else e) = t :=
        (List.map_congr_left fun e he => if_neg (fst_ne_of_mem hu'.1 he)).trans (List.map_id t)
      simp [set, this]
    · simp [hk] at h
      simp [set, hk, ih hu'.2 h]

theorem keys_erase (t : Tracker) (r : Nat) : keys (erase t r) = (keys t).erase r := by
  induction t with
  | nil => rfl
  | cons e t ih =>
    obtain ⟨k, s⟩ := e
    by_cases hk : k = r
    · simp [erase, hk]
    · simp only [keys_cons, erase, hk, ↓reduceIte]; rw [List.erase_cons_tail (show ¬ (k == r) = true by simp [hk]), ih]

theorem lookup_erase_ne (t : Tracker) (r r' : Nat) (h : r' ≠ r) : lookup (erase t r) r' = lookup t r' := by
  induction t with
  | nil => rfl
  | cons e t ih =>
    obtain ⟨k, s⟩ := e
    by_cases hk : k = r
    · subst hk
      have : ¬ k = r' := fun x => h x.symm
      simp [erase, this]
    · simp [erase, hk, ih]

theorem erase_eq_filter {t : Tracker} (hu : KeysUnique t) (r : Nat) :
    erase t r = t.filter (fun e => decide (e.1 ≠ r)) := by
  induction t with
  | nil => rfl
  | cons e t ih =>
    obtain ⟨k, s⟩ := e
    have hu' : k ∉ keys t ∧ (keys t).Nodup := List.nodup_cons.1 hu
    by_cases hk : k = r
    · subst hk
      simp only [erase, ↓reduceIte, List.filter_cons, ne_eq, not_true_eq_false, decide_false]
      exact (List.filter_eq_self.2 fun e he => decide_eq_true (fst_ne_of_mem hu'.1 he)).symm
    · simp [erase, hk, ih hu'.2]

theorem erase_of_not_mem {t : Tracker} {r : Nat} (h : lookup t r = none) : erase t r = t := by
  induction t with
  | nil => rfl
  | cons e t ih =>
    obtain ⟨k, s⟩ := e
    by_cases hk : k = r
    · simp [hk] at h
    · simp [hk] at h; simp [erase, hk, ih h]

theorem lookup_erase_eq {t : Tracker} (hu : KeysUnique t) (r : Nat) : lookup (erase t r) r = none := by
  rw [lookup_eq_none_iff, keys_erase]
  exact fun h => (List.Nodup.mem_erase_iff hu).1 h |>.1 rfl

theorem keys_filter_sublist (t : Tracker) (p : Nat × VStatus → Bool) :
    (keys (t.filter p)).Sublist (keys t) :=
  (List.filter_sublist (l := t)).map Prod.fst

theorem lookup_filter {t : Tracker} (hu : KeysUnique t) (p : Nat × VStatus → Bool) (r : Nat) :
    lookup (t.filter p) r = (lookup t r).filter (fun s => p (r, s)) := by
  induction t with
  | nil => rfl
  | cons e t ih =>
    obtain ⟨k, s⟩ := e
    have hu' : k ∉ keys t ∧ (keys t).Nodup := List.nodup_cons.1 hu
    by_cases hk : k = r
    · subst hk
      have hnone : lookup t k = none := (lookup_eq_none_iff t k).2 hu'.1
      cases hp : p (k, s)
      · have := ih hu'.2
        simp [hp, Option.filter, this, hnone]
      · simp [hp, Option.filter]
    · cases hp : p (k, s) <;> simp [hp, hk, ih hu'.2]

/-- outside 1..8 the table changes nothing -/
theorem Spec.report_of_bad_sub (s : VStatus) (v : Option Nat) {sub : Nat} (h : sub = 0 ∨ 8 < sub) :
    Spec.report s sub v = s := by
  have n : ∀ k, 1 ≤ k → k ≤ 8 → ¬ sub = k := fun k h1 h8 e => by omega
  simp [Spec.report, Spec.accepted, Spec.started, Spec.stepField, Spec.completed, Spec.stepList, Spec.finishes, n]

/-- the record after `_check_subservice` is the table's record for **every** subservice value and
    whether or not a step id is present (outside 1..8 nothing changes; a missing step id leaves the
    step list alone) -/
theorem checkSubservice_fst (s : VStatus) (sub : Nat) (v : Option Nat) :
    (checkSubservice s sub v).1 = Spec.report s sub v := by
  obtain ⟨r, a, st, sp, l, c⟩ := s
  by_cases h8 : sub ≤ 8
  · have hs : sub = 0 ∨ sub = 1 ∨ sub = 2 ∨ sub = 3 ∨ sub = 4 ∨ sub = 5 ∨ sub = 6 ∨ sub = 7 ∨ sub = 8 := by omega
    -- evaluation is blocked by `r || _` everywhere, by the tests of `accepted` / `started` in the
    -- branches 4 and 6-8, of `step` in 5, and by the optional step value in 5 and 6
    rcases hs with h | h | h | h | h | h | h | h | h <;> subst h <;> cases r
    iterate 8 rfl
    iterate 2 cases a <;> rfl
    iterate 2 cases v <;> cases sp <;> rfl
    iterate 2 cases v <;> cases a <;> cases st <;> rfl
    iterate 4 cases a <;> cases st <;> rfl
  · have n : ∀ k, k ≤ 8 → ¬ sub = k := fun k hk e => h8 (e ▸ hk)
    rw [Spec.report_of_bad_sub _ v (.inr (by omega))]
    simp [checkSubservice, n]

theorem checkSubservice_snd (s : VStatus) (sub : Nat) (v : Option Nat)
    (h1 : 1 ≤ sub) (h8 : sub ≤ 8) (hv : sub = 5 ∨ sub = 6 → v.isSome = true) :
    (checkSubservice s sub v).2 = .ok (Spec.resultFlag sub) := by
  have hs : sub = 1 ∨ sub = 2 ∨ sub = 3 ∨ sub = 4 ∨ sub = 5 ∨ sub = 6 ∨ sub = 7 ∨ sub = 8 := by omega
  rcases hs with h | h | h | h | h | h | h | h <;> subst h <;> first | rfl | (cases v; simp at hv; rfl)

/-- **the `if/elif` chain computes the per-field table**, for every subservice 1..8 and every
    status record (a step report must carry a step id) -/
theorem checkSubservice_eq (s : VStatus) (sub : Nat) (v : Option Nat)
    (h1 : 1 ≤ sub) (h8 : sub ≤ 8) (hv : sub = 5 ∨ sub = 6 → v.isSome = true) :
    checkSubservice s sub v = (Spec.report s sub v, .ok (Spec.resultFlag sub)) :=
  Prod.ext (checkSubservice_fst s sub v) (checkSubservice_snd s sub v h1 h8 hv)

/-- a step report without a step id raises `AttributeError` after the record has been changed -/
theorem checkSubservice_no_step_id (s : VStatus) (sub : Nat) (h : sub = 5 ∨ sub = 6) :
    (checkSubservice s sub none).2 = .error .attr := by
  rcases h with h | h <;> subst h <;> rfl

theorem Spec.report_step_of_failure (s : VStatus) (sub : Nat) (v : Option Nat) (h : s.step = .failure) :
    (Spec.report s sub v).step = .failure := by
  simp [Spec.report, Spec.stepField, h]

theorem Spec.report_allRecvd_of_true (s : VStatus) (sub : Nat) (v : Option Nat) (h : s.allRecvd = true) :
    (Spec.report s sub v).allRecvd = true := by
  simp [Spec.report, h]

/-- the step values a single call appends to the list of request id `r` -/
def stepsOf (r : Nat) : Op → List Nat
  | .addTm r' sub (some v) => if r' = r ∧ (sub = 5 ∨ sub = 6) then [v] else []
  | _ => []

/-- the step values the reports of a history carry for request id `r`, in order -/
def stepsFor (r : Nat) (ops : List Op) : List Nat := ops.flatMap (stepsOf r)

theorem Spec.report_stepList (s : VStatus) (r sub : Nat) (v : Option Nat) :
    (Spec.report s sub v).stepList = s.stepList ++ stepsOf r (.addTm r sub v) := by
  cases v with
  | none => simp [Spec.report, Spec.stepList, stepsOf]
  | some x =>
    by_cases h : sub = 5 ∨ sub = 6 <;> simp [Spec.report, Spec.stepList, stepsOf, h]

theorem Op.WF_addTm (r sub : Nat) (v : Option Nat) :
    (Op.addTm r sub v).WF = true ↔ 1 ≤ sub ∧ sub ≤ 8 ∧ (sub = 5 ∨ sub = 6 → v.isSome = true) := by
  cases v <;> simp [Op.WF] <;> omega

theorem addTc_known {t : Tracker} {r : Nat} {s : VStatus} (h : lookup t r = some s) :
    step t (.addTc r) = (t, .added false) := by
  simp [step, addTc, h]

theorem addTc_new {t : Tracker} {r : Nat} (h : lookup t r = none) :
    step t (.addTc r) = (t ++ [(r, VStatus.init)], .added true) := by
  simp [step, addTc, h]

theorem addTm_unknown {t : Tracker} {r : Nat} (h : lookup t r = none) (sub : Nat) (v : Option Nat) :
    step t (.addTm r sub v) = (t, .noResult) := by
  simp [step, addTm, h]

theorem addTm_bad_subservice {t : Tracker} {r : Nat} {s : VStatus} (h : lookup t r = some s) (sub : Nat)
    (v : Option Nat) (hs : sub = 0 ∨ 8 < sub) : step t (.addTm r sub v) = (t, .raised .value) := by
  simp [step, addTm, h, hs]

theorem addTm_in_range {t : Tracker} {r : Nat} {s : VStatus} (h : lookup t r = some s) (sub : Nat)
    (v : Option Nat) (h1 : 1 ≤ sub) (h8 : sub ≤ 8) :
    step t (.addTm r sub v)
      = (set t r (Spec.report s sub v),
          match (checkSubservice s sub v).2 with
          | .ok c => .result (Spec.report s sub v) c
          | .error e => .raised e) := by
  have : ¬ (sub ≤ 0 ∨ sub > 8) := by omega
  simp only [step, addTm, h, this, ↓reduceIte, checkSubservice_fst]
  rfl

theorem addTm_known {t : Tracker} {r : Nat} {s : VStatus} (h : lookup t r = some s) (sub : Nat)
    (v : Option Nat) (h1 : 1 ≤ sub) (h8 : sub ≤ 8) (hv : sub = 5 ∨ sub = 6 → v.isSome = true) :
    step t (.addTm r sub v)
      = (set t r (Spec.report s sub v), .result (Spec.report s sub v) (Spec.resultFlag sub)) := by
  rw [addTm_in_range h sub v h1 h8, checkSubservice_snd s sub v h1 h8 hv]

/-- a report in 1..8 for a registered id that is not in the domain: a step report without step id;
    it raises `AttributeError` -/
theorem addTm_no_step_id {t : Tracker} {r : Nat} {s : VStatus} (h : lookup t r = some s) {sub : Nat}
    {v : Option Nat} (hv : ¬ (sub = 5 ∨ sub = 6 → v.isSome = true)) :
    (step t (.addTm r sub v)).2 = .raised .attr := by
  cases v with
  | some x => exact absurd (fun _ => rfl) hv
  | none =>
    have hs : sub = 5 ∨ sub = 6 := (Classical.not_imp.1 hv).1
    rw [addTm_in_range h sub none (by omega) (by omega), checkSubservice_no_step_id s sub hs]

/-- the record of the reported id after a report, for every subservice value -/
theorem addTm_lookup_eq {t : Tracker} {r : Nat} {s : VStatus} (h : lookup t r = some s) (sub : Nat)
    (v : Option Nat) : lookup (step t (.addTm r sub v)).1 r = some (Spec.report s sub v) := by
  by_cases hb : sub = 0 ∨ 8 < sub
  · rw [addTm_bad_subservice h sub v hb, Spec.report_of_bad_sub s v hb, h]
  · rw [addTm_in_range h sub v (by omega) (by omega)]
    exact lookup_set_eq _ _ _ (by rw [h]; rfl)

theorem addTm_lookup_ne (t : Tracker) (r sub : Nat) (v : Option Nat) {r' : Nat} (hne : r' ≠ r) :
    lookup (step t (.addTm r sub v)).1 r' = lookup t r' := by
  cases h : lookup t r with
  | none => rw [addTm_unknown h]
  | some s =>
    by_cases hb : sub = 0 ∨ 8 < sub
    · rw [addTm_bad_subservice h sub v hb]
    · rw [addTm_in_range h sub v (by omega) (by omega)]
      exact lookup_set_ne _ _ _ _ hne

theorem addTm_result {t : Tracker} {r sub : Nat} {v : Option Nat} {s' : VStatus} {c : Bool}
    (h : (step t (.addTm r sub v)).2 = .result s' c) :
    ∃ s, lookup t r = some s ∧ 1 ≤ sub ∧ sub ≤ 8 ∧ (sub = 5 ∨ sub = 6 → v.isSome = true) ∧
      s' = Spec.report s sub v ∧ c = Spec.resultFlag sub := by
  cases hl : lookup t r with
  | none => rw [addTm_unknown hl] at h; cases h
  | some s =>
    by_cases hb : sub = 0 ∨ 8 < sub
    · rw [addTm_bad_subservice hl sub v hb] at h; cases h
    by_cases hv : sub = 5 ∨ sub = 6 → v.isSome = true
    · rw [addTm_known hl sub v (by omega) (by omega) hv] at h
      cases h
      exact ⟨s, rfl, by omega, by omega, hv, rfl, rfl⟩
    · rw [addTm_no_step_id hl hv] at h; cases h

theorem removeEntry_known {t : Tracker} {r : Nat} {s : VStatus} (h : lookup t r = some s) :
    step t (.removeEntry r) = (erase t r, .removed true) := by
  simp [step, removeEntry, h]

theorem removeEntry_unknown {t : Tracker} {r : Nat} (h : lookup t r = none) :
    step t (.removeEntry r) = (t, .removed false) := by
  simp [step, removeEntry, h]

theorem removeCompleted_eq (t : Tracker) :
    step t .removeCompleted = (t.filter (fun e => !e.2.allRecvd), .done) := rfl

theorem run_append (t : Tracker) (a b : List Op) : run t (a ++ b) = run (run t a) b := by
  induction a generalizing t with
  | nil => rfl
  | cons o os ih => simp [run, ih]

theorem trace_length (t : Tracker) (ops : List Op) : (trace t ops).length = ops.length := by
  induction ops generalizing t with
  | nil => rfl
  | cons o os ih => simp [trace, ih]

theorem trace_append (t : Tracker) (a b : List Op) :
    trace t (a ++ b) = trace t a ++ trace (run t a) b := by
  induction a generalizing t with
  | nil => rfl
  | cons o os ih => simp [trace, run, ih]

theorem trace_getElem (t : Tracker) (ops : List Op) (i : Nat) (h : i < ops.length) :
    (trace t ops)[i]? = some ((step (run t (ops.take i)) ops[i]).2, run t (ops.take (i + 1))) := by
  induction ops generalizing t i with
  | nil => simp at h
  | cons o os ih =>
    cases i with
    | zero => simp [trace, run]
    | succ j =>
      have hj : j < os.length := by simpa using h
      simp [trace, run, ih (step t o).1 j hj]

theorem keys_step (t : Tracker) (o : Op) :
    keys (step t o).1 =
      match o with
      | .addTc r => if r ∈ keys t then keys t else keys t ++ [r]
      | .addTm _ _ _ => keys t
      | .removeEntry r => (keys t).erase r
      | .removeCompleted => keys (t.filter (fun e => !e.2.allRecvd)) := by
  cases o with
  | addTc r =>
    cases h : lookup t r with
    | none =>
      have : r ∉ keys t := (lookup_eq_none_iff t r).1 h
      simp [addTc_new h, keys_append, this]
    | some s =>
      have : r ∈ keys t := (lookup_isSome_iff t r).1 (by simp [h])
      simp [addTc_known h, this]
  | addTm r sub v =>
    simp only [step, addTm]
    cases h : lookup t r with
    | none => rfl
    | some s =>
      by_cases hb : sub = 0 ∨ 8 < sub
      · simp [hb]
      · simp [hb, keys_set]
  | removeEntry r =>
    cases h : lookup t r with
    | none =>
      have : r ∉ keys t := (lookup_eq_none_iff t r).1 h
      simp [removeEntry_unknown h, List.erase_of_not_mem this]
    | some s => simp [removeEntry_known h, keys_erase]
  | removeCompleted => rfl

theorem keysUnique_step {t : Tracker} (hu : KeysUnique t) (o : Op) : KeysUnique (step t o).1 := by
  unfold KeysUnique at hu ⊢
  rw [keys_step]
  cases o with
  | addTc r =>
    by_cases h : r ∈ keys t
    · simpa [h] using hu
    · simp only [h, ↓reduceIte]
      rw [List.nodup_append]
      refine ⟨hu, by simp, ?_⟩
      intro a ha b hb
      simp at hb; subst hb
      exact fun x => h (x ▸ ha)
  | addTm r sub v => exact hu
  | removeEntry r => exact hu.erase r
  | removeCompleted => exact hu.sublist (keys_filter_sublist t _)

theorem keysUnique_run {t : Tracker} (hu : KeysUnique t) (ops : List Op) : KeysUnique (run t ops) := by
  induction ops generalizing t with
  | nil => exact hu
  | cons o os ih => exact ih (keysUnique_step hu o)

/-- **what one call can do to the entry of a request id that is present before and after it**:
    nothing, or — if the call is a report for that very id — the table's transition -/
theorem step_entry {t : Tracker} (hu : KeysUnique t) {r : Nat} {s s' : VStatus} (h : lookup t r = some s)
    (o : Op) (h' : lookup (step t o).1 r = some s') :
    s' = s ∧ stepsOf r o = [] ∨ ∃ sub v, o = .addTm r sub v ∧ s' = Spec.report s sub v := by
  have same : lookup t r = some s' → s' = s := fun e => Option.some.inj (e.symm.trans h)
  cases o with
  | addTc r0 =>
    refine .inl ⟨same ?_, rfl⟩
    cases h0 : lookup t r0 with
    | some s0 => rwa [addTc_known h0] at h'
    | none =>
      rw [addTc_new h0, lookup_append, h] at h'
      exact h.trans h'
  | addTm r0 sub v =>
    by_cases hr : r0 = r
    · subst hr
      rw [addTm_lookup_eq h] at h'
      exact .inr ⟨sub, v, rfl, (Option.some.inj h').symm⟩
    · rw [addTm_lookup_ne t r0 sub v (fun x => hr x.symm)] at h'
      refine .inl ⟨same h', ?_⟩
      cases v with
      | none => rfl
      | some x => simp [stepsOf, hr]
  | removeEntry r0 =>
    refine .inl ⟨same ?_, rfl⟩
    cases h0 : lookup t r0 with
    | none => rwa [removeEntry_unknown h0] at h'
    | some s0 =>
      rw [removeEntry_known h0] at h'
      by_cases hr : r0 = r
      · subst hr
        rw [lookup_erase_eq hu] at h'
        cases h'
      · rwa [lookup_erase_ne _ _ _ (fun x => hr x.symm)] at h'
  | removeCompleted =>
    refine .inl ⟨?_, rfl⟩
    rw [removeCompleted_eq, lookup_filter hu, h] at h'
    simp [Option.filter] at h'
    exact h'.2.symm

/-- the entry of request id `r` survives every call of the history -/
def Alive (t : Tracker) (r : Nat) : List Op → Prop
  | [] => True
  | o :: os => (lookup (step t o).1 r).isSome = true ∧ Alive (step t o).1 r os

/-- a property of the record of `r` that every table transition preserves survives every call that
    keeps the entry -/
theorem entry_invariant_step {P : VStatus → Prop} (hP : ∀ s sub v, P s → P (Spec.report s sub v))
    {t : Tracker} (hu : KeysUnique t) {r : Nat} {s s' : VStatus} (h : lookup t r = some s) (hs : P s)
    (o : Op) (h' : lookup (step t o).1 r = some s') : P s' := by
  rcases step_entry hu h o h' with ⟨e, _⟩ | ⟨sub, v, _, e⟩
  · exact e ▸ hs
  · exact e ▸ hP s sub v hs

theorem entry_invariant {P : VStatus → Prop} (hP : ∀ s sub v, P s → P (Spec.report s sub v))
    {t : Tracker} (hu : KeysUnique t) {r : Nat} {s : VStatus} (h : lookup t r = some s) (hs : P s)
    (ops : List Op) (alive : Alive t r ops) :
    ∃ s', lookup (run t ops) r = some s' ∧ P s' := by
  induction ops generalizing t s with
  | nil => exact ⟨s, h, hs⟩
  | cons o os ih =>
    obtain ⟨s1, h1⟩ := Option.isSome_iff_exists.1 alive.1
    exact ih (keysUnique_step hu o) h1 (entry_invariant_step hP hu h hs o h1) alive.2

theorem keysUnique_empty : KeysUnique Tracker.empty := List.nodup_nil

theorem Reachable.keysUnique {t : Tracker} (h : Reachable t) : KeysUnique t := by
  obtain ⟨ops, rfl⟩ := h
  exact keysUnique_run keysUnique_empty ops

theorem Reachable.step {t : Tracker} (h : Reachable t) (o : Op) : Reachable (step t o).1 := by
  obtain ⟨ops, rfl⟩ := h
  exact ⟨ops ++ [o], by simp [run_append, run]⟩

theorem Reachable.run {t : Tracker} (h : Reachable t) (ops : List Op) : Reachable (run t ops) := by
  obtain ⟨pre, rfl⟩ := h
  exact ⟨pre ++ ops, run_append _ _ _⟩

end SpVerif.Verificator
