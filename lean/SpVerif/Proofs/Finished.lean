import SpVerif.Model.Finished
import SpVerif.Proofs.Eof
/-!
# The Finished PDU model

Constructor and setter equations; the TLV loop (documented errors only, and what it returns fits into
what it consumed), both by the loop's own induction principle; the decoder as prelude + `parse`.
-/
namespace SpVerif.Finished
open SpVerif SpVerif.CfdpHeader SpVerif.FileDirective SpVerif.Tlv

/-- octets the fault location adds to a Finished PDU with condition code `cond` -/
def faultLen (cond : Int) : Option EntityIdTlv → Nat
  | some t => if mightHaveFaultLoc cond then t.packetLen else 0
  | none => 0

/-- directive-parameter length of a Finished PDU -/
def finParamLen (crcFlag : Nat) (cond : Int) (rs : List FileStoreResponseTlv) (fl : Option EntityIdTlv) : Nat :=
  (if crcFlag = 1 then 3 else 1) + faultLen cond fl + responsesLen rs

theorem calcLen_eq (fd : FileDirective) (cond : Int) (rs : List FileStoreResponseTlv) (fl : Option EntityIdTlv) :
    calcLen fd cond rs fl = fd.setParamLen (finParamLen fd.header.conf.crcFlag cond rs fl) := by
  unfold calcLen finParamLen faultLen
  cases fl <;> rfl

theorem calcLen_eq' (fd : FileDirective) (cond : Int) (rs : List FileStoreResponseTlv) (fl : Option EntityIdTlv) :
    calcLen fd cond rs fl =
      if 65535 < finParamLen fd.header.conf.crcFlag cond rs fl + 1 then .error .value
      else .ok { fd with header := { fd.header with
        dataFieldLen := finParamLen fd.header.conf.crcFlag cond rs fl + 1 } } := by
  rw [calcLen_eq, setParamLen_eq]

theorem calcLen_documented (fd : FileDirective) (cond : Int) (rs : List FileStoreResponseTlv)
    (fl : Option EntityIdTlv) : Documented (calcLen fd cond rs fl) := by
  rw [calcLen_eq]; exact setParamLen_documented _ _

/-- the computed length does not depend on the length stored before -/
theorem calcLen_setLen (fd : FileDirective) (n : Nat) (cond : Int) (rs : List FileStoreResponseTlv)
    (fl : Option EntityIdTlv) :
    calcLen { fd with header := { fd.header with dataFieldLen := n } } cond rs fl = calcLen fd cond rs fl := by
  rw [calcLen_eq', calcLen_eq']

theorem new_eq (c : PduConfig) (cond : Int) (dc fs : Nat) (rs : List FileStoreResponseTlv)
    (fl : Option EntityIdTlv) :
    Finished.new c cond dc fs rs fl =
      if c.source.width ≠ c.dest.width ∨ 65535 < finParamLen c.crcFlag cond rs fl + 1 then .error .value
      else .ok ⟨⟨⟨0, 0, finParamLen c.crcFlag cond rs fl + 1, { c with direction := 1 }⟩, 5⟩,
                cond, dc, fs, rs, fl⟩ := by
  unfold Finished.new
  rw [new_bind _ _ _ (by omega)]
  by_cases hw : c.source.width ≠ c.dest.width
  · rw [if_pos hw, if_pos (Or.inl hw)]
  rw [if_neg hw]
  by_cases h3 : 65535 < finParamLen c.crcFlag cond rs fl + 1
  · rw [if_pos (Or.inr h3)]
    cases fl <;> simp only [bind, Except.bind, pure, Except.pure, calcLen_eq', h3, ↓reduceIte]
  · rw [if_neg (not_or.mpr ⟨hw, h3⟩)]
    cases fl <;> simp only [bind, Except.bind, pure, Except.pure, calcLen_eq', h3, ↓reduceIte, DIR_FINISHED]

theorem setCond_eq (k : Finished) (c : Int) :
    k.setCond c =
      if 65535 < finParamLen k.fd.header.conf.crcFlag c k.responses k.faultLoc + 1 then .error .value
      else .ok { k with cond := c, fd := { k.fd with header := { k.fd.header with
        dataFieldLen := finParamLen k.fd.header.conf.crcFlag c k.responses k.faultLoc + 1 } } } := by
  unfold Finished.setCond
  rw [calcLen_eq']
  split <;> rfl

theorem setResponses_eq (k : Finished) (rs : Option (List FileStoreResponseTlv)) :
    k.setResponses rs =
      if 65535 < finParamLen k.fd.header.conf.crcFlag k.cond (rs.getD []) k.faultLoc + 1 then .error .value
      else .ok { k with responses := rs.getD [], fd := { k.fd with header := { k.fd.header with
        dataFieldLen := finParamLen k.fd.header.conf.crcFlag k.cond (rs.getD []) k.faultLoc + 1 } } } := by
  unfold Finished.setResponses
  cases rs <;> simp only [Option.getD] <;> rw [calcLen_eq'] <;> split <;> rfl

theorem setFaultLoc_eq (k : Finished) (fl : Option EntityIdTlv) :
    k.setFaultLoc fl =
      if 65535 < finParamLen k.fd.header.conf.crcFlag k.cond k.responses fl + 1 then .error .value
      else .ok { k with faultLoc := fl, fd := { k.fd with header := { k.fd.header with
        dataFieldLen := finParamLen k.fd.header.conf.crcFlag k.cond k.responses fl + 1 } } } := by
  unfold Finished.setFaultLoc
  rw [calcLen_eq']
  split <;> rfl

theorem drop_ne_nil {d : Bytes} {n : Nat} (h : n < d.length) : d.drop n ≠ [] := fun he => by
  have := congrArg List.length he
  rw [List.length_drop, List.length_nil] at this
  omega

theorem unpackTlvs_doc (might : Bool) (d : Bytes) (hne : d ≠ []) : Documented (unpackTlvs might d) := by
  fun_induction unpackTlvs might d with
  | case1 d ihR ihE =>
    rw [idx_ok (List.length_pos_iff.mpr hne), bind_ok]
    refine Documented.ite (Documented.bind (FileStoreResponseTlv.unpack_documented d) fun r _ => ?_)
      (Documented.ite (Documented.ite (Documented.err rfl)
        (Documented.bind (EntityIdTlv.unpack_documented d) fun e _ => ?_)) (Documented.err rfl))
    · split
      · exact Documented.ok _
      · rename_i hlt
        exact Documented.bind (ihR r hlt (drop_ne_nil (by omega))) fun _ _ => Documented.ok _
    · split
      · exact Documented.ok _
      · rename_i hlt
        exact Documented.bind (ihE e hlt (drop_ne_nil (by omega))) fun _ _ => Documented.ok _

/-- **the loop never raises `IndexError`** (nor anything undocumented): on a non-empty remainder it
    fails only with `ValueError` or `TlvTypeMissmatch`. Termination is by construction
    (well-founded recursion on the number of unconsumed octets). -/
theorem unpackTlvs_documented (might : Bool) : ∀ (n : Nat) (d : Bytes), d.length = n → d ≠ [] →
    Documented (unpackTlvs might d) :=
  fun _ d _ hne => unpackTlvs_doc might d hne

/-- the two setter calls after the TLV loop -/
def finish (fd : FileDirective) (cond : Int) (rs : List FileStoreResponseTlv) (fl : Option EntityIdTlv) :
    Py FileDirective := do
  let fd ← calcLen fd cond rs none
  match fl with
  | some _ => calcLen fd cond rs fl
  | none => pure fd

theorem finish_eq (fd : FileDirective) (cond : Int) (rs : List FileStoreResponseTlv) (fl : Option EntityIdTlv) :
    finish fd cond rs fl =
      if 65535 < finParamLen fd.header.conf.crcFlag cond rs none + 1 then .error .value
      else calcLen fd cond rs fl := by
  unfold finish
  rw [calcLen_eq' fd cond rs none]
  split
  · rfl
  · rename_i h
    cases fl with
    | none => exact ((calcLen_eq' fd cond rs none).trans (if_neg h)).symm
    | some t => rw [bind_ok]; exact calcLen_setLen fd _ cond rs (some t)

theorem finish_documented (fd : FileDirective) (cond : Int) (rs : List FileStoreResponseTlv)
    (fl : Option EntityIdTlv) : Documented (finish fd cond rs fl) := by
  rw [finish_eq]
  exact Documented.ite (Documented.err rfl) (calcLen_documented _ _ _ _)

/-- the parameter parser on the base object and the cut buffer the prelude returns -/
def parse (r : FileDirective × Bytes) : Py Finished := do
  let fd := r.1
  let data := r.2
  let i := fd.headerLen
  if i ≥ data.length then throw .value
  let b ← idx data i
  let cond ← enumOf condMembers (b / 16 % 16)
  let fd ← calcLen fd (cond : Int) [] none
  if data.length > i + 1 then
    let r ← unpackTlvs (mightHaveFaultLoc (cond : Int)) (data.drop (i + 1))
    let fd ← finish fd (cond : Int) r.1 r.2
    pure ⟨fd, (cond : Int), b / 4 % 2, b % 4, r.1, r.2⟩
  else
    pure ⟨fd, (cond : Int), b / 4 % 2, b % 4, [], none⟩

theorem unpack_eq (d : Bytes) : Finished.unpack d = prelude d >>= parse := by
  rw [prelude_bind]
  refine bind_congr fun fd => ?_
  cases hv : fd.verify d with
  | error e => rfl
  | ok n =>
    have hle : ¬ fd.packetLen > d.length := Nat.not_lt.mpr ((verify_ok_iff fd.header d n).mp hv).2.1
    rw [bind_ok, bind_ok, if_neg hle]
    unfold parse finish
    dsimp only
    by_cases hs : fd.headerLen ≥ (d.take fd.paramsEnd).length
    · rw [if_pos hs, if_pos hs, throw_eq, bind_err, bind_err]
    rw [if_neg hs, if_neg hs]
    refine bind_congr fun b => ?_
    refine bind_congr fun cond => ?_
    refine bind_congr fun fd1 => ?_
    by_cases hm : (d.take fd.paramsEnd).length > fd.headerLen + 1
    · rw [if_pos hm, if_pos hm]
      refine bind_congr fun r => ?_
      rw [bind_assoc]
      refine bind_congr fun fd2 => ?_
      obtain ⟨r1, r2⟩ := r
      cases r2 <;> rfl
    · rw [if_neg hm, if_neg hm]

theorem parse_min {fd : FileDirective} {p : Bytes} {a : Finished} (h : parse (fd, p) = .ok a) :
    fd.headerLen < p.length := by
  unfold parse at h
  by_cases hs : fd.headerLen ≥ p.length
  · rw [if_pos hs] at h; cases h
  · omega

theorem parse_documented (r : FileDirective × Bytes) : Documented (parse r) := by
  obtain ⟨fd, p⟩ := r
  unfold parse
  dsimp only
  by_cases hs : fd.headerLen ≥ p.length
  · rw [if_pos hs]; exact Documented.err rfl
  rw [if_neg hs]
  show Documented (idx p fd.headerLen >>= _)
  rw [idx_ok (by omega), bind_ok]
  refine Documented.bind (enumOf_documented _ _) fun cond _ =>
    Documented.bind (calcLen_documented _ _ _ _) fun fd1 _ => ?_
  split
  · exact Documented.bind (unpackTlvs_doc _ _ (drop_ne_nil (by omega))) fun r _ =>
      Documented.bind (finish_documented _ _ _ _) fun _ _ => Documented.ok _
  · exact Documented.ok _

/-- the decoder fails, on any octet string whatever, only with `ValueError`,
    `UnsupportedCfdpVersion`, `InvalidCrc` or `TlvTypeMissmatch` (never `IndexError`) -/
theorem unpack_documented (d : Bytes) : Documented (Finished.unpack d) := by
  rw [unpack_eq]; exact bind_prelude_documented parse parse_documented d

theorem unpack_inv (d : Bytes) (a : Finished) (h : Finished.unpack d = .ok a) :
    ∃ fd p, prelude d = .ok (fd, p) ∧ parse (fd, p) = .ok a ∧ fd.packetLen ≤ d.length ∧
      (fd.header.conf.crcFlag = 1 → Crc.crc16 (d.take fd.packetLen) = 0) ∧
      ∀ rest, Finished.unpack (d.take fd.packetLen ++ rest) = .ok a := by
  rw [unpack_eq] at h
  obtain ⟨fd, p, hp, hf, h3, h4, ht⟩ := bind_prelude_take parse d a h
  obtain ⟨_, _, hlen, hpe, _, _⟩ := prelude_facts d fd p hp
  have := parse_min hf
  have := packetLen_eq fd
  have := headerLen_eq fd
  exact ⟨fd, p, hp, hf, h3, h4, fun rest => unpack_eq _ ▸ ht (by omega) rest⟩

theorem fsResponse_unpack_le {d : Bytes} {r : FileStoreResponseTlv} (h : FileStoreResponseTlv.unpack d = .ok r) :
    r.packetLen ≤ d.length := by
  rw [FileStoreResponseTlv.unpack_bind] at h
  obtain ⟨t, ht, h⟩ := bind_ok_inv h
  rw [FileStoreResponseTlv.fromTlv_len_exact h]
  exact (CfdpTlv.unpack_spec d t ht).2.2.1

/-- octets of the kept fault location (0 for none) -/
def entLen : Option EntityIdTlv → Nat
  | some t => t.packetLen
  | none => 0

theorem unpackTlvs_le (might : Bool) (d : Bytes) (r : List FileStoreResponseTlv × Option EntityIdTlv)
    (h : unpackTlvs might d = .ok r) : responsesLen r.1 + entLen r.2 ≤ d.length := by
  fun_induction unpackTlvs might d generalizing r with
  | case1 d ihR ihE =>
    obtain ⟨code, _, h⟩ := bind_ok_inv h
    split at h
    · obtain ⟨x, hx, h⟩ := bind_ok_inv h
      have hle := fsResponse_unpack_le hx
      split at h
      · cases pure_ok_inv h; simp only [responsesLen, entLen]; omega
      · rename_i hlt
        obtain ⟨rest, hrest, h⟩ := bind_ok_inv h
        cases pure_ok_inv h
        have := ihR x hlt rest hrest
        rw [List.length_drop] at this
        simp only [responsesLen]; omega
    · split at h
      · split at h
        · cases h
        · obtain ⟨x, hx, h⟩ := bind_ok_inv h
          have hle := EntityIdTlv.unpack_le hx
          split at h
          · cases pure_ok_inv h; simp only [responsesLen, entLen]; omega
          · rename_i hlt
            obtain ⟨rest, hrest, h⟩ := bind_ok_inv h
            cases pure_ok_inv h
            have := ihE x hlt rest hrest
            rw [List.length_drop] at this
            cases h2 : rest.2 <;> simp only [h2, entLen] at this ⊢ <;> omega
      · cases h

/-- **what the TLV loop returns fits into what it was given**: the filestore responses it returns
    plus the one entity-ID TLV it keeps (the last) are not longer than the octets it consumed -/
theorem unpackTlvs_len (might : Bool) : ∀ (n : Nat) (d : Bytes), d.length = n → d ≠ [] →
    ∀ r, unpackTlvs might d = .ok r → responsesLen r.1 + entLen r.2 ≤ d.length :=
  fun _ d _ _ r h => unpackTlvs_le might d r h

theorem faultLen_le_entLen (cond : Int) (fl : Option EntityIdTlv) : faultLen cond fl ≤ entLen fl := by
  cases fl with
  | none => exact Nat.le_refl _
  | some t => simp only [faultLen, entLen]; split <;> omega

theorem parse_len (fd : FileDirective) (p : Bytes) (a : Finished) (h : parse (fd, p) = .ok a) :
    a.fd.header.headerLen = fd.header.headerLen ∧
    a.fd.header.dataFieldLen + fd.header.headerLen ≤ p.length + (if fd.header.conf.crcFlag = 1 then 2 else 0) := by
  have hi := parse_min h
  have hhl := headerLen_eq fd
  unfold parse at h
  dsimp only at h
  rw [if_neg (by omega)] at h
  obtain ⟨b, _, h⟩ := bind_ok_inv h
  obtain ⟨cond, _, h⟩ := bind_ok_inv h
  rw [calcLen_eq'] at h
  split at h
  · cases h
  rw [bind_ok] at h
  split at h
  · obtain ⟨r, hr, h⟩ := bind_ok_inv h
    rw [finish_eq] at h
    split at h
    · cases h
    rw [calcLen_eq'] at h
    split at h
    · cases h
    cases pure_ok_inv h
    have hl := unpackTlvs_le _ _ r hr
    have hf := faultLen_le_entLen (cond : Int) r.2
    rw [List.length_drop] at hl
    refine ⟨rfl, ?_⟩
    simp only [finParamLen]
    split <;> omega
  · cases pure_ok_inv h
    refine ⟨rfl, ?_⟩
    simp only [finParamLen, faultLen, responsesLen]
    split <;> omega

/-- **the decoded Finished PDU reports at most the declared PDU length** (its length is recomputed
    from the TLVs it kept: the filestore responses and the last entity-ID TLV) -/
theorem unpack_reported_le (d : Bytes) (a : Finished) (h : Finished.unpack d = .ok a) :
    ∃ fd p, prelude d = .ok (fd, p) ∧ a.fd.packetLen ≤ fd.packetLen := by
  obtain ⟨fd, p, hp, hf, _, _, _⟩ := unpack_inv d a h
  obtain ⟨_, _, hlen, _, _, _⟩ := prelude_facts d fd p hp
  obtain ⟨h1, h2⟩ := parse_len fd p a hf
  refine ⟨fd, p, hp, ?_⟩
  have hpe := paramsEnd_add fd
  rw [packetLen_eq a.fd, packetLen_eq fd, h1]
  rw [packetLen_eq fd] at hpe
  generalize (if fd.header.conf.crcFlag = 1 then 2 else 0) = c2 at hpe h2
  omega

/-- **only the declared PDU matters** -/
theorem unpack_take (d : Bytes) (a : Finished) (h : Finished.unpack d = .ok a) :
    ∃ fd p, prelude d = .ok (fd, p) ∧ ∀ rest, Finished.unpack (d.take fd.packetLen ++ rest) = .ok a := by
  obtain ⟨fd, p, hp, _, _, _, ht⟩ := unpack_inv d a h
  exact ⟨fd, p, hp, ht⟩

theorem packResponses_length : ∀ {l : List FileStoreResponseTlv} {b : Bytes}, packResponses l = .ok b →
    b.length = responsesLen l
  | [], b, h => by cases h; rfl
  | r :: l, b, h => by
    unfold packResponses at h
    obtain ⟨x, hx, h⟩ := bind_ok_inv h
    obtain ⟨rest, hr, h⟩ := bind_ok_inv h
    cases pure_ok_inv h
    simp only [List.length_append, responsesLen, FileStoreResponseTlv.pack_length r x hx, packResponses_length hr]

theorem packFaultLoc_length {cond : Int} {fl : Option EntityIdTlv} {b : Bytes}
    (h : packFaultLoc cond fl = .ok b) : b.length = faultLen cond fl := by
  cases fl with
  | none => cases h; rfl
  | some t =>
    show b.length = if mightHaveFaultLoc cond then t.packetLen else 0
    have h' : (if mightHaveFaultLoc cond then t.pack else pure []) = .ok b := h
    by_cases g : mightHaveFaultLoc cond = true
    · rw [if_pos g] at h' ⊢; exact CfdpTlv.pack_length t.tlv b h'
    · rw [if_neg g] at h' ⊢; cases h'; rfl

end SpVerif.Finished
