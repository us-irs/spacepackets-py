import SpVerif.Model.Prefix
import SpVerif.Props.C01
import SpVerif.Props.C02
import SpVerif.Props.C03
import SpVerif.Props.C05
import SpVerif.Props.C08
import SpVerif.Props.C14
import SpVerif.Props.C15
import SpVerif.Props.C17
import SpVerif.Props.C20
import SpVerif.Proofs.PusCrcAccept
/-!
# Locality of the decoders

`LocalOn dec d r n`: the first `n` octets of `d` lie inside `d`, and every buffer that holds `n`
octets and agrees with `d` on them is decoded to `r`. `Local c` (for a codec `c`) is `LocalOn` at the
length the result reports, for every accepted buffer. From it follow the forms C09 states (prefix,
prefix ‖ suffix, packed ‖ suffix), the split theorems (induction over the list of units) and, with the
documented-errors theorems, the rejection of strict prefixes (C10). The per-unit part proves `Local`
for every codec of `Model/Prefix.lean` from the characterisation lemmas of the owning properties: by
congruence (`LocalOn.of_congr`) where the decoder reads through `idx` and `slice` below the reported
length, by `LocalOn.of_take_append` where the owner shows that an accepted buffer starts with the
canonical encoding of the result.
-/
namespace SpVerif.Prefix
open SpVerif

theorem le_of_short {ε α : Type} {dec : Bytes → Except ε α} {n : Nat} {e : ε}
    (hs : ∀ d, d.length < n → dec d = .error e) {d : Bytes} {r : α} (h : dec d = .ok r) : n ≤ d.length :=
  Nat.le_of_not_lt fun hl => by rw [hs d hl] at h; cases h

theorem suffix_irrelevant {β : Type} {dec : Bytes → β} {p : Bytes} {x : β} (h : ∀ s, dec (p ++ s) = x)
    (s : Bytes) : dec (p ++ s) = dec p ∧ dec p = x := by
  have h0 := h []
  rw [List.append_nil] at h0
  exact ⟨(h s).trans h0.symm, h0⟩

def LocalOn {α : Type} (dec : Bytes → Py α) (d : Bytes) (r : α) (n : Nat) : Prop :=
  n ≤ d.length ∧ ∀ d' : Bytes, d'.take n = d.take n → n ≤ d'.length → dec d' = .ok r

namespace LocalOn
variable {α β : Type} {dec : Bytes → Py α} {d : Bytes} {r : α} {n : Nat}

theorem take_append (h : LocalOn dec d r n) (s : Bytes) : dec (d.take n ++ s) = .ok r := by
  have hl : (d.take n).length = n := List.length_take_of_le h.1
  refine h.2 _ ?_ (by rw [List.length_append]; omega)
  rw [List.take_append_of_le_length (Nat.le_of_eq hl.symm), List.take_take, Nat.min_self]

theorem take (h : LocalOn dec d r n) : dec (d.take n) = .ok r := by
  have := h.take_append []
  rwa [List.append_nil] at this

theorem append (h : LocalOn dec d r n) (s : Bytes) : dec (d ++ s) = .ok r :=
  h.2 _ (List.take_append_of_le_length h.1) (by rw [List.length_append]; have := h.1; omega)

theorem of_take_append (hl : n ≤ d.length) (h : ∀ s, dec (d.take n ++ s) = .ok r) : LocalOn dec d r n :=
  ⟨hl, fun d' e _ => by rw [← List.take_append_drop n d', e]; exact h _⟩

theorem of_congr (hl : n ≤ d.length) (h : dec d = .ok r)
    (hc : ∀ d' : Bytes, d'.take n = d.take n → n ≤ d'.length → dec d' = dec d) : LocalOn dec d r n :=
  ⟨hl, fun d' e l => (hc d' e l).trans h⟩

theorem bind {a : α} (h : LocalOn dec d a n) {f : α → Py β} {b : β} (hf : f a = .ok b) :
    LocalOn (fun d => dec d >>= f) d b n :=
  ⟨h.1, fun d' e l => by show (dec d' >>= f) = _; rw [h.2 d' e l]; exact hf⟩

theorem map {a : α} (h : LocalOn dec d a n) (f : α → β) : LocalOn (fun d => f <$> dec d) d (f a) n :=
  ⟨h.1, fun d' e l => by show (f <$> dec d') = _; rw [h.2 d' e l]; rfl⟩

end LocalOn

/-- the result `r` of decoding `d` is determined by the first `c.len r` octets of `d` -/
def LocalAt {α : Type} (c : Codec α) (d : Bytes) (r : α) : Prop :=
  c.len r ≤ d.length ∧
    ∀ d' : Bytes, d'.take (c.len r) = d.take (c.len r) → c.len r ≤ d'.length → c.decode d' = .ok r

def Local {α : Type} (c : Codec α) : Prop := ∀ d r, c.decode d = .ok r → LocalAt c d r

def Restricts {α : Type} (c : Codec α) : Prop :=
  ∀ d r, c.decode d = .ok r → c.len r ≤ d.length ∧ c.decode (d.take (c.len r)) = .ok r

def Extends {α : Type} (c : Codec α) : Prop :=
  ∀ d r s, c.decode d = .ok r → c.decode (d ++ s) = .ok r

theorem LocalAt.append {α : Type} {c : Codec α} {d : Bytes} {r : α} (h : LocalAt c d r) (s : Bytes) :
    c.decode (d ++ s) = .ok r :=
  LocalOn.append h s

theorem Local.restricts {α : Type} {c : Codec α} (h : Local c) : Restricts c :=
  fun d r hd => ⟨(h d r hd).1, LocalOn.take (h d r hd)⟩

theorem Local.extends {α : Type} {c : Codec α} (h : Local c) : Extends c :=
  fun d r s hd => (h d r hd).append s

/-- locality is inherited by a decoder that post-processes the result without touching the buffer,
    as long as the reported length is the same -/
theorem Local.bind {α β : Type} {c : Codec α} (h : Local c) (f : α → Py β) (len' : β → Nat)
    (hlen : ∀ a b, f a = .ok b → len' b = c.len a) :
    Local ⟨fun d => c.decode d >>= f, len'⟩ := by
  intro d r hd
  obtain ⟨a, ha, hf⟩ := bind_ok_inv hd
  show LocalOn _ d r (len' r)
  rw [hlen a r hf]
  exact LocalOn.bind (h d a ha) hf

theorem Local.map {α β : Type} {c : Codec α} (h : Local c) (f : α → β) (len' : β → Nat)
    (hlen : ∀ a, len' (f a) = c.len a := by intro; rfl) :
    Local ⟨fun d => f <$> c.decode d, len'⟩ := by
  intro d r hd
  obtain ⟨a, ha, rfl⟩ := map_ok_inv hd
  show LocalOn _ d (f a) (len' (f a))
  rw [hlen a]
  exact LocalOn.map (h d a ha) f

def Packed {α : Type} (c : Codec α) (p : Bytes) (r : α) : Prop := c.decode p = .ok r ∧ c.len r = p.length

theorem splitN_concat {α : Type} (c : Codec α) (he : Extends c) (units : List (Bytes × α))
    (hp : ∀ u ∈ units, Packed c u.1 u.2) (tail : Bytes) :
    splitN c units.length ((units.map (·.1)).flatten ++ tail) = .ok (units.map (·.2), tail) := by
  induction units with
  | nil => rfl
  | cons u us ih =>
    obtain ⟨⟨hd, hl⟩, hp'⟩ := List.forall_mem_cons.1 hp
    simp only [List.map_cons, List.flatten_cons, List.append_assoc, List.length_cons, splitN, he u.1 u.2 _ hd,
      bind_ok, hl, List.drop_left, ih hp']
    rfl

/-- every unit consumes at least one octet, so fuel beyond the length of the buffer is never used up -/
theorem splitAll_concat {α : Type} (c : Codec α) (he : Extends c) (units : List (Bytes × α))
    (hp : ∀ u ∈ units, Packed c u.1 u.2) (hpos : ∀ u ∈ units, 0 < u.1.length) (fuel : Nat)
    (hf : (units.map (·.1)).flatten.length < fuel) :
    splitAll c fuel (units.map (·.1)).flatten = .ok (units.map (·.2)) := by
  induction units generalizing fuel with
  | nil =>
    cases fuel with
    | zero => cases hf
    | succ f => rfl
  | cons u us ih =>
    cases fuel with
    | zero => cases hf
    | succ f =>
      obtain ⟨⟨hd, hl⟩, hp'⟩ := List.forall_mem_cons.1 hp
      obtain ⟨hu, hpos'⟩ := List.forall_mem_cons.1 hpos
      simp only [List.map_cons, List.flatten_cons, List.length_append] at hf ⊢
      have hne : ¬ (u.1 ++ (us.map (·.1)).flatten).length = 0 := by rw [List.length_append]; omega
      have hz : ¬ u.1.length = 0 := by omega
      simp only [splitAll, hne, ↓reduceIte, he u.1 u.2 _ hd, bind, Except.bind, hl, hz, List.drop_left]
      rw [ih hp' hpos' f (by omega)]
      rfl

theorem splitStream_concat {α : Type} (c : Codec α) (he : Extends c) (units : List (Bytes × α))
    (hp : ∀ u ∈ units, Packed c u.1 u.2) (hpos : ∀ u ∈ units, 0 < u.1.length) :
    splitStream c (units.map (·.1)).flatten = .ok (units.map (·.2)) :=
  splitAll_concat c he units hp hpos _ (Nat.lt_succ_self _)

theorem idx_of_take_eq {d d' : Bytes} {n i : Nat} (h : d'.take n = d.take n) (hi : i < n) :
    idx d' i = idx d i := by
  unfold idx
  rw [← List.getElem?_take_of_lt hi, h, List.getElem?_take_of_lt hi]

theorem slice_of_take_eq {d d' : Bytes} {n : Nat} (h : d'.take n = d.take n) (s e : Nat) (he : e ≤ n) :
    slice d' s e = slice d s e := by
  have := congrArg (List.take e) h
  rw [List.take_take, List.take_take, Nat.min_eq_left he] at this
  unfold slice
  rw [this]

theorem drop_take_of_take_eq {d d' : Bytes} {n : Nat} (h : d'.take n = d.take n) (k : Nat) :
    (d'.drop k).take (n - k) = (d.drop k).take (n - k) := by
  rw [← List.drop_take, ← List.drop_take, h]

theorem Sph.unpack_congr {d d' : Bytes} {n : Nat} (h : d'.take n = d.take n) (hn : 6 ≤ n)
    (hl : n ≤ d.length) (hl' : n ≤ d'.length) : SpacePacket.Sph.unpack d' = SpacePacket.Sph.unpack d := by
  have g : ¬ d.length < 6 := by omega
  have g' : ¬ d'.length < 6 := by omega
  unfold SpacePacket.Sph.unpack
  simp only [g, g', ↓reduceIte, idx_of_take_eq h (show 0 < n by omega), idx_of_take_eq h (show 1 < n by omega),
    slice_of_take_eq h 2 4 (by omega), slice_of_take_eq h 4 6 (by omega)]

theorem sph_local : Local sphCodec := fun d _ h =>
  have h6 : 6 ≤ d.length := le_of_short Props.C01.C01_short h
  LocalOn.of_congr h6 h fun _ e l => Sph.unpack_congr e (Nat.le_refl 6) h6 l

theorem TcSec.unpack_congr {x x' : Bytes} {m : Nat} (h : x'.take m = x.take m) (hm : 5 ≤ m)
    (hl : m ≤ x.length) (hl' : m ≤ x'.length) : PusTc.TcSec.unpack x' = PusTc.TcSec.unpack x := by
  have g : ¬ x.length < 5 := by omega
  have g' : ¬ x'.length < 5 := by omega
  unfold PusTc.TcSec.unpack
  simp only [g, g', ↓reduceIte, idx_of_take_eq h (show 0 < m by omega), idx_of_take_eq h (show 1 < m by omega),
    idx_of_take_eq h (show 2 < m by omega), slice_of_take_eq h 3 5 (by omega)]

theorem Tc.unpack_congr {d d' : Bytes} {n : Nat} (hn : n = PusCrc.declaredLen d) (h13 : 13 ≤ n)
    (hl : n ≤ d.length) (hl' : n ≤ d'.length) (h : d'.take n = d.take n) :
    PusTc.Tc.unpack d' = PusTc.Tc.unpack d := by
  have e1 := Sph.unpack_congr h (by omega) hl hl'
  have e2 : PusTc.TcSec.unpack (d'.drop 6) = PusTc.TcSec.unpack (d.drop 6) :=
    TcSec.unpack_congr (drop_take_of_take_eq h 6) (by omega) (by rw [List.length_drop]; omega) (by rw [List.length_drop]; omega)
  unfold PusTc.Tc.unpack
  rw [e1, e2]
  cases hs : SpacePacket.Sph.unpack d with
  | error e => rfl
  | ok sph =>
    have hp : sph.packetLen = n := by rw [hn]; exact (PusCrc.sph_unpack_declaredLen hs).2.1
    cases PusTc.TcSec.unpack (d.drop 6) with
    | error e => rfl
    | ok sec =>
      have g : ¬ d.length < n := by omega
      have g' : ¬ d'.length < n := by omega
      simp only [bind_ok, hp, g, g', ↓reduceIte, slice_of_take_eq h 11 (n - 2) (by omega), h]

theorem tc_local : Local tcCodec := by
  intro d t ht
  obtain ⟨e, h13, hle, _⟩ := PusCrc.tc_accept_crc ht
  show LocalOn PusTc.Tc.unpack d t t.packetLen
  rw [e]
  exact .of_congr hle ht fun _ hd' hl' => Tc.unpack_congr rfl h13 hle hl' hd'

theorem TmSec.unpack_congr {x x' : Bytes} {m : Nat} (ts : Nat) (h : x'.take m = x.take m) (hm : 7 + ts ≤ m)
    (hl : m ≤ x.length) (hl' : m ≤ x'.length) : PusTm.TmSec.unpack x' ts = PusTm.TmSec.unpack x ts := by
  have g : ¬ x.length < 7 := by omega
  have g' : ¬ x'.length < 7 := by omega
  unfold PusTm.TmSec.unpack
  simp only [g, g', ↓reduceIte, idx_of_take_eq h (show 0 < m by omega), idx_of_take_eq h (show 1 < m by omega),
    idx_of_take_eq h (show 2 < m by omega), slice_of_take_eq h 3 5 (by omega),
    slice_of_take_eq h 5 7 (by omega), slice_of_take_eq h 7 (7 + ts) (by omega)]

theorem Tm.unpack_congr {d d' : Bytes} {n : Nat} (ts : Nat) (hn : n = PusCrc.declaredLen d)
    (h15 : 13 + ts + 2 ≤ n) (hl : n ≤ d.length) (hl' : n ≤ d'.length) (h : d'.take n = d.take n) :
    PusTm.Tm.unpack d' ts = PusTm.Tm.unpack d ts := by
  have e1 := Sph.unpack_congr h (by omega) hl hl'
  have e2 : PusTm.TmSec.unpack (d'.drop 6) ts = PusTm.TmSec.unpack (d.drop 6) ts :=
    TmSec.unpack_congr ts (drop_take_of_take_eq h 6) (by omega) (by rw [List.length_drop]; omega) (by rw [List.length_drop]; omega)
  unfold PusTm.Tm.unpack
  rw [e1, e2]
  cases hs : SpacePacket.Sph.unpack d with
  | error e => rfl
  | ok sph =>
    have hp : SpacePacket.totalLenFromLenField sph.dlen = n := by
      rw [hn]; exact (PusCrc.sph_unpack_declaredLen hs).2.2
    have g : ¬ n > d.length := by omega
    have g' : ¬ n > d'.length := by omega
    have g2 : ¬ n < 6 + 7 + ts + 2 := by omega
    simp only [bind_ok, hp, g, g', g2, ↓reduceIte]
    cases PusTm.TmSec.unpack (d.drop 6) ts with
    | error e => rfl
    | ok sec => simp only [bind_ok, slice_of_take_eq h (sec.headerSize + 6) (n - 2) (by omega), h]

theorem tm_local (ts : Nat) : Local (tmCodec ts) := by
  intro d t ht
  obtain ⟨e, h15, hle, _⟩ := PusCrc.tm_accept_crc ht
  show LocalOn (fun d => PusTm.Tm.unpack d ts) d t t.packetLen
  rw [e]
  exact .of_congr hle ht fun _ hd' hl' => Tm.unpack_congr ts rfl h15 hle hl' hd'

theorem s17_local (ts : Nat) : Local (s17Codec ts) := tm_local ts

/-- the report decoder is the telemetry decoder followed by a parser of the decoded packet, which
    keeps that packet (`C15_unpack_sound`) -/
theorem s1_local (ts sb eb : Nat) : Local (s1Codec ts sb eb) := by
  intro d s h
  have h1 : PusTm.Tm.unpack d ts = .ok s.tm := (Props.C15.C15_unpack_sound d ts sb eb s h).1
  have hs : Srv1.unpackRaw s.tm sb eb = .ok s := by
    have h' : (PusTm.Tm.unpack d ts >>= fun tm => Srv1.unpackRaw tm sb eb) = .ok s := h
    rwa [h1] at h'
  exact LocalOn.bind (tm_local ts d s.tm h1) hs

theorem cds_local : Local cdsCodec := by
  intro d r h
  have h7 : 7 ≤ d.length := le_of_short Props.C14.C14_refuse_short h
  refine LocalOn.of_congr (n := 7) h7 h fun d' hd' hl' => ?_
  have g : ¬ d.length < 7 := by omega
  have g' : ¬ d'.length < 7 := by omega
  show Cds.unpackFromRaw d' = Cds.unpackFromRaw d
  unfold Cds.unpackFromRaw
  simp only [Cds.TIMESTAMP_SIZE, g, g', ↓reduceIte, idx_of_take_eq hd' (show 0 < 7 by omega),
    slice_of_take_eq hd' 1 3 (by omega), slice_of_take_eq hd' 3 7 (by omega)]

theorem reqId_local : Local reqIdCodec := by
  intro d r h
  have h4 : 4 ≤ d.length := le_of_short Srv1.ReqId.unpack_short h
  refine LocalOn.of_congr (n := 4) h4 h fun d' hd' hl' => ?_
  show Srv1.ReqId.unpack d' = Srv1.ReqId.unpack d
  rw [← Srv1.ReqId.unpack_take d' hl', hd', Srv1.ReqId.unpack_take d h4]

/-- the decoded field is a function of the first `roundDiv8 pfc` octets (`Pfe.unpack_eq`) -/
theorem pfe_local (pfc : Nat) : Local (pfeCodec pfc) := by
  intro d f h
  have h' : Srv1.Pfe.unpack d pfc = .ok f := h
  rw [Srv1.Pfe.unpack_eq] at h'
  split at h'
  · split at h'
    · rename_i hl
      cases h'
      refine LocalOn.of_congr (n := Srv1.roundDiv8 pfc) hl h fun d' e l => ?_
      show Srv1.Pfe.unpack d' pfc = Srv1.Pfe.unpack d pfc
      rw [Srv1.Pfe.unpack_eq, Srv1.Pfe.unpack_eq, if_pos l, if_pos hl, e]
    · cases h'
  · cases h'

theorem cfdpHdr_local : Local cfdpHdrCodec := by
  intro d h hu
  show LocalOn CfdpHeader.PduHeader.unpack d h h.headerLen
  exact .of_take_append (Props.C05.C05_decode_encode d h hu).2.1 (Props.C05.C05_unpack_prefix d h hu)

theorem lv_local : Local lvCodec := by
  intro d l h
  obtain ⟨h255, hle, hd⟩ := Lv.CfdpLv.unpack_spec d l h
  have ht := (congrArg (List.take l.packetLen) hd).trans (List.take_left' (by simp [Lv.CfdpLv.packetLen]))
  refine LocalOn.of_take_append (n := l.packetLen) hle fun s => ?_
  rw [ht]
  exact Lv.CfdpLv.unpack_pack_append l.value s h255

theorem tlv_local : Local tlvCodec := by
  intro d t h
  obtain ⟨hty, h255, hle, hd⟩ := Tlv.CfdpTlv.unpack_spec d t h
  have ht := (congrArg (List.take t.packetLen) hd).trans
    (List.take_left' (by simp [Tlv.CfdpTlv.packetLen]; omega))
  refine LocalOn.of_take_append (n := t.packetLen) hle fun s => ?_
  rw [ht]
  exact Tlv.CfdpTlv.unpack_pack_append t.ttype t.value s hty h255

-- the concrete TLV classes: generic decoder, then `from_tlv`, which keeps the reported length

theorem entityId_local : Local entityIdCodec :=
  tlv_local.bind Tlv.EntityIdTlv.fromTlv Tlv.EntityIdTlv.packetLen fun t x h => by
    rw [Tlv.EntityIdTlv.fromTlv_eq] at h
    split at h <;> cases h
    rfl

theorem msgToUser_local : Local msgToUserCodec :=
  tlv_local.bind Tlv.MessageToUserTlv.fromTlv Tlv.MessageToUserTlv.packetLen fun t x h => by
    rw [Tlv.MessageToUserTlv.fromTlv_eq] at h
    split at h <;> cases h
    rfl

theorem flowLabel_local : Local flowLabelCodec := by
  show Local ⟨Tlv.FlowLabelTlv.unpack, _⟩
  rw [funext Tlv.FlowLabelTlv.unpack_bind]
  refine tlv_local.bind Tlv.FlowLabelTlv.fromTlv Tlv.FlowLabelTlv.packetLen fun t x h => ?_
  rw [Tlv.FlowLabelTlv.fromTlv_eq] at h
  split at h <;> cases h
  rfl

theorem faultHandler_local : Local faultHandlerCodec :=
  tlv_local.bind Tlv.FaultHandlerOverrideTlv.fromTlv Tlv.FaultHandlerOverrideTlv.packetLen fun t x h => by
    rw [Tlv.FaultHandlerOverrideTlv.fromTlv_eq] at h
    split at h
    · cases h
    · split at h <;> cases h
      rfl

/-- a filestore TLV whose value field holds anything after the names (and the message LV) is refused,
    so an accepted one reports the length of the generic TLV -/
theorem fsRequest_local : Local fsRequestCodec :=
  tlv_local.bind Tlv.FileStoreRequestTlv.fromTlv Tlv.FileStoreRequestTlv.packetLen
    fun _ _ h => Tlv.FileStoreRequestTlv.fromTlv_len_exact h

theorem fsResponse_local : Local fsResponseCodec :=
  tlv_local.bind Tlv.FileStoreResponseTlv.fromTlv Tlv.FileStoreResponseTlv.packetLen
    fun _ _ h => Tlv.FileStoreResponseTlv.fromTlv_len_exact h

theorem tlv_declared {d : Bytes} {t : Tlv.CfdpTlv} (h : Tlv.CfdpTlv.unpack d = .ok t) :
    t.packetLen = tlvDeclaredLen d := by
  obtain ⟨ty, n, r, hd, _, hn, ht⟩ := (Tlv.CfdpTlv.unpack_ok_iff d t).1 h
  subst hd ht
  simp [Tlv.CfdpTlv.packetLen, tlvDeclaredLen, Nat.min_eq_left hn]

/-- … which is the length the buffer declares -/
theorem tlv_bind_declared {α : Type} {f : Tlv.CfdpTlv → Py α} {len' : α → Nat}
    (hlen : ∀ t x, f t = .ok x → len' x = t.packetLen) {d : Bytes} {x : α}
    (h : (Tlv.CfdpTlv.unpack d >>= f) = .ok x) : len' x = tlvDeclaredLen d := by
  obtain ⟨t, ht, hf⟩ := bind_ok_inv h
  rw [hlen t x hf, tlv_declared ht]

theorem fsRequest_len_declared {d : Bytes} {x : Tlv.FileStoreRequestTlv}
    (h : Tlv.FileStoreRequestTlv.unpack d = .ok x) : x.packetLen = tlvDeclaredLen d :=
  tlv_bind_declared (fun _ _ => Tlv.FileStoreRequestTlv.fromTlv_len_exact) h

theorem fsResponse_len_declared {d : Bytes} {x : Tlv.FileStoreResponseTlv}
    (h : Tlv.FileStoreResponseTlv.unpack d = .ok x) : x.packetLen = tlvDeclaredLen d :=
  tlv_bind_declared (fun _ _ => Tlv.FileStoreResponseTlv.fromTlv_len_exact) h

/-- `_common_unpacker` stays inside the value field, and the index it returns is what
    `common_packet_len()` computes from the decoded names (minus the two TLV header octets) -/
theorem commonUnpacker_idx {v : Bytes} {c : Tlv.Common} (h : Tlv.commonUnpacker v = .ok c) :
    c.idx ≤ v.length ∧ Tlv.commonPacketLen c.action c.first (c.second.getD []) = 2 + c.idx :=
  Tlv.commonUnpacker_idx_spec h

/-- a *packed* filestore TLV (reported length = buffer length) reports the declared length -/
theorem fs_packed_declared {d : Bytes} {n : Nat} (hle : n ≤ tlvDeclaredLen d) (hd : tlvDeclaredLen d ≤ d.length)
    (hp : n = d.length) : n = tlvDeclaredLen d := by omega

theorem toPy_ok_iff {α : Type} {x : Uslp.UPy α} {a : α} : x.toPy = .ok a ↔ x = .ok a := by
  cases x with
  | error e => simp [Uslp.UPy.toPy]
  | ok b => simp [Uslp.UPy.toPy]

theorem uslpPrimary_local (ver : Nat) : Local (uslpPrimaryCodec ver) := by
  intro d r h
  obtain ⟨h7, c1, c2, c3, rfl⟩ := Uslp.PrimaryHeader.unpack_ok (toPy_ok_iff.1 h)
  refine LocalOn.of_take_append (n := 7 + d[6].toNat % 8) c3 fun s =>
    toPy_ok_iff.2 (Uslp.PrimaryHeader.unpack_append _ s ver _ ?_)
  have hl : (d.take (7 + d[6].toNat % 8)).length = 7 + d[6].toNat % 8 := List.length_take_of_le c3
  rw [Uslp.PrimaryHeader.unpack_eq _ ver (by omega)]
  simp only [List.getElem_take, Uslp.hdrOf, hl]
  rw [if_neg (not_not_intro c1), if_neg c2, if_neg (by omega), Uslp.slice_take d 7 _ _ (Nat.le_refl _)]

theorem uslpTruncated_local (ver : Nat) : Local (uslpTruncatedCodec ver) := by
  intro d r h
  have hu : Uslp.TruncatedHeader.unpack d ver = .ok r := toPy_ok_iff.1 h
  have h4 : 4 ≤ d.length := le_of_short (fun d => Uslp.TruncatedHeader.unpack_short d ver) hu
  refine LocalOn.of_take_append (n := 4) h4 fun s => ?_
  show (Uslp.TruncatedHeader.unpack (d.take 4 ++ s) ver).toPy = .ok r
  refine toPy_ok_iff.2 (Uslp.TruncatedHeader.unpack_append _ s ver r ?_)
  have h4' : 4 ≤ (d.take 4).length := by rw [List.length_take]; omega
  rw [Uslp.TruncatedHeader.unpack_eq d ver h4] at hu
  rw [Uslp.TruncatedHeader.unpack_eq _ ver h4']
  simp only [List.getElem_take]
  exact hu

theorem byteField_local (n : Nat) : Local (byteFieldCodec n) := by
  intro d f h
  have h' : ByteField.genFromBytes (n : Int) d = .ok f := h
  rw [ByteField.genFromBytes_eq] at h'
  split at h'
  · rename_i g
    cases h'
    refine LocalOn.of_congr (n := n) (by omega) h fun d' e l => ?_
    show ByteField.genFromBytes (n : Int) d' = ByteField.genFromBytes (n : Int) d
    rw [ByteField.genFromBytes_eq, ByteField.genFromBytes_eq, if_pos ⟨g.1, by omega⟩, if_pos g]
    simp only [Int.toNat_natCast, e]
  · cases h'
/-- every accepted buffer is determined by the first `len` octets, `len` being the length the decoded
    object reports -/
theorem Kind.local (k : Kind) : Local k.codec := by
  cases k with
  | sph => exact sph_local.map Decoded.sph Decoded.len
  | tc => exact tc_local.map Decoded.tc Decoded.len
  | tm n => exact (tm_local n).map Decoded.tm Decoded.len
  | s17 n => exact (s17_local n).map Decoded.tm Decoded.len
  | s1 n sb eb => exact (s1_local n sb eb).map Decoded.s1 Decoded.len
  | cds => exact cds_local.map Decoded.cds Decoded.len
  | reqId => exact reqId_local.map Decoded.reqId Decoded.len
  | pfe p => exact (pfe_local p).map Decoded.pfe Decoded.len
  | cfdpHdr => exact cfdpHdr_local.map Decoded.cfdpHdr Decoded.len
  | lv => exact lv_local.map Decoded.lv Decoded.len
  | tlv => exact tlv_local.map Decoded.tlv Decoded.len
  | entityId => exact entityId_local.map Decoded.entityId Decoded.len
  | flowLabel => exact flowLabel_local.map Decoded.flowLabel Decoded.len
  | msgToUser => exact msgToUser_local.map Decoded.msgToUser Decoded.len
  | faultHandler => exact faultHandler_local.map Decoded.faultHandler Decoded.len
  | fsRequest => exact fsRequest_local.map Decoded.fsRequest Decoded.len
  | fsResponse => exact fsResponse_local.map Decoded.fsResponse Decoded.len
  | uslpPrimary v => exact (uslpPrimary_local v).map Decoded.uslpPrimary Decoded.len
  | uslpTruncated v => exact (uslpTruncated_local v).map Decoded.uslpTruncated Decoded.len
  | byteField n => exact (byteField_local n).map Decoded.byteField Decoded.len

theorem Kind.extends (k : Kind) : Extends k.codec := (Kind.local k).extends

theorem splitKinds_concat (units : List (Kind × Bytes × Decoded))
    (hp : ∀ u ∈ units, Packed u.1.codec u.2.1 u.2.2) (tail : Bytes) :
    splitKinds (units.map (·.1)) ((units.map (·.2.1)).flatten ++ tail) = .ok (units.map (·.2.2), tail) := by
  induction units with
  | nil => rfl
  | cons u us ih =>
    obtain ⟨⟨hd, hl⟩, hp'⟩ := List.forall_mem_cons.1 hp
    have hl : u.2.2.len = u.2.1.length := hl
    have hx : u.1.decode (u.2.1 ++ ((us.map (·.2.1)).flatten ++ tail)) = .ok u.2.2 := Kind.extends u.1 _ _ _ hd
    simp only [List.map_cons, List.flatten_cons, List.append_assoc, splitKinds, hx, bind_ok, hl, List.drop_left,
      ih hp']
    rfl

/-- no decoder of the table accepts the empty buffer: each starts with a length guard that `[]` fails
    (evaluation), except the two whose guard depends on the configuration -/
theorem Kind.decode_nil (k : Kind) (r : Decoded) : k.decode [] ≠ .ok r := by
  intro h
  cases k with
  | pfe p =>
    obtain ⟨f, hw, _⟩ := map_ok_inv h
    have hw : Srv1.Pfe.unpack [] p = .ok f := hw
    rw [Srv1.Pfe.unpack_eq] at hw
    split at hw
    · rename_i hw'
      rw [if_neg (by have := hw'.pos; simp only [List.length_nil]; omega)] at hw
      cases hw
    · cases hw
  | byteField n =>
    obtain ⟨f, h', _⟩ := map_ok_inv h
    have h' : ByteField.genFromBytes (n : Int) [] = .ok f := h'
    rw [ByteField.genFromBytes_eq, if_neg (by simp only [List.length_nil]; omega)] at h'
    cases h'
  | _ => cases h

end SpVerif.Prefix
