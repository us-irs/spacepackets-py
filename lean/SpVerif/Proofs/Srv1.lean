import SpVerif.Model.Srv1
/-!
# Reusable lemmas about the models of `ecss/req_id.py`, `ecss/fields.py` (PacketFieldEnum) and
# `ecss/pus_1_verification.py`

Equational characterisations of the decoders (`… = ok …` under the guard, `= error value` otherwise)
and "only documented errors" facts, for use by the property files (C15, and the cross-cutting
C09/C10).
-/
namespace SpVerif.Srv1
open SpVerif SpVerif.SpacePacket SpVerif.PusTm

/-- the widths a `PacketFieldEnum` can have -/
def Width (w : Nat) : Prop := w = 1 ∨ w = 2 ∨ w = 4 ∨ w = 8

instance (w : Nat) : Decidable (Width w) := by unfold Width; infer_instance

theorem Width.pos {w : Nat} (h : Width w) : 0 < w := by unfold Width at h; omega

private theorem dr_g (x y : Nat) (hx : x < 256) (hy : y < 256) :
    ¬ 16383 < (x * 256 + y) / 65536 * 65536 + (x * 256 + y) % 16384 := by omega
private theorem dr1 (x y : Nat) (hx : x < 256) (hy : y < 256) : (x * 256 + y) / 8192 % 8 = x / 32 := by omega

/-- `PacketSeqCtrl.from_raw` on a 16-bit word given by its two octets: always accepted -/
theorem Psc.fromRaw_word (x y : Nat) (hx : x < 256) (hy : y < 256) :
    Psc.fromRaw (x * 256 + y) = .ok ⟨x / 64, x % 64 * 256 + y⟩ := by
  rw [Psc.fromRaw, Psc.new_nat, if_neg (dr_g x y hx hy), Except.ok.injEq, Psc.mk.injEq]
  omega

/-- `PacketId.from_raw` on a 16-bit word given by its two octets -/
theorem PacketId.fromRaw_word (x y : Nat) (hy : y < 256) :
    PacketId.fromRaw (x * 256 + y) = ⟨x / 16 % 2, x / 8 % 2, x % 8 * 256 + y⟩ := by
  rw [PacketId.fromRaw, PacketId.mk.injEq]
  omega

theorem ReqId.unpack_eq (d : Bytes) (h4 : 4 ≤ d.length) :
    ReqId.unpack d = .ok ⟨d[0].toNat / 32, ⟨d[0].toNat / 16 % 2, d[0].toNat / 8 % 2, d[0].toNat % 8 * 256 + d[1].toNat⟩,
      ⟨d[2].toNat / 64, d[2].toNat % 64 * 256 + d[3].toNat⟩⟩ := by
  unfold ReqId.unpack
  rw [if_neg (by omega), unpackBE2_slice d 0 (by omega), bind_ok, unpackBE2_slice d 2 (by omega), bind_ok,
    Psc.fromRaw_word _ _ (toNat_lt _) (toNat_lt _), bind_ok, PacketId.fromRaw_word _ _ (toNat_lt _),
    dr1 _ _ (toNat_lt _) (toNat_lt _)]
  rfl

theorem ReqId.unpack_short (d : Bytes) (h : d.length < 4) : ReqId.unpack d = .error .value := by
  simp [ReqId.unpack, h, throw, throwThe, MonadExceptOf.throw, bind, Except.bind]

theorem ReqId.unpack_documented (d : Bytes) : Documented (ReqId.unpack d) := by
  by_cases h : d.length < 4
  · rw [ReqId.unpack_short d h]; exact .err rfl
  · rw [ReqId.unpack_eq d (by omega)]; exact .ok _

theorem ReqId.unpack_take (d : Bytes) (h4 : 4 ≤ d.length) : ReqId.unpack (d.take 4) = ReqId.unpack d := by
  rw [ReqId.unpack_eq d h4, ReqId.unpack_eq (d.take 4) (by simp; omega)]
  simp [List.getElem_take]

theorem roundDiv8_mul (w : Nat) : roundDiv8 (w * 8) = w := by
  have h1 : w * 8 / 8 = w := by omega
  have h2 : w * 8 % 8 = 0 := by omega
  simp [roundDiv8, h1, h2]

/-- Python's `round(pfc / 8)`: the result is within half a unit, ties go to the even neighbour -/
theorem roundDiv8_spec (pfc : Nat) :
    8 * roundDiv8 pfc ≤ pfc + 4 ∧ pfc ≤ 8 * roundDiv8 pfc + 4 ∧
    ((pfc + 4 = 8 * roundDiv8 pfc ∨ pfc = 8 * roundDiv8 pfc + 4) → roundDiv8 pfc % 2 = 0) := by
  unfold roundDiv8
  simp only
  split
  · omega
  · split
    · omega
    · split <;> omega

/-- `check_pfc` accepts exactly the PFC values that round to 1, 2, 4 or 8 octets and returns that width -/
theorem checkPfc_eq (pfc : Nat) :
    checkPfc pfc = if Width (roundDiv8 pfc) then .ok (roundDiv8 pfc) else .error .value := by
  simp [checkPfc, Width]

theorem checkPfc_width {w : Nat} (h : Width w) : checkPfc (w * 8) = .ok w := by
  rw [checkPfc_eq, roundDiv8_mul]; simp [h]

theorem checkPfc_documented (pfc : Nat) : Documented (checkPfc pfc) := by
  rw [checkPfc_eq]; exact .ite (.ok _) (.err rfl)

/-- `IntByteConversion.to_unsigned` on an allowed width: big-endian octets, or ValueError if too large -/
theorem toUnsigned_eq {w : Nat} (h : Width w) (v : Nat) :
    toUnsigned w v = if v < 256 ^ w then .ok (beBytes w v) else .error .value := by
  have hp : 0 < 256 ^ w := Nat.pow_pos (by omega)
  unfold toUnsigned
  rw [if_neg (fun c => c (Or.inr h)), if_neg (by have := h.pos; omega)]
  by_cases hv : v < 256 ^ w
  · rw [if_neg (by omega), if_pos hv, packBE_ok hv]
  · rw [if_pos (by omega), if_neg hv]

theorem Pfe.new_eq (pfc val : Nat) :
    Pfe.new pfc val = if Width (roundDiv8 pfc) then .ok ⟨pfc, val⟩ else .error .value := by
  unfold Pfe.new
  rw [checkPfc_eq]
  split <;> rfl

theorem Pfe.pack_eq (f : Pfe) :
    f.pack = if Width (roundDiv8 f.pfc) then
        (if f.val < 256 ^ roundDiv8 f.pfc then .ok (beBytes (roundDiv8 f.pfc) f.val) else .error .value)
      else .error .value := by
  unfold Pfe.pack
  rw [checkPfc_eq]
  split
  · rw [bind_ok]; exact toUnsigned_eq ‹_› _
  · rfl

/-- `PacketFieldEnum.unpack(data, pfc)`: the value is the big-endian number in the first `width` octets -/
theorem Pfe.unpack_eq (d : Bytes) (pfc : Nat) :
    Pfe.unpack d pfc = if Width (roundDiv8 pfc) then
        (if roundDiv8 pfc ≤ d.length then .ok ⟨pfc, beNat (d.take (roundDiv8 pfc))⟩ else .error .value)
      else .error .value := by
  unfold Pfe.unpack
  rw [checkPfc_eq]
  split
  · rename_i h
    rw [bind_ok]
    by_cases hl : roundDiv8 pfc ≤ d.length
    · rw [if_neg (by omega), if_pos hl, unpackBE_ok (by simp; omega), bind_ok, Pfe.new_eq, if_pos h]
      rfl
    · rw [if_pos (by omega), if_neg hl]; rfl
  · rfl

theorem Pfe.unpack_documented (d : Bytes) (pfc : Nat) : Documented (Pfe.unpack d pfc) := by
  rw [Pfe.unpack_eq]; exact .ite (.ite (.ok _) (.err rfl)) (.err rfl)

theorem Pfe.unpack_beBytes {w : Nat} (h : Width w) (v : Nat) (hv : v < 256 ^ w) (rest : Bytes) :
    Pfe.unpack (beBytes w v ++ rest) (w * 8) = .ok ⟨w * 8, v⟩ := by
  rw [Pfe.unpack_eq, roundDiv8_mul]
  rw [if_pos h, if_pos (by simp), List.take_left' (beBytes_length w v), beNat_beBytes w v hv]

theorem FailureNotice.unpack_documented (d : Bytes) (nErr : Nat) (nData : Option Nat) :
    Documented (FailureNotice.unpack d nErr nData) := by
  exact .bind (Pfe.unpack_documented _ _) fun _ _ => .ok _

/-- `Service1Tm(…, verif_params=p, …)` once the `PusTm` constructor has accepted its arguments: the
    set is checked against the subservice, packed, and stored as source data -/
theorem S1Tm.new_some {apid sub count : Int} {ts : Bytes} {ver ref dst : Nat} {tm : Tm} (p : VParams)
    (h : Tm.new 1 sub ts [] apid count 0 ref dst ver = .ok tm) :
    S1Tm.new apid sub ts (some p) count ver ref dst =
      p.verify sub.toNat >>= fun _ => p.pack >>= fun data => pure ⟨tm.setTmData data, p⟩ := by
  unfold S1Tm.new; rw [h]; rfl

theorem unpackRaw_short (tm : Tm) (sb eb : Nat) (h : tm.sourceData.length < 4) :
    unpackRaw tm sb eb = .error .value := by
  unfold unpackRaw; rw [if_pos h]; rfl

/-- `_unpack_raw_tm` with `_unpack_success_verification` / `_unpack_failure_verification` on at least
    four octets of source data, by kind of report: success (1, 3, 7), step success (5), failure
    (2, 4, 8), step failure (6); any other subservice is refused -/
theorem unpackRaw_eq (tm : Tm) (sb eb : Nat) (h4 : 4 ≤ tm.sourceData.length) :
    unpackRaw tm sb eb = ReqId.unpack (slice tm.sourceData 0 4) >>= fun req =>
      if tm.sec.subservice = 1 ∨ tm.sec.subservice = 3 ∨ tm.sec.subservice = 7 then
        .ok ⟨tm, ⟨req, none, none⟩⟩
      else if tm.sec.subservice = 5 then
        Pfe.unpack (slice tm.sourceData 4 (4 + sb)) (sb * 8) >>= fun step => .ok ⟨tm, ⟨req, some step, none⟩⟩
      else if tm.sec.subservice = 2 ∨ tm.sec.subservice = 4 ∨ tm.sec.subservice = 8 then
        if tm.sourceData.length < eb then .error .value else
        FailureNotice.unpack (tm.sourceData.drop 4) eb (some (tm.sourceData.length - 4)) >>= fun fn =>
          .ok ⟨tm, ⟨req, none, some fn⟩⟩
      else if tm.sec.subservice = 6 then
        if tm.sourceData.length < eb + sb then .error .value else
        Pfe.unpack (tm.sourceData.drop 4) (sb * 8) >>= fun step =>
        FailureNotice.unpack (tm.sourceData.drop (4 + sb)) eb (some (tm.sourceData.length - (4 + sb))) >>= fun fn =>
          .ok ⟨tm, ⟨req, some step, some fn⟩⟩
      else .error .value := by
  unfold unpackRaw
  rw [if_neg (by omega)]
  refine congrArg _ (funext fun req => ?_)
  generalize tm.sec.subservice = sub
  by_cases h8 : sub ≤ 8
  · have hs : sub = 0 ∨ sub = 1 ∨ sub = 2 ∨ sub = 3 ∨ sub = 4 ∨ sub = 5 ∨ sub = 6 ∨ sub = 7 ∨ sub = 8 := by omega
    rcases hs with h | h | h | h | h | h | h | h | h <;> subst h <;> rfl
  · have n248 : ¬ (sub = 2 ∨ sub = 4 ∨ sub = 8) := by omega
    have n137 : ¬ (sub = 1 ∨ sub = 3 ∨ sub = 7) := by omega
    have n5 : ¬ sub = 5 := by omega
    have n6 : ¬ sub = 6 := by omega
    by_cases hp : sub % 2 = 0 <;>
      simp only [hp, n137, n248, n5, n6, ↓reduceIte, ne_eq, not_false_eq_true, and_self] <;> rfl

theorem unpackRaw_documented (tm : Tm) (sb eb : Nat) : Documented (unpackRaw tm sb eb) := by
  by_cases h4 : tm.sourceData.length < 4
  · rw [unpackRaw_short tm sb eb h4]; exact .err rfl
  · rw [unpackRaw_eq tm sb eb (by omega)]
    have fn := FailureNotice.unpack_documented
    have pfe := Pfe.unpack_documented
    exact .bind (ReqId.unpack_documented _) fun req _ =>
      .ite (.ok _) <| .ite (.bind (pfe _ _) fun _ _ => .ok _) <|
      .ite (.ite (.err rfl) (.bind (fn _ _ _) fun _ _ => .ok _)) <|
      .ite (.ite (.err rfl) (.bind (pfe _ _) fun _ _ => .bind (fn _ _ _) fun _ _ => .ok _)) (.err rfl)

end SpVerif.Srv1
