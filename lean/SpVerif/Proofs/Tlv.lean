import SpVerif.Model.Tlv
import SpVerif.Proofs.Lv
/-!
# The TLV codecs (`Model/Tlv.lean`)

Every class decoder is the generic decoder followed by `from_tlv`, and `from_tlv` refuses a foreign
type before it looks at the value. What does not depend on the class is therefore proved for
`CfdpTlv.unpack d >>= f` (`unpackBind_*`); a class contributes its `fromTlv` in closed form.
-/
namespace SpVerif.Tlv
open SpVerif SpVerif.Lv

theorem shl4_or (a b : Nat) (hb : b < 16) : (a <<< 4) ||| b = a * 16 + b := shl_or a 4 b hb

theorem nib_div (a : Nat) {s : Nat} (hs : s < 16) : (a * 16 + s) / 16 = a := by omega
theorem nib_mod (a : Nat) {s : Nat} (hs : s < 16) : (a * 16 + s) % 16 = s := by omega
theorem nib_u8 {a s : Nat} (ha : a < 16) (hs : s < 16) : (u8 (a * 16 + s)).toNat = a * 16 + s := by
  rw [u8_toNat]; omega

theorem CfdpTlv.new_ok {t : Nat} {v : Bytes} (h : v.length ≤ 255) : CfdpTlv.new t v = .ok ⟨t, v⟩ :=
  if_neg (Nat.not_lt.2 h)

theorem CfdpTlv.new_err {t : Nat} {v : Bytes} (h : 255 < v.length) : CfdpTlv.new t v = .error .value :=
  if_pos h

theorem CfdpTlv.new_bind {β : Type} (t : Nat) (v : Bytes) (k : CfdpTlv → Py β) :
    (CfdpTlv.new t v >>= k) = if v.length ≤ 255 then k ⟨t, v⟩ else .error .value := by
  split
  · rw [CfdpTlv.new_ok ‹_›]; rfl
  · rw [CfdpTlv.new_err (by omega)]; rfl

theorem CfdpTlv.pack_eq (t : CfdpTlv) (ht : t.ttype < 256) (hv : t.value.length ≤ 255) :
    t.pack = .ok (u8 t.ttype :: u8 t.value.length :: t.value) := by
  unfold CfdpTlv.pack
  rw [byteOfN_ok ht, byteOfN_ok (by omega)]
  rfl

/-- whenever `pack` succeeds (for any object, also hand-built ones) it is type, length, value -/
theorem CfdpTlv.pack_ok (t : CfdpTlv) (b : Bytes) (h : t.pack = .ok b) :
    t.ttype < 256 ∧ t.value.length ≤ 255 ∧ b = u8 t.ttype :: u8 t.value.length :: t.value := by
  unfold CfdpTlv.pack byteOfN at h
  obtain ⟨a, ha, h⟩ := bind_ok_inv h
  obtain ⟨n, hn, h⟩ := bind_ok_inv h
  split at ha <;> cases ha
  split at hn <;> cases hn
  exact ⟨‹_›, by omega, (pure_ok_inv h).symm⟩

theorem CfdpTlv.pack_err (t : CfdpTlv) (h : 255 < t.value.length) : t.pack = .error .value := by
  unfold CfdpTlv.pack byteOfN
  split
  · rw [bind_ok, if_neg (by omega)]; rfl
  · rfl

theorem CfdpTlv.pack_length (t : CfdpTlv) (b : Bytes) (h : t.pack = .ok b) : b.length = t.packetLen := by
  obtain ⟨_, _, hb⟩ := CfdpTlv.pack_ok t b h
  rw [hb, CfdpTlv.packetLen, List.length_cons, List.length_cons]; omega

theorem CfdpTlv.unpack_short (d : Bytes) (h : d.length < 2) : CfdpTlv.unpack d = .error .value := by
  unfold CfdpTlv.unpack
  rw [if_pos h]; rfl

theorem CfdpTlv.unpack_cons2 (ty n : UInt8) (r : Bytes) :
    CfdpTlv.unpack (ty :: n :: r) =
      if ty.toNat ∈ tlvTypes ∧ n.toNat ≤ r.length then .ok ⟨ty.toNat, r.take n.toNat⟩
      else .error .value := by
  have hn := toNat_lt n
  have e : CfdpTlv.unpack (ty :: n :: r) =
      (enumOf tlvTypes ty.toNat >>= fun t =>
        if 2 + n.toNat > r.length + 1 + 1 then .error .value
        else CfdpTlv.new t (slice (ty :: n :: r) 2 (2 + n.toNat))) := rfl
  rw [e]
  unfold enumOf
  by_cases ht : ty.toNat ∈ tlvTypes
  · rw [if_pos ht, bind_ok]
    by_cases h : n.toNat ≤ r.length
    · have hs : slice (ty :: n :: r) 2 (2 + n.toNat) = r.take n.toNat := by
        simp [slice, Nat.add_comm 2 n.toNat]
      rw [if_neg (by omega), if_pos ⟨ht, h⟩, hs, CfdpTlv.new_ok (by rw [List.length_take]; omega)]
    · rw [if_pos (by omega), if_neg (fun x => h x.2)]
  · rw [if_neg ht, if_neg (fun x => ht x.1)]; rfl

theorem CfdpTlv.unpack_ok_iff (d : Bytes) (t : CfdpTlv) :
    CfdpTlv.unpack d = .ok t ↔
      ∃ ty n r, d = ty :: n :: r ∧ ty.toNat ∈ tlvTypes ∧ n.toNat ≤ r.length ∧
        t = ⟨ty.toNat, r.take n.toNat⟩ := by
  match d with
  | [] | [_] => simp [CfdpTlv.unpack_short]
  | ty :: n :: r =>
    rw [CfdpTlv.unpack_cons2]
    constructor
    · intro h
      split at h
      · exact ⟨ty, n, r, rfl, ‹_ ∧ _›.1, ‹_ ∧ _›.2, (Except.ok.inj h).symm⟩
      · cases h
    · rintro ⟨ty', n', r', he, ht, hn, hl⟩
      cases he
      rw [if_pos ⟨ht, hn⟩, hl]

theorem CfdpTlv.unpack_documented (d : Bytes) : Documented (CfdpTlv.unpack d) := by
  match d with
  | [] | [_] => exact Documented.err rfl
  | ty :: n :: r => rw [CfdpTlv.unpack_cons2]; exact Documented.ite (Documented.ok _) (Documented.err rfl)

theorem CfdpTlv.unpack_pack_append (t : Nat) (v rest : Bytes) (ht : t ∈ tlvTypes) (h : v.length ≤ 255) :
    CfdpTlv.unpack (u8 t :: u8 v.length :: (v ++ rest)) = .ok ⟨t, v⟩ := by
  have e : (u8 v.length).toNat = v.length := by rw [u8_toNat]; omega
  have e2 : (u8 t).toNat = t := by
    simp only [tlvTypes, List.mem_cons, List.not_mem_nil, or_false] at ht
    rw [u8_toNat]; omega
  rw [CfdpTlv.unpack_cons2, e, e2, if_pos ⟨ht, by simp⟩, List.take_left]

theorem CfdpTlv.unpack_append (d rest : Bytes) (t : CfdpTlv) (h : CfdpTlv.unpack d = .ok t) :
    CfdpTlv.unpack (d ++ rest) = .ok t := by
  obtain ⟨ty, n, r, hd, ht, hn, hl⟩ := (CfdpTlv.unpack_ok_iff d t).1 h
  subst hd
  rw [List.cons_append, List.cons_append, CfdpTlv.unpack_cons2,
    if_pos ⟨ht, by rw [List.length_append]; omega⟩, hl, List.take_append_of_le_length hn]

/-- what an accepted input looks like: a TLV type octet, a length ≤ 255, and the input starts with
    exactly the encoding of the decoded TLV (consumed length = `packetLen`) -/
theorem CfdpTlv.unpack_spec (d : Bytes) (t : CfdpTlv) (h : CfdpTlv.unpack d = .ok t) :
    t.ttype ∈ tlvTypes ∧ t.value.length ≤ 255 ∧ t.packetLen ≤ d.length ∧
      d = u8 t.ttype :: u8 t.value.length :: t.value ++ d.drop t.packetLen := by
  obtain ⟨ty, n, r, hd, ht, hn, hl⟩ := (CfdpTlv.unpack_ok_iff d t).1 h
  subst hd hl
  have hb := toNat_lt n
  have e : (r.take n.toNat).length = n.toNat := by rw [List.length_take]; omega
  refine ⟨ht, by rw [e]; omega, by simp only [CfdpTlv.packetLen, e, List.length_cons]; omega, ?_⟩
  simp only [CfdpTlv.packetLen, e, u8_toNat_self, Nat.add_comm 2 n.toNat, List.drop_succ_cons,
    List.cons_append, List.take_append_drop]

section ClassDecoder
variable {α : Type} {f : CfdpTlv → Py α}

theorem unpackBind_pack_append (f : CfdpTlv → Py α) (t : Nat) (v rest : Bytes) (ht : t ∈ tlvTypes)
    (h : v.length ≤ 255) :
    (CfdpTlv.unpack (u8 t :: u8 v.length :: (v ++ rest)) >>= f) = f ⟨t, v⟩ := by
  rw [CfdpTlv.unpack_pack_append t v rest ht h, bind_ok]

theorem unpackBind_documented (hf : ∀ t, Documented (f t)) (d : Bytes) :
    Documented (CfdpTlv.unpack d >>= f) :=
  Documented.bind (CfdpTlv.unpack_documented d) fun t _ => hf t

theorem unpackBind_append (f : CfdpTlv → Py α) (d rest : Bytes) (x : α)
    (h : (CfdpTlv.unpack d >>= f) = .ok x) : (CfdpTlv.unpack (d ++ rest) >>= f) = .ok x := by
  obtain ⟨t, ht, hf⟩ := bind_ok_inv h
  rw [CfdpTlv.unpack_append d rest t ht, bind_ok, hf]

/-- a continuation that refuses every TLV type but `T` accepts only inputs that start with the
    encoding of a type-`T` TLV, and was run on that TLV -/
theorem unpackBind_spec {T : Nat} (hg : ∀ t, t.ttype ≠ T → f t = .error .tlvType) {d : Bytes} {x : α}
    (h : (CfdpTlv.unpack d >>= f) = .ok x) :
    ∃ v, f ⟨T, v⟩ = .ok x ∧ v.length ≤ 255 ∧ v.length + 2 ≤ d.length ∧
      d = u8 T :: u8 v.length :: v ++ d.drop (v.length + 2) := by
  obtain ⟨⟨ty, v⟩, ht, hf⟩ := bind_ok_inv h
  by_cases hty : ty = T
  · subst hty
    obtain ⟨_, h1, h2, h3⟩ := CfdpTlv.unpack_spec d _ ht
    rw [CfdpTlv.packetLen, Nat.add_comm] at h2 h3
    exact ⟨v, hf, h1, h2, h3⟩
  · rw [hg _ hty] at hf
    cases hf

end ClassDecoder

theorem EntityIdTlv.fromTlv_eq (t : CfdpTlv) :
    EntityIdTlv.fromTlv t = if t.ttype = tEntityId then .ok ⟨t⟩ else .error .tlvType := ite_not ..
theorem FlowLabelTlv.fromTlv_eq (t : CfdpTlv) :
    FlowLabelTlv.fromTlv t = if t.ttype = tFlowLabel then .ok ⟨t⟩ else .error .tlvType := ite_not ..
theorem MessageToUserTlv.fromTlv_eq (t : CfdpTlv) :
    MessageToUserTlv.fromTlv t = if t.ttype = tMsgToUser then .ok ⟨t⟩ else .error .tlvType := ite_not ..

theorem EntityIdTlv.unpack_bind (d : Bytes) :
    EntityIdTlv.unpack d = CfdpTlv.unpack d >>= EntityIdTlv.fromTlv := rfl
/-- `FlowLabelTlv.unpack` repeats the type check of `from_tlv` inline -/
theorem FlowLabelTlv.unpack_bind (d : Bytes) :
    FlowLabelTlv.unpack d = CfdpTlv.unpack d >>= FlowLabelTlv.fromTlv := by
  unfold FlowLabelTlv.unpack FlowLabelTlv.fromTlv
  cases CfdpTlv.unpack d with
  | error e => rfl
  | ok t => show (if _ then _ else _) = (if _ then _ else _); split <;> rfl
theorem MessageToUserTlv.unpack_bind (d : Bytes) :
    MessageToUserTlv.unpack d = CfdpTlv.unpack d >>= MessageToUserTlv.fromTlv := rfl

theorem EntityIdTlv.new_eq (v : Bytes) :
    EntityIdTlv.new v = if v.length ≤ 255 then .ok ⟨⟨tEntityId, v⟩⟩ else .error .value :=
  CfdpTlv.new_bind tEntityId v _
theorem FlowLabelTlv.new_eq (v : Bytes) :
    FlowLabelTlv.new v = if v.length ≤ 255 then .ok ⟨⟨tFlowLabel, v⟩⟩ else .error .value :=
  CfdpTlv.new_bind tFlowLabel v _
theorem MessageToUserTlv.new_eq (v : Bytes) :
    MessageToUserTlv.new v = if v.length ≤ 255 then .ok ⟨⟨tMsgToUser, v⟩⟩ else .error .value :=
  CfdpTlv.new_bind tMsgToUser v _

theorem MessageToUserTlv.unpack_pack_append (v rest : Bytes) (h : v.length ≤ 255) :
    MessageToUserTlv.unpack (u8 tMsgToUser :: u8 v.length :: (v ++ rest)) = .ok ⟨⟨tMsgToUser, v⟩⟩ :=
  unpackBind_pack_append MessageToUserTlv.fromTlv tMsgToUser v rest (by decide) h

theorem FaultHandlerOverrideTlv.fromTlv_eq (t : CfdpTlv) :
    FaultHandlerOverrideTlv.fromTlv t =
      if t.ttype ≠ tFaultHandler then .error .tlvType
      else match t.value with
        | [] => .error .value
        | v0 :: _ => .ok ⟨v0.toNat / 16, v0.toNat % 16, t⟩ := by
  unfold FaultHandlerOverrideTlv.fromTlv
  by_cases h : t.ttype ≠ tFaultHandler
  · simp [h, throw, throwThe, MonadExceptOf.throw, bind, Except.bind]
  · simp only [h, ↓reduceIte, bind, Except.bind, pure, Except.pure, throw, throwThe, MonadExceptOf.throw]
    cases hv : t.value with
    | nil => simp
    | cons v0 r =>
      have hb := toNat_lt v0
      have e : v0.toNat / 16 % 16 = v0.toNat / 16 := by omega
      simp [idx_ok, e]

theorem FaultHandlerOverrideTlv.fromTlv_foreign {t : CfdpTlv} (h : t.ttype ≠ tFaultHandler) :
    FaultHandlerOverrideTlv.fromTlv t = .error .tlvType := by
  rw [FaultHandlerOverrideTlv.fromTlv_eq, if_pos h]

theorem FaultHandlerOverrideTlv.unpack_bind (d : Bytes) :
    FaultHandlerOverrideTlv.unpack d = CfdpTlv.unpack d >>= FaultHandlerOverrideTlv.fromTlv := rfl

theorem FaultHandlerOverrideTlv.new_nat (cc hc : Nat) (hcc : cc < 16) (hhc : hc < 16) :
    FaultHandlerOverrideTlv.new (cc : Int) hc =
      .ok ⟨cc, hc, ⟨tFaultHandler, [u8 (cc * 16 + hc)]⟩⟩ := by
  unfold FaultHandlerOverrideTlv.new
  rw [if_neg (by omega), Int.toNat_natCast, shl4_or cc hc hhc, byteOfN_ok (by omega)]
  rfl

theorem FaultHandlerOverrideTlv.new_neg (cc : Int) (hc : Nat) (h : cc < 0) :
    FaultHandlerOverrideTlv.new cc hc = .error .value := by
  unfold FaultHandlerOverrideTlv.new
  rw [if_pos h]; rfl

theorem mem_snp (a : Nat) : a ∈ snpActions ↔ a = 4 ∨ a = 2 ∨ a = 3 := by
  simp [snpActions]

theorem mem_actionCodes (a : Nat) : a ∈ actionCodes ↔ a ≤ 8 := by
  rw [show actionCodes = List.range 9 from rfl, List.mem_range]; omega

/-- layout of the common part of a filestore value field: action/status octet, first-name LV,
    second-name LV for the two-name actions -/
def fsValue (action status : Nat) (first second : Bytes) : Bytes :=
  u8 (action * 16 + status) :: u8 first.length ::
    (first ++ (if action ∈ snpActions then u8 second.length :: second else []))

theorem fsValue_length (a s : Nat) (f g : Bytes) :
    (fsValue a s f g).length = 2 + f.length + (if a ∈ snpActions then 1 + g.length else 0) := by
  unfold fsValue
  split <;> simp <;> omega

theorem commonPacketLen_eq (a s : Nat) (f g : Bytes) :
    commonPacketLen a f g = (fsValue a s f g).length + 2 := by
  rw [fsValue_length]; unfold commonPacketLen
  by_cases h : a ∈ snpActions <;> simp [h] <;> omega

theorem fsValue_fits {a s : Nat} {f g : Bytes} (h : (fsValue a s f g).length ≤ 255) :
    f.length ≤ 255 ∧ (a ∈ snpActions → g.length ≤ 255) := by
  rw [fsValue_length] at h
  refine ⟨by omega, fun hs => ?_⟩
  rw [if_pos hs] at h; omega

/-- `_common_packer` on every input with a status nibble: the only way to fail is a code or a
    name that does not fit, and that is a `ValueError` -/
theorem commonPacker_closed (a s : Nat) (f g : Bytes) (hs : s < 16) :
    commonPacker a f g s =
      if a < 16 ∧ f.length ≤ 255 ∧ (a ∈ snpActions → g.length ≤ 255) then .ok (fsValue a s f g)
      else .error .value := by
  unfold commonPacker fsValue
  rw [shl4_or a s hs]
  by_cases ha : a < 16
  · rw [byteOfN_ok (by omega), bind_ok]
    by_cases h1 : f.length ≤ 255
    · rw [CfdpLv.new_ok h1, bind_ok, CfdpLv.pack_eq _ h1, bind_ok]
      by_cases h : a ∈ snpActions
      · by_cases h2 : g.length ≤ 255
        · rw [if_pos h, if_pos h, if_pos ⟨ha, h1, fun _ => h2⟩, CfdpLv.new_ok h2, bind_ok, CfdpLv.pack_eq _ h2]
          rfl
        · rw [if_pos h, if_neg (fun x => h2 (x.2.2 h)), CfdpLv.new_err (by omega)]; rfl
      · rw [if_neg h, if_neg h, if_pos ⟨ha, h1, fun x => absurd x h⟩, List.append_nil]; rfl
    · rw [if_neg (fun x => h1 x.2.1), CfdpLv.new_err (by omega)]; rfl
  · rw [if_neg (fun x => ha x.1)]
    unfold byteOfN
    rw [if_neg (by omega)]; rfl

theorem decodeUtf8_ok {b : Bytes} (h : utf8Valid b = true) : decodeUtf8 b = .ok b := if_pos h

theorem decodeUtf8_ok_inv {b x : Bytes} (h : decodeUtf8 b = .ok x) : x = b := by
  unfold decodeUtf8 at h
  split at h <;> cases h
  rfl

/-- `_common_unpacker` on a non-empty value field, with the index arithmetic resolved -/
theorem commonUnpacker_cons (b0 : UInt8) (r : Bytes) :
    commonUnpacker (b0 :: r) =
      (enumOf actionCodes (b0.toNat / 16) >>= fun action =>
       CfdpLv.unpack r >>= fun lv1 =>
       decodeUtf8 lv1.value >>= fun first =>
       if action ∈ snpActions then
         CfdpLv.unpack (r.drop lv1.packetLen) >>= fun lv2 =>
         decodeUtf8 lv2.value >>= fun second =>
         pure ⟨action, first, b0.toNat % 16, 1 + lv1.packetLen + lv2.packetLen, some second⟩
       else pure ⟨action, first, b0.toNat % 16, 1 + lv1.packetLen, none⟩) := by
  have hb := toNat_lt b0
  have e : b0.toNat / 16 % 16 = b0.toNat / 16 := by omega
  unfold commonUnpacker
  simp only [List.length_cons, show ¬ (r.length + 1 < 1) by omega, ↓reduceIte,
    idx_ok (show 0 < (b0 :: r).length by simp), List.getElem_cons_zero, e, List.drop_succ_cons,
    List.drop_zero, Nat.add_comm 1 (CfdpLv.packetLen _), bind_ok]

theorem commonUnpacker_nil : commonUnpacker [] = .error .value := rfl

theorem commonUnpacker_pack (action status : Nat) (first second tail : Bytes)
    (ha : action ∈ actionCodes) (hs : status < 16) (h1 : first.length ≤ 255)
    (h2 : second.length ≤ 255) (u1 : utf8Valid first = true) (u2 : utf8Valid second = true) :
    commonUnpacker (fsValue action status first second ++ tail) =
      .ok ⟨action, first, status, (fsValue action status first second).length,
           if action ∈ snpActions then some second else none⟩ := by
  have ha8 : action ≤ 8 := (mem_actionCodes action).1 ha
  rw [fsValue_length]
  unfold fsValue
  rw [List.cons_append, commonUnpacker_cons, nib_u8 (by omega) hs, nib_div _ hs, nib_mod _ hs,
    show enumOf actionCodes action = .ok action from if_pos ha, bind_ok, List.cons_append,
    List.append_assoc, CfdpLv.unpack_pack_append first _ h1, bind_ok, decodeUtf8_ok u1, bind_ok]
  simp only [CfdpLv.packetLen]
  split
  · rw [List.drop_succ_cons, List.drop_left, List.cons_append,
      CfdpLv.unpack_pack_append second _ h2, bind_ok, decodeUtf8_ok u2, bind_ok]
    dsimp only
    exact congrArg (fun n => Except.ok (Common.mk action first status n (some second))) (by omega)
  · exact congrArg (fun n => Except.ok (Common.mk action first status n none)) (by omega)

theorem decodeUtf8_documented (b : Bytes) : Documented (decodeUtf8 b) :=
  Documented.ite (Documented.ok _) (Documented.err rfl)

theorem commonUnpacker_documented (raw : Bytes) : Documented (commonUnpacker raw) := by
  cases raw with
  | nil => exact Documented.err rfl
  | cons b0 r =>
    rw [commonUnpacker_cons]
    refine Documented.bind (enumOf_documented _ _) fun a _ => ?_
    refine Documented.bind (CfdpLv.unpack_documented _) fun l1 _ => ?_
    refine Documented.bind (decodeUtf8_documented _) fun f _ => ?_
    refine Documented.ite ?_ (Documented.ok _)
    refine Documented.bind (CfdpLv.unpack_documented _) fun l2 _ => ?_
    exact Documented.bind (decodeUtf8_documented _) fun g _ => Documented.ok _

/-- `_common_unpacker` stays inside the value field, and the index it returns is what
    `common_packet_len()` computes from the decoded names (minus the two TLV header octets) -/
theorem commonUnpacker_idx_spec {v : Bytes} {c : Common} (h : commonUnpacker v = .ok c) :
    c.idx ≤ v.length ∧ commonPacketLen c.action c.first (c.second.getD []) = 2 + c.idx := by
  cases v with
  | nil => cases h
  | cons b0 r =>
    rw [commonUnpacker_cons] at h
    obtain ⟨action, _, h⟩ := bind_ok_inv h
    obtain ⟨lv1, h1, h⟩ := bind_ok_inv h
    obtain ⟨first, hf, h⟩ := bind_ok_inv h
    obtain ⟨_, hle1, _⟩ := CfdpLv.unpack_spec r lv1 h1
    cases decodeUtf8_ok_inv hf
    split at h
    · obtain ⟨lv2, h2, h⟩ := bind_ok_inv h
      obtain ⟨second, hg, h⟩ := bind_ok_inv h
      obtain ⟨_, hle2, _⟩ := CfdpLv.unpack_spec _ lv2 h2
      cases decodeUtf8_ok_inv hg
      rw [← pure_ok_inv h]
      simp only [commonPacketLen, ‹action ∈ snpActions›, ↓reduceIte, Option.getD_some,
        CfdpLv.packetLen, List.length_cons, List.length_drop] at hle1 hle2 ⊢
      omega
    · rw [← pure_ok_inv h]
      simp only [commonPacketLen, ‹¬ action ∈ snpActions›, ↓reduceIte, CfdpLv.packetLen,
        List.length_cons] at hle1 ⊢
      omega

theorem FileStoreRequestTlv.fromTlv_eq (t : CfdpTlv) :
    FileStoreRequestTlv.fromTlv t =
      if t.ttype ≠ tFsRequest then .error .tlvType
      else commonUnpacker t.value >>= fun c =>
        if c.idx ≠ t.value.length then .error .value
        else .ok ⟨c.action, c.first, c.second.getD []⟩ := by
  unfold FileStoreRequestTlv.fromTlv
  by_cases h : t.ttype ≠ tFsRequest
  · simp [h, throw, throwThe, MonadExceptOf.throw, bind, Except.bind]
  · simp only [h, ↓reduceIte, bind, Except.bind, pure, Except.pure, throw, throwThe, MonadExceptOf.throw]
    cases commonUnpacker t.value with
    | error e => rfl
    | ok c =>
      by_cases hi : c.idx ≠ t.value.length
      · simp [hi]
      · cases hs : c.second <;> simp [hi, hs]

theorem FileStoreRequestTlv.fromTlv_foreign {t : CfdpTlv} (h : t.ttype ≠ tFsRequest) :
    FileStoreRequestTlv.fromTlv t = .error .tlvType := by
  rw [FileStoreRequestTlv.fromTlv_eq, if_pos h]

theorem FileStoreRequestTlv.unpack_bind (d : Bytes) :
    FileStoreRequestTlv.unpack d = CfdpTlv.unpack d >>= FileStoreRequestTlv.fromTlv := rfl

/-- `pack` of a request on every input: the only way to fail is an action code or a value field
    that does not fit, and that is a `ValueError` -/
theorem FileStoreRequestTlv.pack_closed (r : FileStoreRequestTlv) :
    r.pack =
      if r.action < 16 ∧ (fsValue r.action 0 r.first r.second).length ≤ 255 then
        .ok (u8 tFsRequest :: u8 (fsValue r.action 0 r.first r.second).length ::
          fsValue r.action 0 r.first r.second)
      else .error .value := by
  unfold FileStoreRequestTlv.pack FileStoreRequestTlv.buildTlv
  rw [commonPacker_closed _ _ _ _ (by omega), ite_err_bind, ite_err_bind, bind_ok, CfdpTlv.new_bind, ite_ite_and]
  exact ite_congr (propext ⟨fun h => ⟨h.1.1, h.2⟩, fun h => ⟨⟨h.1, fsValue_fits h.2⟩, h.2⟩⟩)
    (fun h => CfdpTlv.pack_eq _ (show tFsRequest < 256 by decide) h.2) fun _ => rfl

theorem FileStoreRequestTlv.pack_length (r : FileStoreRequestTlv) (b : Bytes) (h : r.pack = .ok b) :
    b.length = r.packetLen := by
  rw [FileStoreRequestTlv.pack_closed] at h
  split at h <;> cases h
  rw [FileStoreRequestTlv.packetLen, commonPacketLen_eq _ 0]; rfl

/-- `from_tlv` on a well-formed request value followed, inside the value field, by `tail`:
    accepted exactly when there is nothing after the names (any status nibble) -/
theorem FileStoreRequestTlv.fromTlv_pack_tail (action status : Nat) (first second tail : Bytes)
    (ha : action ∈ actionCodes) (hs : status < 16) (h1 : first.length ≤ 255)
    (h2 : second.length ≤ 255) (u1 : utf8Valid first = true) (u2 : utf8Valid second = true) :
    FileStoreRequestTlv.fromTlv ⟨tFsRequest, fsValue action status first second ++ tail⟩ =
      if tail = [] then .ok ⟨action, first, if action ∈ snpActions then second else []⟩
      else .error .value := by
  rw [FileStoreRequestTlv.fromTlv_eq]
  simp only [ne_eq, not_true_eq_false, ↓reduceIte,
    commonUnpacker_pack action status first second tail ha hs h1 h2 u1 u2, bind_ok]
  cases tail with
  | nil => by_cases h : action ∈ snpActions <;> simp [h]
  | cons a r => simp

theorem FileStoreRequestTlv.fromTlv_slack (action status : Nat) (first second tail : Bytes)
    (ha : action ∈ actionCodes) (hs : status < 16) (h1 : first.length ≤ 255)
    (h2 : second.length ≤ 255) (u1 : utf8Valid first = true) (u2 : utf8Valid second = true)
    (ht : tail ≠ []) :
    FileStoreRequestTlv.fromTlv ⟨tFsRequest, fsValue action status first second ++ tail⟩ =
      .error .value := by
  rw [FileStoreRequestTlv.fromTlv_pack_tail action status first second tail ha hs h1 h2 u1 u2, if_neg ht]

theorem FileStoreResponseTlv.fromTlv_eq (t : CfdpTlv) :
    FileStoreResponseTlv.fromTlv t =
      if t.ttype ≠ tFsResponse then .error .tlvType
      else commonUnpacker t.value >>= fun c =>
        enumOf statusCodesNat (c.action * 16 + c.status) >>= fun st =>
        CfdpLv.unpack (t.value.drop c.idx) >>= fun m =>
        if c.idx + m.packetLen ≠ t.value.length then .error .value
        else .ok ⟨c.action, (st : Int), c.first, c.second.getD [], m⟩ := by
  unfold FileStoreResponseTlv.fromTlv
  by_cases h : t.ttype ≠ tFsResponse
  · simp [h, throw, throwThe, MonadExceptOf.throw, bind, Except.bind]
  · simp only [h, ↓reduceIte, bind, Except.bind, pure, Except.pure, throw, throwThe, MonadExceptOf.throw]
    cases commonUnpacker t.value with
    | error e => rfl
    | ok c =>
      simp only []
      cases enumOf statusCodesNat (c.action * 16 + c.status) with
      | error e => rfl
      | ok st =>
        simp only []
        cases CfdpLv.unpack (t.value.drop c.idx) with
        | error e => rfl
        | ok m =>
          by_cases hi : c.idx + m.packetLen ≠ t.value.length
          · simp [hi]
          · cases c.second <;> simp [hi]

theorem FileStoreResponseTlv.fromTlv_foreign {t : CfdpTlv} (h : t.ttype ≠ tFsResponse) :
    FileStoreResponseTlv.fromTlv t = .error .tlvType := by
  rw [FileStoreResponseTlv.fromTlv_eq, if_pos h]

theorem FileStoreResponseTlv.unpack_bind (d : Bytes) :
    FileStoreResponseTlv.unpack d = CfdpTlv.unpack d >>= FileStoreResponseTlv.fromTlv := rfl

theorem statusToInt_lt (s : Int) : statusToInt s < 16 := by
  unfold statusToInt; omega

/-- value field of a response: common part, then the filestore-message LV -/
def fsRespValue (r : FileStoreResponseTlv) : Bytes :=
  fsValue r.action (statusToInt r.status) r.first r.second ++ (u8 r.msg.value.length :: r.msg.value)

theorem fsRespValue_length (r : FileStoreResponseTlv) :
    (fsRespValue r).length =
      (fsValue r.action (statusToInt r.status) r.first r.second).length + (r.msg.value.length + 1) := by
  rw [fsRespValue, List.length_append, List.length_cons]

theorem FileStoreResponseTlv.pack_closed (r : FileStoreResponseTlv) :
    r.pack =
      if r.action < 16 ∧ (fsRespValue r).length ≤ 255 then
        .ok (u8 tFsResponse :: u8 (fsRespValue r).length :: fsRespValue r)
      else .error .value := by
  have hl := fsRespValue_length r
  unfold FileStoreResponseTlv.pack FileStoreResponseTlv.buildTlv
  rw [commonPacker_closed _ _ _ _ (statusToInt_lt _), ite_err_bind, ite_err_bind, bind_ok, CfdpLv.pack_bind,
    ite_err_bind, CfdpTlv.new_bind, ite_ite_and, ite_ite_and]
  exact ite_congr (propext ⟨fun h => ⟨h.1.1.1, h.2⟩, fun h =>
      ⟨⟨⟨h.1, fsValue_fits (s := statusToInt r.status) (by have := h.2; omega)⟩, by have := h.2; omega⟩, h.2⟩⟩)
    (fun h => CfdpTlv.pack_eq _ (show tFsResponse < 256 by decide) h.2) fun _ => rfl

theorem FileStoreResponseTlv.pack_length (r : FileStoreResponseTlv) (b : Bytes) (h : r.pack = .ok b) :
    b.length = r.packetLen := by
  rw [FileStoreResponseTlv.pack_closed] at h
  split at h <;> cases h
  rw [FileStoreResponseTlv.packetLen, commonPacketLen_eq _ (statusToInt r.status), CfdpLv.packetLen,
    List.length_cons, List.length_cons, fsRespValue_length]
  omega

/-- `from_tlv` on a well-formed response value followed, inside the value field, by `tail`:
    accepted exactly when there is nothing after the filestore-message LV -/
theorem FileStoreResponseTlv.fromTlv_pack_tail (action status : Nat) (first second msg tail : Bytes)
    (ha : action ∈ actionCodes) (hs : status < 16) (hst : action * 16 + status ∈ statusCodesNat)
    (h1 : first.length ≤ 255) (h2 : second.length ≤ 255) (hm : msg.length ≤ 255)
    (u1 : utf8Valid first = true) (u2 : utf8Valid second = true) :
    FileStoreResponseTlv.fromTlv
        ⟨tFsResponse, fsValue action status first second ++ (u8 msg.length :: (msg ++ tail))⟩ =
      if tail = [] then
        .ok ⟨action, ((action * 16 + status : Nat) : Int), first,
             if action ∈ snpActions then second else [], ⟨msg⟩⟩
      else .error .value := by
  rw [FileStoreResponseTlv.fromTlv_eq]
  simp only [ne_eq, not_true_eq_false, ↓reduceIte,
    commonUnpacker_pack action status first second _ ha hs h1 h2 u1 u2, bind_ok]
  rw [show enumOf statusCodesNat (action * 16 + status) = .ok (action * 16 + status) from if_pos hst,
    bind_ok, List.drop_left, CfdpLv.unpack_pack_append msg tail hm, bind_ok]
  cases tail with
  | nil => by_cases h : action ∈ snpActions <;> simp [h, CfdpLv.packetLen]
  | cons a r => simp [CfdpLv.packetLen]

theorem FileStoreResponseTlv.fromTlv_slack (action status : Nat) (first second msg tail : Bytes)
    (ha : action ∈ actionCodes) (hs : status < 16) (hst : action * 16 + status ∈ statusCodesNat)
    (h1 : first.length ≤ 255) (h2 : second.length ≤ 255) (hm : msg.length ≤ 255)
    (u1 : utf8Valid first = true) (u2 : utf8Valid second = true) (ht : tail ≠ []) :
    FileStoreResponseTlv.fromTlv
        ⟨tFsResponse, fsValue action status first second ++ (u8 msg.length :: (msg ++ tail))⟩ =
      .error .value := by
  rw [FileStoreResponseTlv.fromTlv_pack_tail action status first second msg tail ha hs hst h1 h2 hm u1 u2,
    if_neg ht]

theorem EntityIdTlv.fromTlv_documented (t : CfdpTlv) : Documented (EntityIdTlv.fromTlv t) :=
  Documented.ite (Documented.err rfl) (Documented.ok _)
theorem FlowLabelTlv.fromTlv_documented (t : CfdpTlv) : Documented (FlowLabelTlv.fromTlv t) :=
  Documented.ite (Documented.err rfl) (Documented.ok _)
theorem MessageToUserTlv.fromTlv_documented (t : CfdpTlv) : Documented (MessageToUserTlv.fromTlv t) :=
  Documented.ite (Documented.err rfl) (Documented.ok _)
theorem FaultHandlerOverrideTlv.fromTlv_documented (t : CfdpTlv) :
    Documented (FaultHandlerOverrideTlv.fromTlv t) := by
  rw [FaultHandlerOverrideTlv.fromTlv_eq]
  refine Documented.ite (Documented.err rfl) ?_
  cases t.value with
  | nil => exact Documented.err rfl
  | cons a r => exact Documented.ok _
theorem FileStoreRequestTlv.fromTlv_documented (t : CfdpTlv) :
    Documented (FileStoreRequestTlv.fromTlv t) := by
  rw [FileStoreRequestTlv.fromTlv_eq]
  exact Documented.ite (Documented.err rfl)
    (Documented.bind (commonUnpacker_documented _) fun _ _ =>
      Documented.ite (Documented.err rfl) (Documented.ok _))
theorem FileStoreResponseTlv.fromTlv_documented (t : CfdpTlv) :
    Documented (FileStoreResponseTlv.fromTlv t) := by
  rw [FileStoreResponseTlv.fromTlv_eq]
  refine Documented.ite (Documented.err rfl) ?_
  refine Documented.bind (commonUnpacker_documented _) fun c _ => ?_
  refine Documented.bind (enumOf_documented _ _) fun st _ => ?_
  exact Documented.bind (CfdpLv.unpack_documented _) fun m _ =>
    Documented.ite (Documented.err rfl) (Documented.ok _)

theorem EntityIdTlv.unpack_documented (d : Bytes) : Documented (EntityIdTlv.unpack d) :=
  unpackBind_documented EntityIdTlv.fromTlv_documented d
theorem FlowLabelTlv.unpack_documented (d : Bytes) : Documented (FlowLabelTlv.unpack d) := by
  rw [FlowLabelTlv.unpack_bind]; exact unpackBind_documented FlowLabelTlv.fromTlv_documented d
theorem MessageToUserTlv.unpack_documented (d : Bytes) : Documented (MessageToUserTlv.unpack d) :=
  unpackBind_documented MessageToUserTlv.fromTlv_documented d
theorem FaultHandlerOverrideTlv.unpack_documented (d : Bytes) :
    Documented (FaultHandlerOverrideTlv.unpack d) :=
  unpackBind_documented FaultHandlerOverrideTlv.fromTlv_documented d
theorem FileStoreRequestTlv.unpack_documented (d : Bytes) : Documented (FileStoreRequestTlv.unpack d) :=
  unpackBind_documented FileStoreRequestTlv.fromTlv_documented d
theorem FileStoreResponseTlv.unpack_documented (d : Bytes) : Documented (FileStoreResponseTlv.unpack d) :=
  unpackBind_documented FileStoreResponseTlv.fromTlv_documented d

theorem FileStoreRequestTlv.fromTlv_len_exact {t : CfdpTlv} {x : FileStoreRequestTlv}
    (h : FileStoreRequestTlv.fromTlv t = .ok x) : x.packetLen = t.packetLen := by
  rw [FileStoreRequestTlv.fromTlv_eq] at h
  split at h
  · cases h
  · obtain ⟨c, hc, h⟩ := bind_ok_inv h
    obtain ⟨_, hl⟩ := commonUnpacker_idx_spec hc
    split at h
    · cases h
    · rw [← Except.ok.inj h, FileStoreRequestTlv.packetLen, hl, CfdpTlv.packetLen]
      omega

theorem FileStoreResponseTlv.fromTlv_len_exact {t : CfdpTlv} {x : FileStoreResponseTlv}
    (h : FileStoreResponseTlv.fromTlv t = .ok x) : x.packetLen = t.packetLen := by
  rw [FileStoreResponseTlv.fromTlv_eq] at h
  split at h
  · cases h
  · obtain ⟨c, hc, h⟩ := bind_ok_inv h
    obtain ⟨st, _, h⟩ := bind_ok_inv h
    obtain ⟨m, _, h⟩ := bind_ok_inv h
    obtain ⟨_, hl⟩ := commonUnpacker_idx_spec hc
    split at h
    · cases h
    · rw [← Except.ok.inj h]
      simp only [FileStoreResponseTlv.packetLen, hl, CfdpTlv.packetLen]
      omega

theorem EntityIdTlv.unpack_append (d rest : Bytes) (x : EntityIdTlv) (h : EntityIdTlv.unpack d = .ok x) :
    EntityIdTlv.unpack (d ++ rest) = .ok x :=
  unpackBind_append _ d rest x h
theorem FlowLabelTlv.unpack_append (d rest : Bytes) (x : FlowLabelTlv) (h : FlowLabelTlv.unpack d = .ok x) :
    FlowLabelTlv.unpack (d ++ rest) = .ok x := by
  rw [FlowLabelTlv.unpack_bind] at h ⊢; exact unpackBind_append _ d rest x h
theorem MessageToUserTlv.unpack_append (d rest : Bytes) (x : MessageToUserTlv)
    (h : MessageToUserTlv.unpack d = .ok x) : MessageToUserTlv.unpack (d ++ rest) = .ok x :=
  unpackBind_append _ d rest x h
theorem FaultHandlerOverrideTlv.unpack_append (d rest : Bytes) (x : FaultHandlerOverrideTlv)
    (h : FaultHandlerOverrideTlv.unpack d = .ok x) : FaultHandlerOverrideTlv.unpack (d ++ rest) = .ok x :=
  unpackBind_append _ d rest x h
theorem FileStoreRequestTlv.unpack_append (d rest : Bytes) (x : FileStoreRequestTlv)
    (h : FileStoreRequestTlv.unpack d = .ok x) : FileStoreRequestTlv.unpack (d ++ rest) = .ok x :=
  unpackBind_append _ d rest x h
theorem FileStoreResponseTlv.unpack_append (d rest : Bytes) (x : FileStoreResponseTlv)
    (h : FileStoreResponseTlv.unpack d = .ok x) : FileStoreResponseTlv.unpack (d ++ rest) = .ok x :=
  unpackBind_append _ d rest x h

end SpVerif.Tlv
