import SpVerif.Model.MsgToUser
import SpVerif.Proofs.Lv
import SpVerif.Proofs.Tlv
import SpVerif.Proofs.ByteField
/-!
# Reserved CFDP messages (`Model/MsgToUser.lean`)

Every reserved message that a builder or `to_reserved_msg_tlv` produces has the value `shape t v`:
`"cfdp"`, the type octet `t`, the parameters `v`; `rsv ty t v` is that message. The getters are given
in closed form on `rsv ty t v`, the builders in closed form on every input (`DirectoryListingParameters` and
`ProxyPutResponse`: on every input whose fields stay inside their bits).
-/
namespace SpVerif.MsgToUser
open SpVerif SpVerif.Lv SpVerif.Tlv SpVerif.ByteField

theorem drop_append_add (p w : Bytes) (k : Nat) : (p ++ w).drop (p.length + k) = w.drop k := by
  rw [← List.drop_drop, List.drop_left]

theorem slice_append_mid (p w : Bytes) (k n : Nat) :
    slice (p ++ w) (p.length + k) (p.length + k + n) = (w.drop k).take n := by
  unfold slice
  rw [Nat.add_assoc, List.take_length_add_append, drop_append_add, List.drop_take]
  simp

def shape (t : UInt8) (v : Bytes) : Bytes := cfdpMarker ++ t :: v

theorem shape_length (t : UInt8) (v : Bytes) : (shape t v).length = 5 + v.length := by
  simp [shape, cfdpMarker]; omega

theorem shape_drop (t : UInt8) (v : Bytes) (k : Nat) : (shape t v).drop (5 + k) = v.drop k := by
  have : shape t v = (cfdpMarker ++ [t]) ++ v := by simp [shape]
  rw [this]
  exact drop_append_add (cfdpMarker ++ [t]) v k

theorem shape_drop5 (t : UInt8) (v : Bytes) : (shape t v).drop 5 = v := by
  simpa using shape_drop t v 0

theorem shape_idx4 (t : UInt8) (v : Bytes) : idx (shape t v) 4 = .ok t.toNat := by
  simp [shape, cfdpMarker, idx]

theorem shape_idx5 (t b : UInt8) (w : Bytes) : idx (shape t (b :: w)) 5 = .ok b.toNat := by
  simp [shape, cfdpMarker, idx]

theorem shape_slice6 (t b : UInt8) (w : Bytes) (k n : Nat) :
    slice (shape t (b :: w)) (6 + k) (6 + k + n) = (w.drop k).take n := by
  have : shape t (b :: w) = (cfdpMarker ++ [t, b]) ++ w := by simp [shape]
  rw [this]
  exact slice_append_mid (cfdpMarker ++ [t, b]) w k n

/-- a reserved message whose value is `"cfdp"`, the type octet `t`, the parameters `v` -/
def rsv (ty : Nat) (t : UInt8) (v : Bytes) : ReservedCfdpMessage := ⟨⟨ty, shape t v⟩⟩

theorem msgType_rsv (ty : Nat) (t : UInt8) (v : Bytes) : (rsv ty t v).msgType = .ok t.toNat := by
  simp [rsv, ReservedCfdpMessage.msgType, shape_idx4]

/-- the type test shared by the getters of the proxy and directory kinds: a message of another
    type is answered with `None` -/
theorem rsv_dispatch {β : Type} {L : List Nat} {K : Nat} (hK : K ∈ L) (ty : Nat) (t : UInt8) (v : Bytes)
    (k : Py (Option β)) :
    ((rsv ty t v).msgType >>= fun n => if n ∉ L ∨ n ≠ K then pure none else k) =
      if t.toNat ≠ K then .ok none else k := by
  rw [msgType_rsv, bind_ok]
  by_cases h : t.toNat = K
  · rw [if_neg (fun x => x.elim (fun y => y (h ▸ hK)) (fun y => y h)), if_neg (fun x => x h)]
  · rw [if_pos (Or.inr h), if_pos h]; rfl

theorem rsv_param {β : Type} (ty : Nat) (t : UInt8) (v : Bytes) (k : Nat → Py β) :
    (do if (rsv ty t v).tlv.value.length < 6 then throw Err.value
        let b ← idx (rsv ty t v).tlv.value 5
        k b : Py β) =
      match v with
      | [] => .error .value
      | b :: _ => k b.toNat := by
  cases v with
  | nil => rfl
  | cons b w =>
    have hl : ¬ ((rsv ty t (b :: w)).tlv.value.length < 6) := by
      show ¬ ((shape t (b :: w)).length < 6); rw [shape_length, List.length_cons]; omega
    rw [if_neg hl]
    show (idx (shape t (b :: w)) 5 >>= k) = _
    rw [shape_idx5]; rfl

theorem getOrig_rsv (ty : Nat) (t : UInt8) (v : Bytes) :
    (rsv ty t v).getOriginatingTransactionId =
      if t.toNat ≠ origIdType then .ok none
      else match v with
        | [] => .error .value
        | b :: w =>
          if w.length + 6 < (b.toNat / 16 % 8 + 1) + (b.toNat % 8 + 1) + 1 then .error .value
          else fromBytes (w.take (b.toNat / 16 % 8 + 1)) >>= fun s =>
            fromBytes ((w.drop (b.toNat / 16 % 8 + 1)).take (b.toNat % 8 + 1)) >>= fun q =>
              .ok (some ⟨s, q⟩) := by
  unfold ReservedCfdpMessage.getOriginatingTransactionId
  rw [msgType_rsv, bind_ok]
  simp only []
  rw [rsv_param]
  split
  · rfl
  · cases v with
    | nil => rfl
    | cons b w =>
      have e1 := shape_slice6 t b w 0
      rw [Nat.add_zero, List.drop_zero] at e1
      simp only [rsv, shape_length, List.length_cons, e1, shape_slice6]
      have : (5 + (w.length + 1) < b.toNat / 16 % 8 + 1 + (b.toNat % 8 + 1) + 1) ↔
          (w.length + 6 < b.toNat / 16 % 8 + 1 + (b.toNat % 8 + 1) + 1) := by omega
      simp only [this]
      rfl

theorem getPutReq_rsv (ty : Nat) (t : UInt8) (v : Bytes) :
    (rsv ty t v).getProxyPutRequestParams =
      if t.toNat ≠ pPutRequest then .ok none
      else CfdpLv.unpack v >>= fun a =>
        if a.packetLen ≥ v.length then .ok none
        else CfdpLv.unpack (v.drop a.packetLen) >>= fun b =>
          if a.packetLen + b.packetLen ≥ v.length then .ok none
          else CfdpLv.unpack (v.drop (a.packetLen + b.packetLen)) >>= fun c =>
            fromBytes a.value >>= fun f => .ok (some ⟨f, b, c⟩) := by
  unfold ReservedCfdpMessage.getProxyPutRequestParams
  rw [rsv_dispatch (by decide)]
  split
  · rfl
  · simp only [rsv, shape_drop5, shape_length]
    cases CfdpLv.unpack v with
    | error e => rfl
    | ok a =>
      simp only [bind_ok, shape_drop, Nat.add_assoc,
        show ∀ n, (5 + n ≥ 5 + v.length) ↔ (n ≥ v.length) from fun n => by omega]
      rfl

theorem getPutResp_rsv (ty : Nat) (t : UInt8) (v : Bytes) :
    (rsv ty t v).getProxyPutResponseParams =
      if t.toNat ≠ pPutResponse then .ok none
      else match v with
        | [] => .error .value
        | b :: _ =>
          if b.toNat / 16 ∈ conditionCodes then .ok (some ⟨(b.toNat / 16 : Nat), b.toNat / 4 % 2, b.toNat % 4⟩)
          else .error .value := by
  unfold ReservedCfdpMessage.getProxyPutResponseParams
  rw [rsv_dispatch (by decide), rsv_param]
  split
  · rfl
  · cases v with
    | nil => rfl
    | cons b w =>
      have hb := toNat_lt b
      simp only [show b.toNat / 16 % 16 = b.toNat / 16 by omega, enumOf]
      split <;> rfl

theorem getClosure_rsv (ty : Nat) (t : UInt8) (v : Bytes) :
    (rsv ty t v).getProxyClosureRequested =
      if t.toNat ≠ pClosureRequest then .ok none
      else match v with
        | [] => .error .value
        | b :: _ => .ok (some (b.toNat % 2)) := by
  unfold ReservedCfdpMessage.getProxyClosureRequested
  rw [rsv_dispatch (by decide), rsv_param]; rfl

theorem getTxMode_rsv (ty : Nat) (t : UInt8) (v : Bytes) :
    (rsv ty t v).getProxyTransmissionMode =
      if t.toNat ≠ pTransmissionMode then .ok none
      else match v with
        | [] => .error .value
        | b :: _ => .ok (some (b.toNat % 2)) := by
  unfold ReservedCfdpMessage.getProxyTransmissionMode
  rw [rsv_dispatch (by decide), rsv_param]; rfl

theorem getDirReq_rsv (ty : Nat) (t : UInt8) (v : Bytes) :
    (rsv ty t v).getDirListingRequestParams =
      if t.toNat ≠ dListingRequest then .ok none
      else CfdpLv.unpack v >>= fun a => CfdpLv.unpack (v.drop a.packetLen) >>= fun b => .ok (some ⟨a, b⟩) := by
  unfold ReservedCfdpMessage.getDirListingRequestParams
  rw [rsv_dispatch (by decide)]
  simp only [rsv, shape_drop5, shape_drop]
  rfl

theorem getDirResp_rsv (ty : Nat) (t : UInt8) (v : Bytes) :
    (rsv ty t v).getDirListingResponseParams =
      if t.toNat ≠ dListingResponse then .ok none
      else match v with
        | [] => .error .value
        | f :: w => CfdpLv.unpack w >>= fun a => CfdpLv.unpack (w.drop a.packetLen) >>= fun b =>
            .ok (some (f.toNat / 128 == 1, ⟨a, b⟩)) := by
  unfold ReservedCfdpMessage.getDirListingResponseParams
  rw [rsv_dispatch (by decide)]
  simp only []
  rw [rsv_param]
  split
  · rfl
  · cases v with
    | nil => rfl
    | cons f w =>
      have hf := toNat_lt f
      have d6 : ∀ k, (shape t (f :: w)).drop (6 + k) = w.drop k := fun k => by
        rw [show 6 + k = 5 + (k + 1) by omega, shape_drop, List.drop_succ_cons]
      simp only [rsv, d6 0, d6, List.drop_zero, show f.toNat / 128 % 2 = f.toNat / 128 by omega]
      rfl

theorem getDirOpts_rsv (ty : Nat) (t : UInt8) (v : Bytes) :
    (rsv ty t v).getDirListingOptions =
      if t.toNat ≠ dCustomListingParameters then .ok none
      else match v with
        | [] => .error .value
        | b :: _ => .ok (some ⟨b.toNat / 2 % 2, b.toNat % 2⟩) := by
  unfold ReservedCfdpMessage.getDirListingOptions
  rw [rsv_dispatch (by decide)]
  simp only []
  rw [rsv_param]; rfl

theorem ReservedCfdpMessage.new_eq (t : Int) (v : Bytes) :
    ReservedCfdpMessage.new t v =
      if 0 ≤ t ∧ t ≤ 255 ∧ v.length ≤ 250 then .ok (rsv tMsgToUser (u8 t.toNat) v) else .error .value := by
  unfold ReservedCfdpMessage.new
  by_cases h : t < 0 ∨ t > 255
  · rw [guard_pos h, if_neg (by omega)]
  · have hl : (cfdpMarker ++ u8 t.toNat :: v).length = 5 + v.length := by simp [cfdpMarker]; omega
    rw [if_neg h, show byteOf t = .ok (u8 t.toNat) from if_pos (by omega), bind_ok]
    by_cases hv : v.length ≤ 250
    · rw [CfdpTlv.new_ok (by omega), if_pos (by omega)]; rfl
    · rw [CfdpTlv.new_err (by omega), if_neg (by omega)]; rfl

theorem ReservedCfdpMessage.new_nat (t : Nat) (v : Bytes) :
    ReservedCfdpMessage.new (t : Int) v =
      if t < 256 ∧ v.length ≤ 250 then .ok (rsv tMsgToUser (u8 t) v) else .error .value := by
  rw [ReservedCfdpMessage.new_eq, Int.toNat_natCast]
  by_cases h : t < 256 ∧ v.length ≤ 250
  · rw [if_pos h, if_pos (by omega)]
  · rw [if_neg h, if_neg (by omega)]

theorem ReservedCfdpMessage.new_documented (t : Int) (v : Bytes) : Documented (ReservedCfdpMessage.new t v) := by
  rw [ReservedCfdpMessage.new_eq]; split
  · exact Documented.ok _
  · exact Documented.err rfl

theorem isReserved_iff (m : MessageToUserTlv) :
    m.isReservedCfdpMessage = true ↔ 5 ≤ m.tlv.value.length ∧ m.tlv.value.take 4 = cfdpMarker := by
  unfold MessageToUserTlv.isReservedCfdpMessage
  simp [slice, cfdpMarker]

theorem reserved_shape (m : MessageToUserTlv) (h : m.isReservedCfdpMessage = true) :
    ∃ t v, m = ⟨⟨m.tlv.ttype, shape t v⟩⟩ := by
  obtain ⟨h5, h4⟩ := (isReserved_iff m).1 h
  obtain ⟨⟨ty, b⟩⟩ := m
  have e : b = b.take 4 ++ b.drop 4 := (List.take_append_drop 4 _).symm
  cases hd : b.drop 4 with
  | nil =>
    have := congrArg List.length hd
    rw [List.length_drop, List.length_nil] at this
    exact absurd h5 (by show ¬ 5 ≤ b.length; omega)
  | cons t v => exact ⟨t, v, by rw [e, h4, hd]; rfl⟩

theorem isReserved_shape (ty : Nat) (t : UInt8) (v : Bytes) :
    (MessageToUserTlv.mk ⟨ty, shape t v⟩).isReservedCfdpMessage = true := by
  rw [isReserved_iff]
  simp [shape, cfdpMarker]

/-- conversion of a reserved value: a new message-to-user TLV with the same value
    (refused only when the value cannot be a TLV value at all) -/
theorem toReserved_shape (ty : Nat) (t : UInt8) (v : Bytes) :
    toReservedMsgTlv ⟨⟨ty, shape t v⟩⟩ =
      if v.length ≤ 250 then .ok (some (rsv tMsgToUser t v)) else .error .value := by
  unfold toReservedMsgTlv
  rw [isReserved_shape, if_neg (by decide)]
  show (idx (shape t v) 4 >>= fun n => ReservedCfdpMessage.new (n : Int) ((shape t v).drop 5) >>= fun r => pure (some r)) = _
  rw [shape_idx4, bind_ok, shape_drop5, ReservedCfdpMessage.new_nat, u8_toNat_self]
  simp only [toNat_lt t, true_and]
  split <;> rfl

theorem toReserved_not (m : MessageToUserTlv) (h : m.isReservedCfdpMessage = false) :
    toReservedMsgTlv m = .ok none := by
  unfold toReservedMsgTlv
  rw [h, if_pos (by decide)]; rfl

/-- the conversion fails only with `ValueError`, and only for a value of more than 255 octets
    (which no constructor or decoder produces) -/
theorem toReserved_documented (m : MessageToUserTlv) : Documented (toReservedMsgTlv m) := by
  cases h : m.isReservedCfdpMessage with
  | false => rw [toReserved_not m h]; exact Documented.ok _
  | true =>
    obtain ⟨t, v, e⟩ := reserved_shape m h
    rw [e, toReserved_shape]
    exact Documented.ite (Documented.ok _) (Documented.err rfl)

theorem toReserved_some (m : MessageToUserTlv) (r : ReservedCfdpMessage)
    (h : toReservedMsgTlv m = .ok (some r)) :
    ∃ t v, m.tlv.value = shape t v ∧ r = rsv tMsgToUser t v := by
  cases hr : m.isReservedCfdpMessage with
  | false => rw [toReserved_not m hr] at h; cases h
  | true =>
    obtain ⟨t, v, e⟩ := reserved_shape m hr
    rw [e, toReserved_shape] at h
    split at h <;> cases h
    exact ⟨t, v, congrArg (·.tlv.value) e, rfl⟩

def lvOf (v : Bytes) : Bytes := u8 v.length :: v
@[simp] theorem lvOf_length (v : Bytes) : (lvOf v).length = v.length + 1 := by simp [lvOf]
theorem lv_unpack (a rest : Bytes) (h : a.length ≤ 255) : CfdpLv.unpack (lvOf a ++ rest) = .ok ⟨a⟩ :=
  CfdpLv.unpack_pack_append a rest h

theorem lv_unpack_nil (a : Bytes) (h : a.length ≤ 255) : CfdpLv.unpack (lvOf a) = .ok ⟨a⟩ :=
  List.append_nil (lvOf a) ▸ lv_unpack a [] h

theorem lv_drop (a rest : Bytes) : (lvOf a ++ rest).drop (a.length + 1) = rest := by
  rw [show a.length + 1 = (lvOf a).length by simp]
  exact List.drop_left

theorem shl_or3 (cc dc fs : Nat) (hdc : dc < 4) (hfs : fs < 4) :
    ((cc <<< 4) ||| (dc <<< 2)) ||| fs = cc * 16 + dc * 4 + fs := by
  have e1 : dc <<< 2 = dc * 4 := by rw [Nat.shiftLeft_eq]
  rw [e1, shl_or cc 4 (dc * 4) (by omega)]
  have e2 : cc * 2 ^ 4 + dc * 4 = (cc * 4 + dc) <<< 2 := by rw [Nat.shiftLeft_eq]; omega
  rw [e2, shl_or _ 2 fs (by omega)]; omega

def putReqValue (p : ProxyPutRequestParams) : Bytes :=
  lvOf p.destEntityId.bytes ++ (lvOf p.sourceFileName.value ++ lvOf p.destFileName.value)

theorem putReqValue_length (p : ProxyPutRequestParams) :
    (putReqValue p).length =
      3 + p.destEntityId.bytes.length + p.sourceFileName.value.length + p.destFileName.value.length := by
  simp [putReqValue]; omega

theorem ProxyPutRequest.new_eq (p : ProxyPutRequestParams) :
    ProxyPutRequest.new p =
      if p.destEntityId.bytes.length ≤ 255 ∧ p.sourceFileName.value.length ≤ 255 ∧
          p.destFileName.value.length ≤ 255 ∧ (putReqValue p).length ≤ 250
      then .ok (rsv tMsgToUser (u8 pPutRequest) (putReqValue p)) else .error .value := by
  unfold ProxyPutRequest.new
  by_cases h1 : p.destEntityId.bytes.length ≤ 255
  · rw [Field.asBytes, CfdpLv.new_ok h1, bind_ok]
    simp only [CfdpLv.pack_bind, ReservedCfdpMessage.new_nat, ite_ite_and, show pPutRequest < 256 by decide, true_and,
      List.append_assoc]
    rfl
  · rw [Field.asBytes, CfdpLv.new_err (by omega), if_neg (fun x => h1 x.1)]; rfl

/-- a builder whose only field is one octet -/
theorem octet_new (n K : Nat) (hK : K < 256) :
    (byteOfN n >>= fun b => ReservedCfdpMessage.new (K : Int) [b]) =
      if n < 256 then .ok (rsv tMsgToUser (u8 K) [u8 n]) else .error .value := by
  unfold byteOfN
  split
  · rw [bind_ok, ReservedCfdpMessage.new_nat, if_pos ⟨hK, Nat.le_add_left 1 249⟩]
  · rfl

theorem ProxyCancelRequest.new_eq : ProxyCancelRequest.new = .ok (rsv tMsgToUser (u8 pPutCancel) []) := by
  unfold ProxyCancelRequest.new
  rw [ReservedCfdpMessage.new_nat]; rfl

theorem ProxyClosureRequest.new_eq (c : Nat) :
    ProxyClosureRequest.new c =
      if c < 256 then .ok (rsv tMsgToUser (u8 pClosureRequest) [u8 c]) else .error .value :=
  octet_new c pClosureRequest (by decide)

theorem ProxyTransmissionMode.new_eq (c : Nat) :
    ProxyTransmissionMode.new c =
      if c < 256 then .ok (rsv tMsgToUser (u8 pTransmissionMode) [u8 c]) else .error .value :=
  octet_new c pTransmissionMode (by decide)

def origIdValue (tid : TransactionId) : Bytes :=
  u8 ((tid.sourceId.width - 1) * 16 + (tid.seqNum.width - 1)) :: (tid.sourceId.bytes ++ tid.seqNum.bytes)

theorem W_mem (w : Nat) : w ∈ [1, 2, 4, 8] ↔ W w := by
  simp [W]

theorem OriginatingTransactionId.new_eq (tid : TransactionId) :
    OriginatingTransactionId.new tid =
      if W tid.sourceId.width ∧ W tid.seqNum.width ∧ (origIdValue tid).length ≤ 250
      then .ok (rsv tMsgToUser (u8 origIdType) (origIdValue tid)) else .error .value := by
  unfold OriginatingTransactionId.new
  by_cases h : W tid.sourceId.width ∧ W tid.seqNum.width
  · obtain ⟨h1, h2⟩ := h
    have hb : (tid.sourceId.width - 1) * 16 + (tid.seqNum.width - 1) < 256 := by unfold W at h1 h2; omega
    rw [if_neg (fun x => x.elim (· ((W_mem _).2 h1)) (· ((W_mem _).2 h2))), shl4_or _ _ (by unfold W at h2; omega),
      byteOfN_ok hb, bind_ok, ReservedCfdpMessage.new_nat]
    simp only [h1, h2, true_and, show origIdType < 256 by decide]
    rfl
  · rw [guard_pos, if_neg (fun x => h ⟨x.1, x.2.1⟩)]
    rw [W_mem, W_mem]
    exact Classical.not_and_iff_not_or_not.1 h

def dirValue (p : DirectoryParams) : Bytes := lvOf p.dirPath.value ++ lvOf p.dirFileName.value

theorem dirValue_length (p : DirectoryParams) :
    (dirValue p).length = 2 + p.dirPath.value.length + p.dirFileName.value.length := by
  simp [dirValue]; omega

theorem DirectoryListingRequest.new_eq (p : DirectoryParams) :
    DirectoryListingRequest.new p =
      if p.dirPath.value.length ≤ 255 ∧ p.dirFileName.value.length ≤ 255 ∧ (dirValue p).length ≤ 250
      then .ok (rsv tMsgToUser (u8 dListingRequest) (dirValue p)) else .error .value := by
  unfold DirectoryListingRequest.new
  simp only [CfdpLv.pack_bind, ReservedCfdpMessage.new_nat, ite_ite_and, show dListingRequest < 256 by decide, true_and]
  rfl

def dirRespValue (s : Bool) (p : DirectoryParams) : Bytes := u8 (if s then 128 else 0) :: dirValue p

theorem DirectoryListingResponse.new_eq (s : Bool) (p : DirectoryParams) :
    DirectoryListingResponse.new s p =
      if p.dirPath.value.length ≤ 255 ∧ p.dirFileName.value.length ≤ 255 ∧ (dirRespValue s p).length ≤ 250
      then .ok (rsv tMsgToUser (u8 dListingResponse) (dirRespValue s p)) else .error .value := by
  unfold DirectoryListingResponse.new
  rw [show byteOfN ((if s then 1 else 0) <<< 7) = .ok (u8 (if s then 128 else 0)) by cases s <;> rfl, bind_ok]
  simp only [CfdpLv.pack_bind, ReservedCfdpMessage.new_nat, ite_ite_and, show dListingResponse < 256 by decide, true_and]
  rfl

theorem DirectoryListingParameters.new_eq (o : DirListingOptions) (ha : o.all < 2) :
    DirectoryListingParameters.new o =
      if o.recursive * 2 + o.all < 256
      then .ok (rsv tMsgToUser (u8 dCustomListingParameters) [u8 (o.recursive * 2 + o.all)])
      else .error .value := by
  unfold DirectoryListingParameters.new
  rw [shl_or _ 1 _ (by omega), Nat.pow_one]
  exact octet_new _ dCustomListingParameters (by decide)

theorem ProxyPutResponse.new_neg (p : ProxyPutResponseParams) (h : p.conditionCode < 0) :
    ProxyPutResponse.new p = .error .value := by
  unfold ProxyPutResponse.new
  exact guard_pos h

theorem ProxyPutResponse.new_nat (cc dc fs : Nat) (hdc : dc < 4) (hfs : fs < 4) :
    ProxyPutResponse.new ⟨(cc : Int), dc, fs⟩ =
      if cc * 16 + dc * 4 + fs < 256
      then .ok (rsv tMsgToUser (u8 pPutResponse) [u8 (cc * 16 + dc * 4 + fs)]) else .error .value := by
  unfold ProxyPutResponse.new
  simp only [show ¬ ((cc : Int) < 0) by omega, ↓reduceIte, Int.toNat_natCast, shl_or3 cc dc fs hdc hfs]
  exact octet_new _ pPutResponse (by decide)

theorem orig_nibbles (s q : Nat) (hs : W s) (hq : W q) :
    ((s - 1) * 16 + (q - 1)) % 256 / 16 % 8 + 1 = s ∧ ((s - 1) * 16 + (q - 1)) % 256 % 8 + 1 = q := by
  rcases hs with rfl | rfl | rfl | rfl <;> rcases hq with rfl | rfl | rfl | rfl <;> exact ⟨rfl, rfl⟩

theorem dir_two (p : DirectoryParams) (h1 : p.dirPath.value.length ≤ 255) (h2 : p.dirFileName.value.length ≤ 255)
    {γ : Type} (k : CfdpLv → CfdpLv → Py γ) :
    (CfdpLv.unpack (dirValue p) >>= fun a => CfdpLv.unpack ((dirValue p).drop a.packetLen) >>= fun b => k a b) =
      k p.dirPath p.dirFileName := by
  rw [dirValue, lv_unpack _ _ h1, bind_ok, CfdpLv.packetLen, lv_drop, lv_unpack_nil _ h2, bind_ok]

theorem dir_lvs (p : DirectoryParams) (h1 : p.dirPath.value.length ≤ 255) (h2 : p.dirFileName.value.length ≤ 255) :
    (CfdpLv.unpack (dirValue p) >>= fun a => CfdpLv.unpack ((dirValue p).drop a.packetLen) >>= fun b =>
      (Except.ok (a, b) : Py (CfdpLv × CfdpLv))) = .ok (p.dirPath, p.dirFileName) :=
  dir_two p h1 h2 _

theorem toGeneric_rsv (t : UInt8) (v : Bytes) :
    (rsv tMsgToUser t v).toGenericMsgToUserTlv = .ok ⟨⟨tMsgToUser, shape t v⟩⟩ := by
  simp [ReservedCfdpMessage.toGenericMsgToUserTlv, MessageToUserTlv.fromTlv_eq, rsv]

end SpVerif.MsgToUser
