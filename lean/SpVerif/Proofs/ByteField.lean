import SpVerif.Model.ByteField
/-!
# Equational characterisations of the byte-field model (`Model/ByteField.lean`)

Reusable by every property whose models contain entity IDs / sequence numbers (C05, C06, C09, C10,
C11, C12): each entry point gets a lemma `f args = if <guard> then .ok ⟨…⟩ else .error .value`.
-/
namespace SpVerif.ByteField
open SpVerif

/-- widths that carry a value: 1, 2, 4, 8 -/
def W (w : Nat) : Prop := w = 1 ∨ w = 2 ∨ w = 4 ∨ w = 8
/-- supported widths: 0, 1, 2, 4, 8 -/
def W0 (w : Nat) : Prop := w = 0 ∨ w = 1 ∨ w = 2 ∨ w = 4 ∨ w = 8

instance (w : Nat) : Decidable (W w) := by unfold W; infer_instance
instance (w : Nat) : Decidable (W0 w) := by unfold W0; infer_instance

theorem W.w0 {w : Nat} (h : W w) : W0 w := Or.inr h
theorem W.pos {w : Nat} (h : W w) : 0 < w := by unfold W at h; omega
theorem W0.cases {w : Nat} (h : W0 w) : w = 0 ∨ W w := h

/-- the object invariant: supported width, value in range, cached octets = big-endian encoding -/
def Inv (f : Field) : Prop :=
  W0 f.width ∧ f.value < 256 ^ f.width ∧ f.bytes = beBytes f.width f.value

instance (f : Field) : Decidable (Inv f) := by unfold Inv; infer_instance

theorem okWidth_natCast {w : Nat} : okWidth (w : Int) ↔ W0 w := by
  unfold okWidth W0; norm_cast

theorem okWidth_toNat {n : Int} (h : okWidth n) : ((n.toNat : Nat) : Int) = n ∧ W0 n.toNat := by
  rcases h with rfl | rfl | rfl | rfl | rfl <;> exact ⟨rfl, by decide⟩

theorem okWidth_cases {n : Int} (h : okWidth n) : n = 0 ∨ ∃ w : Nat, W w ∧ n = (w : Int) := by
  rcases h with h | rfl | rfl | rfl | rfl
  · exact Or.inl h
  · exact Or.inr ⟨1, by decide, rfl⟩
  · exact Or.inr ⟨2, by decide, rfl⟩
  · exact Or.inr ⟨4, by decide, rfl⟩
  · exact Or.inr ⟨8, by decide, rfl⟩

theorem structSpec_W {w : Nat} (hw : W w) : structSpec (w : Int) = .ok w := by
  rcases hw with rfl | rfl | rfl | rfl <;> rfl

theorem structSpec_not_W {w : Nat} (hw : ¬ W w) : structSpec (w : Int) = .error .value := by
  unfold W at hw
  have : ¬ ((w : Int) = 1 ∨ (w : Int) = 2 ∨ (w : Int) = 4 ∨ (w : Int) = 8) := by omega
  simp [structSpec, this]

theorem structSpec_documented (n : Int) : Documented (structSpec n) :=
  .ite (.ok _) (.err rfl)

theorem pow_even {w : Nat} (hw : W w) : 256 ^ w = 2 * (256 ^ w / 2) := by
  obtain ⟨k, rfl⟩ : ∃ k, w = k + 1 := ⟨w - 1, by have := hw.pos; omega⟩
  rw [Nat.pow_succ]; omega

theorem half_pos {w : Nat} (hw : W w) : 0 < 256 ^ w / 2 := by
  have h1 : 0 < 256 ^ w := Nat.pow_pos (by decide)
  have := pow_even hw
  omega

theorem toUnsigned_bad {n : Int} (h : ¬ okWidth n) (v : Int) : toUnsigned n v = .error .value := by
  simp [toUnsigned, h]

theorem toUnsigned_zero (v : Int) : toUnsigned 0 v = .ok [] := by
  simp [toUnsigned, okWidth]

/-- widths 1, 2, 4, 8: `struct.error` for a negative value, `ValueError` for a too large one,
    the big-endian octets otherwise -/
theorem toUnsigned_W {w : Nat} (hw : W w) (v : Int) :
    toUnsigned (w : Int) v =
      if v < 0 then .error .struct
      else if ((256 ^ w : Nat) : Int) ≤ v then .error .value
      else .ok (beBytes w v.toNat) := by
  have h1 := okWidth_natCast.2 hw.w0
  have h0 : ¬ (w : Int) = 0 := by have := hw.pos; omega
  unfold toUnsigned
  simp only [h1, h0, not_true_eq_false, ↓reduceIte, Int.toNat_natCast, structSpec_W hw, bind,
    Except.bind, packU, packBE]
  generalize 256 ^ w = P
  by_cases a : v < 0
  · simp [a, show ¬ v > (P : Int) - 1 by omega, show ¬ 0 ≤ v by omega]
  · by_cases c : (P : Int) ≤ v
    · simp [a, c, show v > (P : Int) - 1 by omega]
    · simp [a, c, show ¬ v > (P : Int) - 1 by omega, show 0 ≤ v by omega, show v.toNat < P by omega]

theorem toUnsigned_nat {w : Nat} (hw : W w) (v : Nat) :
    toUnsigned (w : Int) (v : Int) = if v < 256 ^ w then .ok (beBytes w v) else .error .value := by
  rw [toUnsigned_W hw, if_neg (by omega)]
  by_cases c : v < 256 ^ w
  · rw [if_pos c, if_neg (by omega)]; rfl
  · rw [if_neg c, if_pos (by omega)]

theorem toUnsigned_in_range {w : Nat} (hw : W0 w) {v : Int} (h : 0 ≤ v ∧ v < ((256 ^ w : Nat) : Int)) :
    toUnsigned (w : Int) v = .ok (beBytes w v.toNat) := by
  rcases hw.cases with rfl | hw
  · exact toUnsigned_zero v
  · rw [toUnsigned_W hw, if_neg (by omega), if_neg (by omega)]

theorem toSigned_bad {n : Int} (h : ¬ okWidth n) (v : Int) : toSigned n v = .error .value := by
  simp [toSigned, h]

theorem toSigned_zero (v : Int) : toSigned 0 v = .ok [] := by
  simp [toSigned, okWidth]

/-- widths 1, 2, 4, 8: accepted iff `|v| ≤ 2^(8w-1) - 1`, and then the octets are the unsigned
    big-endian encoding of `v mod 256^w` (two's complement); `struct.error` is unreachable -/
theorem toSigned_W {w : Nat} (hw : W w) (v : Int) :
    toSigned (w : Int) v =
      if -((256 ^ w / 2 : Nat) : Int) < v ∧ v < ((256 ^ w / 2 : Nat) : Int)
      then .ok (beBytes w (v % ((256 ^ w : Nat) : Int)).toNat)
      else .error .value := by
  have h1 := okWidth_natCast.2 hw.w0
  have h0 : ¬ (w : Int) = 0 := by have := hw.pos; omega
  have hh := half_pos hw
  unfold toSigned
  simp only [h1, h0, not_true_eq_false, ↓reduceIte, Int.toNat_natCast, structSpec_W hw, bind,
    Except.bind, packS]
  generalize 256 ^ w / 2 = H at hh ⊢
  by_cases a : -(H : Int) < v ∧ v < (H : Int)
  · simp [a, show ¬ (v.natAbs : Int) > (H : Int) - 1 by omega, show -(H : Int) ≤ v ∧ v < (H : Int) by omega]
  · simp [a, show (v.natAbs : Int) > (H : Int) - 1 by omega]

theorem verifyInt_eq (w : Nat) (v : Int) :
    verifyInt w v = if 0 ≤ v ∧ v < ((256 ^ w : Nat) : Int) then .ok () else .error .value := by
  have : (v > ((256 ^ w : Nat) : Int) - 1 ∨ v < 0) ↔ ¬ (0 ≤ v ∧ v < ((256 ^ w : Nat) : Int)) := by omega
  simp only [verifyInt, this, ite_not]

theorem new_bad_width {n : Int} (h : ¬ okWidth n) (v : Int) : Field.new v n = .error .value := by
  simp [Field.new, h]

theorem new_W0 {w : Nat} (hw : W0 w) (v : Int) :
    Field.new v (w : Int) =
      if 0 ≤ v ∧ v < ((256 ^ w : Nat) : Int) then .ok ⟨w, v.toNat, beBytes w v.toNat⟩
      else .error .value := by
  have h1 := okWidth_natCast.2 hw
  unfold Field.new
  simp only [h1, not_true_eq_false, ↓reduceIte, Int.toNat_natCast, verifyInt_eq]
  by_cases a : 0 ≤ v ∧ v < ((256 ^ w : Nat) : Int)
  · rw [if_pos a, if_pos a, bind_ok, toUnsigned_in_range hw a]; rfl
  · rw [if_neg a, if_neg a]; rfl

theorem new_nat {w : Nat} (hw : W0 w) (v : Nat) :
    Field.new (v : Int) (w : Int) =
      if v < 256 ^ w then .ok ⟨w, v, beBytes w v⟩ else .error .value := by
  rw [new_W0 hw]
  by_cases c : v < 256 ^ w
  · rw [if_pos c, if_pos (by omega)]; rfl
  · rw [if_neg c, if_neg (by omega)]

theorem new_eq (v n : Int) :
    Field.new v n =
      if okWidth n ∧ 0 ≤ v ∧ v < ((256 ^ n.toNat : Nat) : Int)
      then .ok ⟨n.toNat, v.toNat, beBytes n.toNat v.toNat⟩ else .error .value := by
  by_cases h : okWidth n
  · obtain ⟨e, hw⟩ := okWidth_toNat h
    have := new_W0 hw v
    rw [e] at this
    rw [this]
    simp only [h, true_and]
  · simp only [new_bad_width h, h, false_and, ↓reduceIte]

theorem new_inv {v n : Int} {f : Field} (h : Field.new v n = .ok f) : Inv f := by
  rw [new_eq] at h
  split at h <;> cases h
  rename_i g
  refine ⟨(okWidth_toNat g.1).2, ?_, rfl⟩
  show v.toNat < 256 ^ n.toNat
  omega

theorem new_of_bytes (t : Bytes) (hw : W0 t.length) :
    Field.new (beNat t : Int) (t.length : Int) = .ok ⟨t.length, beNat t, t⟩ := by
  rw [new_nat hw, if_pos (beNat_lt t), beBytes_beNat]

/-- `UnsignedByteField.from_bytes(raw)`: total on lengths 1, 2, 4, 8, `ValueError` otherwise -/
theorem fromBytes_eq (raw : Bytes) :
    fromBytes raw = if W raw.length then .ok ⟨raw.length, beNat raw, raw⟩ else .error .value := by
  unfold fromBytes
  by_cases hw : W raw.length
  · simp only [structSpec_W hw, bind, Except.bind, unpackBE_ok rfl, new_of_bytes raw hw.w0, hw,
      ↓reduceIte]
  · simp only [structSpec_not_W hw, bind, Except.bind, hw, ↓reduceIte]

theorem slice0 (s : Bytes) (n : Nat) : slice s 0 n = s.take n := by simp [slice]

theorem take_len {s : Bytes} {n : Nat} (h : ¬ s.length < n) : (s.take n).length = n := by
  simp; omega

theorem fromUN_core {n : Nat} (hw : W n) (s : Bytes) (h : ¬ s.length < n) :
    (do let k ← structSpec (n : Int)
        let v ← unpackBE k (slice s 0 n)
        Field.new (v : Int) (n : Int)) = .ok ⟨n, beNat (s.take n), s.take n⟩ := by
  have hl := take_len h
  have := new_of_bytes (s.take n) (by rw [hl]; exact hw.w0)
  rw [hl] at this
  simp only [structSpec_W hw, bind, Except.bind, slice0, unpackBE_ok hl, this]

theorem fromU8Bytes_eq (s : Bytes) :
    fromU8Bytes s = if s.length < 1 then .error .value else .ok ⟨1, beNat (s.take 1), s.take 1⟩ := by
  unfold fromU8Bytes
  by_cases h : s.length < 1
  · simp only [h, ↓reduceIte]
  · simp only [h, ↓reduceIte]
    match s, h with
    | x :: r, _ =>
      have := new_of_bytes [x] (by unfold W0; simp)
      simp only [List.length_cons, List.length_nil, Nat.zero_add, Int.natCast_one] at this
      have e : beNat [x] = x.toNat := by simp [beNat]
      simp [idx, bind, Except.bind, u8New, e ▸ this, e]

theorem fromU16Bytes_eq (s : Bytes) :
    fromU16Bytes s = if s.length < 2 then .error .value else .ok ⟨2, beNat (s.take 2), s.take 2⟩ := by
  unfold fromU16Bytes u16New
  split
  · rfl
  · exact fromUN_core (n := 2) (by decide) s ‹_›

theorem fromU32Bytes_eq (s : Bytes) :
    fromU32Bytes s = if s.length < 4 then .error .value else .ok ⟨4, beNat (s.take 4), s.take 4⟩ := by
  unfold fromU32Bytes u32New
  split
  · rfl
  · exact fromUN_core (n := 4) (by decide) s ‹_›

theorem fromU64Bytes_eq (s : Bytes) :
    fromU64Bytes s = if s.length < 8 then .error .value else .ok ⟨8, beNat (s.take 8), s.take 8⟩ := by
  unfold fromU64Bytes u64New
  split
  · rfl
  · exact fromUN_core (n := 8) (by decide) s ‹_›

/-- `ByteFieldGenerator.from_bytes(n, stream)`: the first `n` octets for `n ∈ {1,2,4,8}` when
    present, `ValueError` otherwise (too short, or any other `n` including 0 and negatives) -/
theorem genFromBytes_eq (n : Int) (s : Bytes) :
    genFromBytes n s =
      if (n = 1 ∨ n = 2 ∨ n = 4 ∨ n = 8) ∧ ¬ (s.length : Int) < n
      then .ok ⟨n.toNat, beNat (s.take n.toNat), s.take n.toNat⟩ else .error .value := by
  -- the subclass readers' guard `len < n` on naturals, restated on the integer width
  have flip (k : Nat) (hw : W k) (x : Py Field)
      (h : x = if s.length < k then .error .value else .ok ⟨k, beNat (s.take k), s.take k⟩) :
      x = if ((k : Int) = 1 ∨ (k : Int) = 2 ∨ (k : Int) = 4 ∨ (k : Int) = 8) ∧ ¬ (s.length : Int) < k
        then .ok ⟨(k : Int).toNat, beNat (s.take (k : Int).toNat), s.take (k : Int).toNat⟩ else .error .value := by
    unfold W at hw
    by_cases hl : s.length < k
    · rw [h, if_pos hl, if_neg (by omega)]
    · rw [h, if_neg hl, if_pos ⟨by omega, by omega⟩]; rfl
  unfold genFromBytes
  by_cases h1 : n = 1
  · subst h1; exact flip 1 (by decide) _ (fromU8Bytes_eq s)
  by_cases h2 : n = 2
  · subst h2; exact flip 2 (by decide) _ (fromU16Bytes_eq s)
  by_cases h4 : n = 4
  · subst h4; exact flip 4 (by decide) _ (fromU32Bytes_eq s)
  by_cases h8 : n = 8
  · subst h8; exact flip 8 (by decide) _ (fromU64Bytes_eq s)
  simp [h1, h2, h4, h8]

theorem genFromBytes_W {n : Nat} (hn : W n) (s : Bytes) (h : n ≤ s.length) :
    genFromBytes (n : Int) s = .ok ⟨n, beNat (s.take n), s.take n⟩ := by
  rw [genFromBytes_eq, if_pos ⟨by unfold W at hn; omega, by omega⟩]; rfl

/-- `ByteFieldGenerator.from_int(n, v)` is the plain constructor on widths 1, 2, 4, 8 and
    `ValueError` on every other width (including the empty field) -/
theorem genFromInt_eq (n v : Int) :
    genFromInt n v = if n = 1 ∨ n = 2 ∨ n = 4 ∨ n = 8 then Field.new v n else .error .value := by
  unfold genFromInt u8New u16New u32New u64New
  by_cases h : n = 1 ∨ n = 2 ∨ n = 4 ∨ n = 8
  · rw [if_pos h]; rcases h with rfl | rfl | rfl | rfl <;> rfl
  · rw [if_neg h]; simp only [not_or] at h
    rw [if_neg h.1, if_neg h.2.1, if_neg h.2.2.1, if_neg h.2.2.2]

/-- `field.value = v` for an integer: accepted iff `0 ≤ v < 256^width`; value and octets are
    replaced together, the width stays -/
theorem setInt_eq (f : Field) (hw : W0 f.width) (v : Int) :
    f.setInt v =
      if 0 ≤ v ∧ v < ((256 ^ f.width : Nat) : Int)
      then .ok ⟨f.width, v.toNat, beBytes f.width v.toNat⟩ else .error .value := by
  unfold Field.setInt
  simp only [verifyInt_eq]
  by_cases a : 0 ≤ v ∧ v < ((256 ^ f.width : Nat) : Int)
  · rw [if_pos a, if_pos a, bind_ok, toUnsigned_in_range hw a]; rfl
  · rw [if_neg a, if_neg a]; rfl

/-- `field.value = raw` for octets: `ValueError` when too short (and always for the empty field,
    whose width has no struct format); otherwise the first `width` octets are taken -/
theorem setBytes_eq (f : Field) (hw : W0 f.width) (raw : Bytes) :
    f.setBytes raw =
      if f.width = 0 ∨ raw.length < f.width then .error .value
      else .ok ⟨f.width, beNat (raw.take f.width), raw.take f.width⟩ := by
  unfold Field.setBytes verifyBytes
  by_cases h : raw.length < f.width
  · simp only [h, or_true, ↓reduceIte, bind, Except.bind]
  · rcases hw.cases with h0 | hw
    · have : ¬ W f.width := by unfold W; omega
      simp only [h, ↓reduceIte, structSpec_not_W this, bind, Except.bind]
      simp only [h0, true_or, ↓reduceIte]
    · have hl := take_len h
      have hz : ¬ f.width = 0 := by have := hw.pos; omega
      have hb : 0 ≤ (beNat (raw.take f.width) : Int) ∧
          (beNat (raw.take f.width) : Int) < ((256 ^ f.width : Nat) : Int) := by
        have := beNat_lt (raw.take f.width); rw [hl] at this; omega
      simp only [h, hz, or_self, ↓reduceIte, structSpec_W hw, bind, Except.bind, slice0,
        unpackBE_ok hl, verifyInt_eq, hb, and_self, pure, Except.pure]

theorem inv_of_bytes {w : Nat} (t : Bytes) (hl : t.length = w) (hw : W0 w) : Inv ⟨w, beNat t, t⟩ := by
  subst hl; exact ⟨hw, beNat_lt t, (beBytes_beNat t).symm⟩

theorem setInt_inv {f g : Field} (hf : Inv f) {v : Int} (h : f.setInt v = .ok g) : Inv g := by
  rw [setInt_eq f hf.1] at h
  split at h <;> cases h
  rename_i a
  refine ⟨hf.1, ?_, rfl⟩
  show v.toNat < 256 ^ f.width
  omega

theorem setBytes_inv {f g : Field} (hf : Inv f) {raw : Bytes} (h : f.setBytes raw = .ok g) : Inv g := by
  rw [setBytes_eq f hf.1] at h
  split at h <;> cases h
  exact inv_of_bytes _ (take_len (by omega)) hf.1

theorem after_inv {f : Field} (hf : Inv f) (a : Assign) : Inv (f.after a) := by
  unfold Field.after
  split
  · rename_i g h
    cases a with
    | int v => exact setInt_inv hf h
    | octets raw => exact setBytes_inv hf h
  · exact hf

theorem run_inv {f : Field} (hf : Inv f) (l : List Assign) : Inv (f.run l) := by
  induction l generalizing f with
  | nil => exact hf
  | cons a l ih => exact ih (after_inv hf a)

theorem after_width (f : Field) (a : Assign) : (f.after a).width = f.width := by
  unfold Field.after
  split
  · rename_i g h
    cases a with
    | int v =>
      obtain ⟨_, _, h⟩ := bind_ok_inv h
      obtain ⟨_, _, h⟩ := bind_ok_inv h
      cases h; rfl
    | octets raw =>
      obtain ⟨⟨_, _⟩, _, h⟩ := bind_ok_inv h
      cases h; rfl
  · rfl

theorem hexOfBytes_append (a b : Bytes) : hexOfBytes (a ++ b) = hexOfBytes a ++ hexOfBytes b := by
  simp [hexOfBytes]

private theorem hx1 (v : Nat) : v % 256 / 16 = v / 16 % 16 := by omega
private theorem hx2 (v : Nat) : v % 256 % 16 = v % 16 := by omega
private theorem hx3 (v : Nat) : v / 16 / 16 = v / 256 := by omega

/-- `2w` fixed hexadecimal digits of `v` are the hex rendering of its `w` big-endian octets -/
theorem hexFixed_beBytes (w v : Nat) : hexFixed (2 * w) v = hexOfBytes (beBytes w v) := by
  induction w generalizing v with
  | zero => rfl
  | succ w ih =>
    have e : 2 * (w + 1) = (2 * w + 1) + 1 := by omega
    rw [e]
    simp only [hexFixed, beBytes, hexOfBytes_append, hx3, ih]
    simp [hexOfBytes, hx1]

/-- under the invariant, `hex_str` is `0x` followed by the hex rendering of the octets -/
theorem hexStr_eq {f : Field} (hf : Inv f) :
    f.hexStr = if f.width = 0 then none
               else some (String.ofList ('0' :: 'x' :: hexOfBytes f.bytes)) := by
  obtain ⟨hw, hv, hb⟩ := hf
  unfold Field.hexStr
  rcases hw.cases with h0 | hw
  · simp [h0]
  · have hz : ¬ f.width = 0 := by have := hw.pos; omega
    have hw' : f.width = 1 ∨ f.width = 2 ∨ f.width = 4 ∨ f.width = 8 := hw
    have hlt : f.value < 16 ^ (2 * f.width) := by rw [Nat.pow_mul]; exact hv
    simp only [hw', hz, ↓reduceIte, fmtHex, hlt, hexFixed_beBytes, hb]

theorem beq_iff (f g : Field) : f.beq g = true ↔ f.hashKey = g.hashKey := by
  simp [Field.beq, Field.hashKey]

theorem Inv.length {f : Field} (hf : Inv f) : f.bytes.length = f.width := by
  rw [hf.2.2, beBytes_length]

theorem Inv.beNat {f : Field} (hf : Inv f) : beNat f.bytes = f.value := by
  rw [hf.2.2, beNat_beBytes _ _ hf.2.1]

theorem fromBytes_field (f : Field) (hI : Inv f) (hW : W f.width) : fromBytes f.bytes = .ok f := by
  rw [fromBytes_eq, hI.length, if_pos hW, hI.beNat]

theorem eq_of_key {f g : Field} (hf : Inv f) (hg : Inv g) (h : f.hashKey = g.hashKey) : f = g := by
  obtain ⟨fw, fv, fb⟩ := f
  obtain ⟨gw, gv, gb⟩ := g
  obtain ⟨rfl, rfl⟩ : fv = gv ∧ fw = gw := Prod.mk.inj h
  obtain rfl : fb = beBytes fw fv := hf.2.2
  obtain rfl : gb = beBytes fw fv := hg.2.2
  rfl

theorem eq_of_bytes {f g : Field} (hf : Inv f) (hg : Inv g) (h : f.bytes = g.bytes) : f = g :=
  eq_of_key hf hg (by rw [Field.hashKey, ← hf.beNat, ← hf.length, h, hg.beNat, hg.length]; rfl)

/-- decoding what `struct.pack` wrote for a signed format gives the value back -/
theorem unpackS_packS {w : Nat} (hw : W w) (v : Int)
    (h : -((256 ^ w / 2 : Nat) : Int) ≤ v ∧ v < ((256 ^ w / 2 : Nat) : Int)) :
    unpackS w (beBytes w (v % ((256 ^ w : Nat) : Int)).toNat) = .ok v := by
  have he := pow_even hw
  have hh := half_pos hw
  unfold unpackS
  simp only [beBytes_length, ↓reduceIte]
  generalize 256 ^ w / 2 = H at *
  by_cases hv : 0 ≤ v
  · have e : v % ((256 ^ w : Nat) : Int) = v := Int.emod_eq_of_lt hv (by omega)
    rw [e, beNat_beBytes w v.toNat (by omega)]
    have : v.toNat < H := by omega
    simp only [this, ↓reduceIte]
    congr 1; omega
  · have e : v % ((256 ^ w : Nat) : Int) = v + ((256 ^ w : Nat) : Int) := by
      rw [← Int.add_emod_right v]
      exact Int.emod_eq_of_lt (by omega) (by omega)
    rw [e, beNat_beBytes w (v + ((256 ^ w : Nat) : Int)).toNat (by omega)]
    have : ¬ (v + ((256 ^ w : Nat) : Int)).toNat < H := by omega
    simp only [this, ↓reduceIte]
    congr 1; omega

theorem new_documented (v n : Int) : Documented (Field.new v n) := by
  rw [new_eq]; exact .ite (.ok _) (.err rfl)

theorem fromBytes_documented (raw : Bytes) : Documented (fromBytes raw) := by
  rw [fromBytes_eq]; exact .ite (.ok _) (.err rfl)

theorem genFromBytes_documented (n : Int) (s : Bytes) : Documented (genFromBytes n s) := by
  rw [genFromBytes_eq]; exact .ite (.ok _) (.err rfl)

theorem genFromInt_documented (n v : Int) : Documented (genFromInt n v) := by
  rw [genFromInt_eq]; exact .ite (new_documented v n) (.err rfl)

theorem toSigned_documented (n v : Int) : Documented (toSigned n v) := by
  by_cases h : okWidth n
  · rcases okWidth_cases h with rfl | ⟨w, hw, rfl⟩
    · rw [toSigned_zero]; exact .ok _
    · rw [toSigned_W hw]; exact .ite (.ok _) (.err rfl)
  · rw [toSigned_bad h]; exact .err rfl

/-- `to_unsigned` lets `struct.error` escape exactly for a negative value on widths 1, 2, 4, 8 -/
theorem toUnsigned_documented (n v : Int) (hv : 0 ≤ v) : Documented (toUnsigned n v) := by
  by_cases h : okWidth n
  · rcases okWidth_cases h with rfl | ⟨w, hw, rfl⟩
    · rw [toUnsigned_zero]; exact .ok _
    · rw [toUnsigned_W hw, if_neg (by omega)]; exact .ite (.err rfl) (.ok _)
  · rw [toUnsigned_bad h]; exact .err rfl

end SpVerif.ByteField
