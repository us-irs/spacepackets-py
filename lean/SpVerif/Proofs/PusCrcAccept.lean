import SpVerif.Model.PusTc
import SpVerif.Model.PusTm
import SpVerif.Props.C02
import SpVerif.Props.C03
import SpVerif.Proofs.CrcBurstBytes
/-!
# What acceptance by a PUS decoder says about the CRC (reusable by C04/C09/C10)

`declaredLen d` — the packet length a PUS decoder derives from a buffer: a function of octets 4 and 5
only. `tc_accept_crc` / `tm_accept_crc`: a decoder that returns a packet has seen residue zero over
exactly the first `declaredLen d` octets.
-/
namespace SpVerif.PusCrc
open SpVerif SpVerif.SpacePacket SpVerif.PusTc SpVerif.PusTm

/-- declared total packet length: data-length field (octets 4–5, big-endian) + 7 -/
def declaredLen (d : Bytes) : Nat := (d[4]?.getD 0).toNat * 256 + (d[5]?.getD 0).toNat + 7

/-- it depends on octets 4 and 5 only -/
theorem declaredLen_congr {d d' : Bytes} (h4 : d'[4]? = d[4]?) (h5 : d'[5]? = d[5]?) :
    declaredLen d' = declaredLen d := by
  unfold declaredLen; rw [h4, h5]

theorem declaredLen_append (a b : Bytes) (h : 6 ≤ a.length) : declaredLen (a ++ b) = declaredLen a := by
  apply declaredLen_congr <;> exact List.getElem?_append_left (by omega)

/-- the primary-header decoder reports exactly this length -/
theorem sph_unpack_declaredLen {d : Bytes} {h : Sph} (hu : Sph.unpack d = .ok h) :
    6 ≤ d.length ∧ h.packetLen = declaredLen d ∧ totalLenFromLenField h.dlen = declaredLen d := by
  by_cases h6 : d.length < 6
  · rw [Props.C01.C01_short d h6] at hu; cases hu
  · have h6' : 6 ≤ d.length := Nat.le_of_not_lt h6
    rw [Props.C01.unpack_eq d h6'] at hu
    cases hu
    simp only [Sph.packetLen, totalLenFromLenField, declaredLen, List.getElem?_eq_getElem (show 4 < d.length by omega),
      List.getElem?_eq_getElem (show 5 < d.length by omega), Option.getD_some]
    exact ⟨h6', by omega, trivial⟩

/-- **TC: acceptance implies residue zero over exactly the declared packet** -/
theorem tc_accept_crc {d : Bytes} {t : Tc} (h : Tc.unpack d = .ok t) :
    t.packetLen = declaredLen d ∧ 13 ≤ declaredLen d ∧ declaredLen d ≤ d.length ∧
    Crc.crc16 (d.take (declaredLen d)) = 0 := by
  obtain ⟨h13, hle, hcrc, _, hs⟩ := Props.C02.C02_accept_sound d t h
  have e : t.packetLen = declaredLen d := (sph_unpack_declaredLen hs).2.1
  rw [e] at h13 hle hcrc
  exact ⟨e, h13, hle, hcrc⟩

theorem tm_unpack_sph {d : Bytes} {n : Nat} {t : Tm} (h : Tm.unpack d n = .ok t) : Sph.unpack d = .ok t.sph :=
  (Props.C03.unpack_ok h).1

/-- **TM: acceptance (with any timestamp length) implies residue zero over exactly the declared packet** -/
theorem tm_accept_crc {d : Bytes} {n : Nat} {t : Tm} (h : Tm.unpack d n = .ok t) :
    t.packetLen = declaredLen d ∧ 13 + n + 2 ≤ declaredLen d ∧ declaredLen d ≤ d.length ∧
    Crc.crc16 (d.take (declaredLen d)) = 0 := by
  obtain ⟨h13, hle, hcrc, _, _⟩ := Props.C03.C03_accept_sound d n t h
  have e : t.packetLen = declaredLen d := (sph_unpack_declaredLen (tm_unpack_sph h)).2.1
  rw [e] at h13 hle hcrc
  exact ⟨e, h13, hle, hcrc⟩

/-- window `[k, k + len)` of bit positions does not meet octets 4–5 (bits 32 … 47) -/
def AvoidsLenField (k len : Nat) : Prop := k + len ≤ 32 ∨ 48 ≤ k

instance (k len : Nat) : Decidable (AvoidsLenField k len) := by unfold AvoidsLenField; infer_instance

/-- a burst that avoids octets 4–5 leaves the declared length unchanged -/
theorem burst_declaredLen {d d' : Bytes} {k : Nat} {B : List Bool} (hb : Crc.Burst d d' k B)
    (hav : AvoidsLenField k B.length) : declaredLen d' = declaredLen d := by
  apply declaredLen_congr
  · exact hb.getElem?_eq 4 (by unfold AvoidsLenField at hav; omega)
  · exact hb.getElem?_eq 5 (by unfold AvoidsLenField at hav; omega)

/-- **a decoder that returns only after seeing residue zero over the declared packet rejects every
    burst**: `d` is accepted (so it starts with such a packet), `d'` is `d` after a burst inside the packet
    that avoids octets 4–5; then `dec` fails on `d'`, with a documented error, and `check_pus_crc` is false. -/
theorem burst_rejected {α : Type} {dec : Bytes → Py α} {d d' : Bytes} {k : Nat} {B : List Bool}
    (hdec : ∀ a, dec d' = .ok a → Crc.crc16 (d'.take (declaredLen d')) = 0) (hdoc : Documented (dec d'))
    (hb : Crc.Burst d d' k B) (hN : declaredLen d ≤ d.length) (hz : Crc.crc16 (d.take (declaredLen d)) = 0)
    (hin : k + B.length ≤ 8 * declaredLen d) (hB : B.length ≤ 16)
    (hne : B ≠ List.replicate B.length false) (hav : AvoidsLenField k B.length) :
    (∃ e, dec d' = .error e ∧ e.documented = true) ∧ declaredLen d' = declaredLen d ∧
    checkPusCrc (d'.take (declaredLen d')) = false := by
  have hnz : Crc.crc16 (d'.take (declaredLen d')) ≠ 0 := by
    rw [burst_declaredLen hb hav]; exact hb.crc_take_ne_zero _ hN hin hz hB hne
  refine ⟨?_, burst_declaredLen hb hav, decide_eq_false hnz⟩
  cases hu : dec d' with
  | ok a => exact absurd (hdec a hu) hnz
  | error e => exact ⟨e, rfl, hdoc e hu⟩

/-- a packed valid telecommand, followed by anything, is accepted, and declares its own length -/
theorem tc_packed {t : Tc} (wf : Props.C02.WF t) {p : Bytes} (hpk : t.pack = .ok p) (rest : Bytes) :
    Tc.unpack (p ++ rest) = .ok t ∧ declaredLen (p ++ rest) = p.length := by
  cases Except.ok.inj ((Props.C02.C02_pack_exact t wf).symm.trans hpk)
  have hr := Props.C02.C02_roundtrip t wf rest
  exact ⟨hr, (tc_accept_crc hr).1.symm.trans (Props.C02.C02_len t wf).1.symm⟩

theorem tm_packed {t : Tm} (wf : Props.C03.WF t) {p : Bytes} (hpk : t.pack = .ok p) (rest : Bytes) :
    Tm.unpack (p ++ rest) t.sec.timestamp.length = .ok t ∧ declaredLen (p ++ rest) = p.length := by
  cases Except.ok.inj ((Props.C03.C03_pack_exact t wf).symm.trans hpk)
  have hr := Props.C03.C03_roundtrip t wf rest
  exact ⟨hr, (tm_accept_crc hr).1.symm.trans (Props.C03.C03_len t wf).1.symm⟩

end SpVerif.PusCrc
