import SpVerif.Model.SeqCount
/-!
# Helper lemmas for C19 (sequence counters): decimal render/parse, readline/rstrip on a rendered
line, the canonical shape of the file after a successful call.
-/
namespace SpVerif.SeqCount

theorem digitChar_toNat (d : Nat) (h : d < 10) : (digitChar d).toNat = 48 + d := by
  revert d; decide

theorem isDigit_digitChar (d : Nat) (h : d < 10) : isDigit (digitChar d) = true := by
  simp [isDigit, digitChar_toNat d h]; omega

theorem digitVal_digitChar (d : Nat) (h : d < 10) : digitVal (digitChar d) = d := by
  simp [digitVal, digitChar_toNat d h]

theorem isDigit_not_space (c : Char) (h : isDigit c = true) : isSpace c = false := by
  simp [isDigit] at h
  simp [isSpace]; omega

theorem isDigit_not_nl (c : Char) (h : isDigit c = true) : isNl c = false := by
  simp [isDigit] at h
  simp [isNl]; omega

theorem render_all_digit (n : Nat) : ∀ c ∈ render n, isDigit c = true := by
  fun_induction render n with
  | case1 n h => intro c hc; simp at hc; subst hc; exact isDigit_digitChar n h
  | case2 n h ih =>
    intro c hc
    simp at hc
    rcases hc with hc | hc
    · exact ih c hc
    · subst hc; exact isDigit_digitChar _ (by omega)

theorem render_ne_nil (n : Nat) : render n ≠ [] := by
  rw [render]; split <;> simp

theorem parseNat_snoc (s : List Char) (c : Char) : parseNat (s ++ [c]) = parseNat s * 10 + digitVal c := by
  simp [parseNat, List.foldl_append]

theorem parseNat_render (n : Nat) : parseNat (render n) = n := by
  fun_induction render n with
  | case1 n h => simp [parseNat, digitVal_digitChar n h]
  | case2 n h ih => rw [parseNat_snoc, ih, digitVal_digitChar _ (by omega)]; omega

theorem isDigitStr_iff (s : List Char) : isDigitStr s = true ↔ s ≠ [] ∧ ∀ c ∈ s, isDigit c = true := by
  simp [isDigitStr, List.all_eq_true]

theorem isDigitStr_render (n : Nat) : isDigitStr (render n) = true :=
  (isDigitStr_iff _).2 ⟨render_ne_nil n, render_all_digit n⟩

theorem readline_append_nl (a b : List Char) (h : ∀ c ∈ a, isNl c = false) :
    readline (a ++ '\n' :: b) = a ++ ['\n'] := by
  induction a with
  | nil => simp [readline, isNl]
  | cons c cs ih =>
    have hc : isNl c = false := h c (by simp)
    simp [readline, hc]
    exact ih (fun x hx => h x (by simp [hx]))

theorem rstrip_append_nl (a : List Char) (h : ∀ c ∈ a, isSpace c = false) :
    rstrip (a ++ ['\n']) = a := by
  induction a with
  | nil => simp [rstrip, isSpace]
  | cons c cs ih =>
    have hc : isSpace c = false := h c (by simp)
    have := ih (fun x hx => h x (by simp [hx]))
    simp [rstrip, hc, this]

/-- `rstrip` = remove the longest all-white-space suffix -/
theorem rstrip_snoc (a : List Char) (x : Char) :
    rstrip (a ++ [x]) = if isSpace x then rstrip a else a ++ [x] := by
  induction a with
  | nil => cases hx : isSpace x <;> simp [rstrip, hx]
  | cons c cs ih =>
    cases hx : isSpace x
    · simp [hx] at ih
      simp [rstrip, ih]
    · simp [hx] at ih
      simp [rstrip, ih]

theorem rstrip_eq_reverse (s : List Char) :
    rstrip s = (s.reverse.dropWhile isSpace).reverse := by
  suffices h : ∀ r : List Char, rstrip r.reverse = (r.dropWhile isSpace).reverse by
    simpa using h s.reverse
  intro r
  induction r with
  | nil => simp [rstrip]
  | cons x r ih =>
    rw [List.reverse_cons, rstrip_snoc]
    cases hx : isSpace x <;> simp [List.dropWhile, hx, ih]

/-- the stripped first line does not depend on how the line is terminated -/
theorem rstrip_readline (s : List Char) :
    rstrip (readline s) = rstrip (s.takeWhile (fun c => !isNl c)) := by
  induction s with
  | nil => simp [readline]
  | cons c cs ih =>
    cases hc : isNl c
    · simp [readline, hc, List.takeWhile, rstrip, ih]
    · simp [readline, hc, List.takeWhile, rstrip, isSpace]

theorem incr_eq_mod (w v : Nat) (h : v < 2 ^ w) : incr w v = (v + 1) % 2 ^ w := by
  have hp : 0 < 2 ^ w := Nat.two_pow_pos w
  unfold incr
  split
  · have : v + 1 = 2 ^ w := by omega
    rw [this, Nat.mod_self]
  · rw [Nat.mod_eq_of_lt]; omega

/-- `check_count`: the stripped line must be a decimal number below `2^w` -/
theorem checkCount_eq (w : Nat) (line : List Char) :
    checkCount w line =
      if isDigitStr (rstrip line) = true ∧ parseNat (rstrip line) < 2 ^ w
      then .ok (parseNat (rstrip line)) else .error .value := by
  have hp : 0 < 2 ^ w := Nat.two_pow_pos w
  unfold checkCount
  cases hd : isDigitStr (rstrip line)
  · simp [hd]
  · by_cases hr : parseNat (rstrip line) < 2 ^ w
    · simp [hd, hr, show ¬ parseNat (rstrip line) > 2 ^ w - 1 by omega]
    · simp [hd, hr, show parseNat (rstrip line) > 2 ^ w - 1 by omega]

theorem checkCount_render (w v : Nat) (h : v < 2 ^ w) :
    checkCount w (render v ++ ['\n']) = .ok v := by
  rw [checkCount_eq, rstrip_append_nl _ (fun c hc => isDigit_not_space c (render_all_digit v c hc)),
    parseNat_render, if_pos ⟨isDigitStr_render v, h⟩]

theorem checkCount_ok_lt (w : Nat) (l : List Char) (v : Nat) (h : checkCount w l = .ok v) : v < 2 ^ w := by
  rw [checkCount_eq] at h
  split at h <;> cases h
  rename_i hc
  exact hc.2

/-- a reader of `render v ++ "\n" ++ stale` sees `v` -/
theorem current_canon (w v : Nat) (stale : List Char) (h : v < 2 ^ w) :
    current w (some (render v ++ '\n' :: stale)) = .ok v := by
  have hl : readline (render v ++ '\n' :: stale) = render v ++ ['\n'] :=
    readline_append_nl _ _ (fun c hc => isDigit_not_nl c (render_all_digit v c hc))
  simp [current, hl, checkCount_render w v h]

theorem current_ok_lt (w : Nat) (f : File) (v : Nat) (h : current w f = .ok v) : v < 2 ^ w := by
  cases f with
  | none => simp [current] at h
  | some s => exact checkCount_ok_lt w _ v (by simpa [current] using h)

/-- a successful call returns what a reader would have seen and leaves `render (v+1 mod 2^w) ++ "\n"`
    followed by the stale rest of the old content -/
theorem call_of_current (w : Nat) (f : File) (v : Nat) (h : current w f = .ok v) :
    ∃ s, f = some s ∧ getAndIncrement w f =
      (.ok v, some (render ((v + 1) % 2 ^ w) ++ '\n' :: s.drop ((render ((v + 1) % 2 ^ w)).length + 1))) := by
  cases f with
  | none => simp [current] at h
  | some s =>
    have hv := current_ok_lt w _ v h
    simp [current] at h
    refine ⟨s, rfl, ?_⟩
    simp [getAndIncrement, h, overwrite, incr_eq_mod w v hv]

theorem call_ok_current (w : Nat) (f f' : File) (v : Nat) (h : getAndIncrement w f = (.ok v, f')) :
    current w f = .ok v := by
  cases f with
  | none => simp [getAndIncrement] at h
  | some s =>
    simp only [getAndIncrement] at h
    simp only [current]
    split at h
    · simp at h
    · rename_i v' hv'
      simp at h
      rw [hv', h.1]

theorem call_err (w : Nat) (f : File) (e : Err) (h : current w f = .error e) :
    getAndIncrement w f = (.error e, f) := by
  cases f with
  | none => simp [current] at h; subst h; rfl
  | some s =>
    simp [current] at h
    simp [getAndIncrement, h]

theorem checkCount_width (w w' : Nat) (l : List Char) (v : Nat) (h : checkCount w l = .ok v) :
    checkCount w' l = if v < 2 ^ w' then .ok v else .error .value := by
  rw [checkCount_eq] at h ⊢
  split at h <;> cases h
  rename_i hc
  simp [hc.1]

/-- `create_new` writes `"0\n"`: every width reads 0 -/
theorem current_create (w : Nat) : current w create = .ok 0 := by
  have h : create = some (render 0 ++ '\n' :: []) := by
    rw [render]; simp [create, digitChar]
  rw [h]
  exact current_canon w 0 [] (Nat.two_pow_pos w)

end SpVerif.SeqCount
