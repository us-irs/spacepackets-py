import SpVerif.Model.KeepAlive
import SpVerif.Proofs.FileDirective
/-!
# The Keep Alive PDU model: constructor and `file_flag` setter equations, and the decoder as
prelude + one FSS field
-/
namespace SpVerif.KeepAlive
open SpVerif SpVerif.CfdpHeader SpVerif.FileDirective

theorem paramLenFor_le (f c : Nat) : paramLenFor f c ≤ 10 := by
  unfold paramLenFor; split <;> split <;> omega

theorem new_eq (c : PduConfig) (progress : Int) :
    KeepAlive.new c progress =
      if c.source.width ≠ c.dest.width then .error .value
      else .ok ⟨⟨⟨0, 0, paramLenFor c.fileFlag c.crcFlag + 1, { c with direction := 1 }⟩, 12⟩, progress⟩ := by
  have := paramLenFor_le c.fileFlag c.crcFlag
  unfold KeepAlive.new
  rw [new_bind _ _ _ (by omega)]
  split <;> rfl

theorem setFileFlag_eq (k : KeepAlive) (f : Nat) :
    k.setFileFlag f = .ok { k with fd := { k.fd with header := { k.fd.header with
      dataFieldLen := paramLenFor f k.fd.header.conf.crcFlag + 1,
      conf := { k.fd.header.conf with fileFlag := f } } } } := by
  have := paramLenFor_le f k.fd.header.conf.crcFlag
  unfold KeepAlive.setFileFlag
  rw [setParamLen_eq, if_neg (by omega)]
  rfl

/-- `pack()`: the progress field is the 32-bit guard (without the large-file flag) in front of
    `struct.pack` in the selected width -/
theorem pack_eq (k : KeepAlive) :
    k.pack = k.fd.pack >>= fun d =>
      (if ¬ k.fd.header.largeFileFlagSet ∧ k.progress > 4294967295 then .error .value
        else packInt (fssWidth k.fd.header.conf.fileFlag) k.progress) >>= fun p =>
      pure (withCrc k.fd.header.conf.crcFlag (d ++ p)) := by
  unfold KeepAlive.pack
  rw [← width_of_large]
  refine bind_congr fun d => ?_
  cases k.fd.header.largeFileFlagSet
  · by_cases g : k.progress > 4294967295
    · rw [if_pos (by decide), if_pos g, if_pos ⟨by decide, g⟩]; rfl
    · rw [if_pos (by decide), if_neg g, if_neg (fun h => g h.2)]; rfl
  · rw [if_neg (by decide), if_neg (fun h => h.1 rfl)]; rfl

/-- the parameter parser: one FSS field behind the directive header -/
def parse (r : FileDirective × Bytes) : Py KeepAlive := do
  let i := r.1.headerLen
  let w := if ¬ r.1.header.largeFileFlagSet then 4 else 8
  if r.2.length < i + w then throw .value
  let v ← unpackBE w (slice r.2 i (i + w))
  pure ⟨r.1, (v : Int)⟩

theorem unpack_eq (d : Bytes) : KeepAlive.unpack d = prelude d >>= parse := by
  rw [prelude_bind]; rfl

theorem parse_eq (fd : FileDirective) (p : Bytes) :
    parse (fd, p) =
      if p.length < fd.headerLen + fssWidth fd.header.conf.fileFlag then .error .value
      else .ok ⟨fd, (beNat (slice p fd.headerLen (fd.headerLen + fssWidth fd.header.conf.fileFlag)) : Nat)⟩ := by
  unfold parse
  simp only [width_of_not_large]
  by_cases h : p.length < fd.headerLen + fssWidth fd.header.conf.fileFlag
  · rw [if_pos h, if_pos h]; rfl
  · rw [if_neg h, if_neg h]
    show (unpackBE _ _ >>= _) = _
    rw [unpackBE_ok (by simp; omega)]; rfl

theorem parse_keeps (fd : FileDirective) (p : Bytes) (a : KeepAlive) (h : parse (fd, p) = .ok a) :
    a.fd = fd ∧ fd.headerLen < p.length := by
  have := fssWidth_pos fd.header.conf.fileFlag
  rw [parse_eq] at h
  by_cases hs : p.length < fd.headerLen + fssWidth fd.header.conf.fileFlag
  · rw [if_pos hs] at h; cases h
  · rw [if_neg hs] at h; cases h; exact ⟨rfl, by omega⟩

theorem parse_documented (r : FileDirective × Bytes) : Documented (parse r) := by
  rw [parse_eq]
  exact Documented.ite (Documented.err rfl) (Documented.ok _)

theorem unpack_documented (d : Bytes) : Documented (KeepAlive.unpack d) := by
  rw [unpack_eq]; exact bind_prelude_documented parse parse_documented d

theorem unpack_inv (d : Bytes) (a : KeepAlive) (h : KeepAlive.unpack d = .ok a) :
    prelude d = .ok (a.fd, d.take a.fd.paramsEnd) ∧
    a.fd.headerLen + fssWidth a.fd.header.conf.fileFlag ≤ a.fd.paramsEnd ∧
    parse (a.fd, d.take a.fd.paramsEnd) = .ok a ∧
    a.packetLen ≤ d.length ∧ (a.fd.header.conf.crcFlag = 1 → Crc.crc16 (d.take a.packetLen) = 0) := by
  rw [unpack_eq] at h
  obtain ⟨hp, hf, h3, h4, _⟩ := bind_prelude_keeps parse (·.fd) parse_keeps d a h
  refine ⟨hp, ?_, hf, h3, h4⟩
  rw [parse_eq] at hf
  by_cases hs : (d.take a.fd.paramsEnd).length < a.fd.headerLen + fssWidth a.fd.header.conf.fileFlag
  · rw [if_pos hs] at hf; cases hf
  · rw [List.length_take] at hs; omega

theorem unpack_take (d : Bytes) (a : KeepAlive) (h : KeepAlive.unpack d = .ok a) (rest : Bytes) :
    KeepAlive.unpack (d.take a.packetLen ++ rest) = .ok a := by
  rw [unpack_eq] at h ⊢
  exact (bind_prelude_keeps parse (·.fd) parse_keeps d a h).2.2.2.2 rest

end SpVerif.KeepAlive
