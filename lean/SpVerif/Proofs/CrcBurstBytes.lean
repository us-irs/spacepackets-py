import SpVerif.Proofs.CrcResidue
/-!
# Burst errors on octet strings

The bit-level burst theorem (`burst_changes_crc`) lifted to octet strings, in a form usable for any
CRC-framed decoder: `Burst p p' k B` — `p'` is `p` with exactly the bits of `B` flipped, starting at bit offset `k`
(bit 0 = most significant bit of octet 0), the window lying inside `p`; `flipBurst p k B` is the corrupted string as
a computable function (the driver runs it).
-/
namespace SpVerif.Crc

theorem bitsOf_length (x : UInt8) : (bitsOf x).length = 8 := rfl

theorem bits_cons (x : UInt8) (p : Bytes) : bits (x :: p) = bitsOf x ++ bits p := by
  simp [bits]

@[simp] theorem bits_nil : bits [] = [] := rfl

theorem bitsOf_inj {x y : UInt8} (h : bitsOf x = bitsOf y) : x = y := by
  have hx := toNat_lt x
  have hy := toNat_lt y
  apply UInt8.toNat_inj.mp
  apply Nat.eq_of_testBit_eq
  intro i
  by_cases hi : i < 8
  · simp only [bitsOf, List.map_cons, List.map_nil, List.cons.injEq, and_true] at h
    obtain ⟨h7, h6, h5, h4, h3, h2, h1, h0⟩ := h
    have : i = 0 ∨ i = 1 ∨ i = 2 ∨ i = 3 ∨ i = 4 ∨ i = 5 ∨ i = 6 ∨ i = 7 := by omega
    rcases this with h|h|h|h|h|h|h|h <;> subst h <;> assumption
  · have e : 2 ^ 8 ≤ 2 ^ i := Nat.pow_le_pow_right (by omega) (by omega)
    rw [Nat.testBit_lt_two_pow (by omega), Nat.testBit_lt_two_pow (by omega)]

/-- the eight bits of octet `i` sit at bit positions `8 i … 8 i + 7` -/
theorem bits_chunk : ∀ (p : Bytes) (i : Nat),
    ((bits p).drop (8 * i)).take 8 = match p[i]? with | some x => bitsOf x | none => []
  | [], i => by simp
  | x :: p, 0 => by
      simp only [bits_cons, Nat.mul_zero, List.drop_zero, List.getElem?_cons_zero]
      exact List.take_left' (bitsOf_length x)
  | x :: p, i + 1 => by
      have e : 8 * (i + 1) = (bitsOf x).length + 8 * i := by rw [bitsOf_length]; omega
      rw [bits_cons, e, List.drop_append, List.drop_eq_nil_of_le (by omega), List.nil_append,
        Nat.add_sub_cancel_left]
      simp only [List.getElem?_cons_succ]
      exact bits_chunk p i

theorem bits_take : ∀ (p : Bytes) (n : Nat), bits (p.take n) = (bits p).take (8 * n)
  | [], n => by simp
  | x :: p, 0 => by simp
  | x :: p, n + 1 => by
      have e : 8 * (n + 1) = (bitsOf x).length + 8 * n := by rw [bitsOf_length]; omega
      rw [List.take_succ_cons, bits_cons, bits_cons, e, List.take_append, bits_take p n,
        List.take_of_length_le (l := bitsOf x) (by omega), Nat.add_sub_cancel_left]

theorem bits_inj : ∀ {p q : Bytes}, bits p = bits q → p = q
  | [], [], _ => rfl
  | [], _ :: _, h | _ :: _, [], h => by simpa [bits_length] using congrArg List.length h
  | x :: p, y :: q, h => by
      rw [bits_cons, bits_cons] at h
      have h1 := List.append_inj h (by simp [bitsOf_length])
      rw [bitsOf_inj h1.1, bits_inj h1.2]

/-- the octet spelled by eight bits, most significant first -/
def octetOfBits (b7 b6 b5 b4 b3 b2 b1 b0 : Bool) : UInt8 :=
  u8 (128 * b7.toNat + 64 * b6.toNat + 32 * b5.toNat + 16 * b4.toNat + 8 * b3.toNat + 4 * b2.toNat
    + 2 * b1.toNat + b0.toNat)

/-- appending a least significant bit -/
theorem testBit_snoc (y : Nat) (b : Bool) :
    (2 * y + b.toNat).testBit 0 = b ∧ ∀ i, (2 * y + b.toNat).testBit (i + 1) = y.testBit i := by
  have h1 : (2 * y + b.toNat) / 2 = y := by cases b <;> simp <;> omega
  have h2 : (2 * y + b.toNat) % 2 = b.toNat := by cases b <;> simp <;> omega
  refine ⟨?_, fun i => ?_⟩
  · rw [Nat.testBit_zero, h2]; cases b <;> rfl
  · rw [Nat.testBit_add_one, h1]

theorem bitsOf_octetOfBits (b7 b6 b5 b4 b3 b2 b1 b0 : Bool) :
    bitsOf (octetOfBits b7 b6 b5 b4 b3 b2 b1 b0) = [b7, b6, b5, b4, b3, b2, b1, b0] := by
  have e : 128 * b7.toNat + 64 * b6.toNat + 32 * b5.toNat + 16 * b4.toNat + 8 * b3.toNat + 4 * b2.toNat
      + 2 * b1.toNat + b0.toNat = 2 * (2 * (2 * (2 * (2 * (2 * (2 * (2 * 0 + b7.toNat) + b6.toNat) + b5.toNat)
      + b4.toNat) + b3.toNat) + b2.toNat) + b1.toNat) + b0.toNat := by omega
  rw [bitsOf, octetOfBits, u8_toNat, e, show 256 = 2 ^ 8 from rfl]
  simp only [List.map_cons, List.map_nil, Nat.testBit_mod_two_pow, (testBit_snoc _ _).1, (testBit_snoc _ _).2,
    Nat.reduceLT, Nat.lt_add_one, decide_true, Bool.true_and]

/-- groups of eight bits to octets (a trailing group of fewer than eight bits is dropped) -/
def packBits : List Bool → Bytes
  | b7 :: b6 :: b5 :: b4 :: b3 :: b2 :: b1 :: b0 :: rest => octetOfBits b7 b6 b5 b4 b3 b2 b1 b0 :: packBits rest
  | _ => []

theorem bits_packBits : ∀ (n : Nat) (l : List Bool), l.length = 8 * n → bits (packBits l) = l
  | 0, l, h => by
      have : l = [] := List.eq_nil_of_length_eq_zero (by omega)
      subst this; rfl
  | n + 1, l, h => by
      match l, h with
      | b7 :: b6 :: b5 :: b4 :: b3 :: b2 :: b1 :: b0 :: rest, h =>
        have hr : rest.length = 8 * n := by simp at h; omega
        simp only [packBits, bits_cons, bitsOf_octetOfBits, bits_packBits n rest hr, List.cons_append,
          List.nil_append]

/-- error pattern over `n` octets: `k` clean bits, then `B`, then clean bits up to `8 n` -/
def burstMask (n k : Nat) (B : List Bool) : List Bool :=
  List.replicate k false ++ B ++ List.replicate (8 * n - k - B.length) false

theorem burstMask_length (n k : Nat) (B : List Bool) (h : k + B.length ≤ 8 * n) :
    (burstMask n k B).length = 8 * n := by
  simp [burstMask]; omega

/-- `p'` is `p` with the bits of `B` flipped from bit offset `k` on; the window lies inside `p` -/
def Burst (p p' : Bytes) (k : Nat) (B : List Bool) : Prop :=
  k + B.length ≤ 8 * p.length ∧ bits p' = List.zipWith (· ^^ ·) (bits p) (burstMask p.length k B)

/-- the corrupted octet string, computably -/
def flipBurst (p : Bytes) (k : Nat) (B : List Bool) : Bytes :=
  packBits (List.zipWith (· ^^ ·) (bits p) (burstMask p.length k B))

theorem bits_flipBurst (p : Bytes) (k : Nat) (B : List Bool) :
    bits (flipBurst p k B) = List.zipWith (· ^^ ·) (bits p) (burstMask p.length k B) := by
  apply bits_packBits p.length
  simp [bits_length, burstMask]
  omega

theorem flipBurst_spec (p : Bytes) (k : Nat) (B : List Bool) (h : k + B.length ≤ 8 * p.length) :
    Burst p (flipBurst p k B) k B := ⟨h, bits_flipBurst p k B⟩

theorem flipBurst_length (p : Bytes) (k : Nat) (B : List Bool) : (flipBurst p k B).length = p.length := by
  have := congrArg List.length (bits_flipBurst p k B)
  simp [bits_length, burstMask] at this
  omega

/-- the corrupted string alone, in the form the "followed by any octets" theorems take -/
theorem flipBurst_nil (p : Bytes) (k : Nat) (B : List Bool) (h : k + B.length ≤ 8 * p.length) :
    Burst (p ++ []) (flipBurst p k B) k B := by
  rw [List.append_nil]; exact flipBurst_spec p k B h

theorem flipBurst_take (p : Bytes) (k : Nat) (B : List Bool) : (flipBurst p k B).take p.length = flipBurst p k B := by
  rw [← flipBurst_length p k B, List.take_length]

theorem Burst.eq_flipBurst {p p' : Bytes} {k : Nat} {B : List Bool} (h : Burst p p' k B) :
    p' = flipBurst p k B := bits_inj (by rw [h.2, bits_flipBurst])

theorem Burst.length_eq {p p' : Bytes} {k : Nat} {B : List Bool} (h : Burst p p' k B) :
    p'.length = p.length := by
  rw [h.eq_flipBurst, flipBurst_length]

private theorem zipWith_xor_false : ∀ (l : List Bool) (n : Nat), l.length ≤ n →
    List.zipWith (· ^^ ·) l (List.replicate n false) = l
  | [], _, _ => by simp
  | x :: l, 0, h => by simp at h
  | x :: l, n + 1, h => by
      simp only [List.replicate_succ, List.zipWith_cons_cons, Bool.xor_false]
      rw [zipWith_xor_false l n (by simpa using h)]

/-- the eight mask bits of an octet that the window does not meet are all clean -/
theorem burstMask_chunk_clean (n k : Nat) (B : List Bool) (i : Nat) (hi : i < n) (hout : 8 * i + 7 < k ∨ k + B.length ≤ 8 * i) :
    ((burstMask n k B).drop (8 * i)).take 8 = List.replicate 8 false := by
  unfold burstMask
  rcases hout with h | h
  · rw [List.append_assoc, List.drop_append_of_le_length (by simp; omega), List.drop_replicate,
      List.take_append_of_le_length (by simp; omega), List.take_replicate]
    congr 1; omega
  · have hl : (List.replicate k false ++ B).length ≤ 8 * i := by simp; omega
    rw [List.drop_append, List.drop_eq_nil_of_le hl, List.nil_append, List.drop_replicate, List.take_replicate]
    congr 1
    simp only [List.length_append, List.length_replicate]
    omega

/-- **octets outside the window are unchanged** -/
theorem Burst.getElem?_eq {p p' : Bytes} {k : Nat} {B : List Bool} (h : Burst p p' k B) (i : Nat)
    (hout : 8 * i + 7 < k ∨ k + B.length ≤ 8 * i) : p'[i]? = p[i]? := by
  have hlen := h.length_eq
  by_cases hi : i < p.length
  · have c := congrArg (fun l => (l.drop (8 * i)).take 8) h.2
    simp only [List.drop_zipWith, List.take_zipWith] at c
    rw [burstMask_chunk_clean p.length k B i hi hout,
      zipWith_xor_false _ 8 (by simp; omega), bits_chunk, bits_chunk] at c
    rw [List.getElem?_eq_getElem (show i < p'.length by omega), List.getElem?_eq_getElem hi] at c ⊢
    rw [bitsOf_inj c]
  · rw [List.getElem?_eq_none (by omega), List.getElem?_eq_none (by omega)]

theorem flipBurst_getElem? (p : Bytes) (k : Nat) (B : List Bool) (hin : k + B.length ≤ 8 * p.length)
    (i : Nat) (hout : 8 * i + 7 < k ∨ k + B.length ≤ 8 * i) : (flipBurst p k B)[i]? = p[i]? :=
  (flipBurst_spec p k B hin).getElem?_eq i hout

/-- a burst inside the first `n` octets of a buffer is a burst of that prefix -/
theorem Burst.take {p p' : Bytes} {k : Nat} {B : List Bool} (h : Burst p p' k B) (n : Nat)
    (hn : n ≤ p.length) (hin : k + B.length ≤ 8 * n) : Burst (p.take n) (p'.take n) k B := by
  have hl : (p.take n).length = n := by simp; omega
  refine ⟨by rw [hl]; exact hin, ?_⟩
  rw [bits_take, bits_take, h.2, List.take_zipWith, hl]
  congr 1
  unfold burstMask
  have e1 : (List.replicate k false ++ B).length ≤ 8 * n := by simp; omega
  rw [List.take_append, List.take_of_length_le e1, List.take_replicate]
  congr 2
  simp only [List.length_append, List.length_replicate]
  omega

/-- octets after the window are unchanged as a block -/
theorem Burst.drop {p p' : Bytes} {k : Nat} {B : List Bool} (h : Burst p p' k B) (n : Nat)
    (hin : k + B.length ≤ 8 * n) : p'.drop n = p.drop n := by
  apply List.ext_getElem?
  intro i
  rw [List.getElem?_drop, List.getElem?_drop]
  exact h.getElem?_eq (n + i) (Or.inr (by omega))

/-- **burst theorem on octet strings**: the register differs after the corrupted string, from any start state -/
theorem Burst.crcFrom_ne {p p' : Bytes} {k : Nat} {B : List Bool} (h : Burst p p' k B) (s : BitVec 16)
    (hB : B.length ≤ 16) (hne : B ≠ List.replicate B.length false) : crcFrom s p' ≠ crcFrom s p := by
  unfold crcFrom
  rw [h.2]
  exact burst_changes_crc s (bits p) k (8 * p.length - k - B.length) B hB hne
    (by rw [bits_length]; have := h.1; omega)

/-- **generic frame theorem**: a frame with residue zero has a non-zero residue after any burst of
    at most 16 bits (any non-zero pattern, any bit offset) -/
theorem Burst.crc_ne_zero {p p' : Bytes} {k : Nat} {B : List Bool} (h : Burst p p' k B)
    (hz : crc16 p = 0) (hB : B.length ≤ 16) (hne : B ≠ List.replicate B.length false) : crc16 p' ≠ 0 :=
  fun h0 => h.crcFrom_ne _ hB hne (h0.trans hz.symm)

/-- variant for a decoder that checks the CRC over the first `n` octets of a longer buffer -/
theorem Burst.crc_take_ne_zero {d d' : Bytes} {k : Nat} {B : List Bool} (h : Burst d d' k B) (n : Nat)
    (hn : n ≤ d.length) (hin : k + B.length ≤ 8 * n) (hz : crc16 (d.take n) = 0)
    (hB : B.length ≤ 16) (hne : B ≠ List.replicate B.length false) : crc16 (d'.take n) ≠ 0 :=
  (h.take n hn hin).crc_ne_zero hz hB hne

/-- single-bit flip = burst `[true]` -/
example : flipBurst [0x00, 0xFF] 9 [true] = [0x00, 0xBF] := by decide
example : flipBurst [0x12, 0x34, 0x56] 6 [true, false, true, true] = [0x10, 0xF4, 0x56] := by decide

end SpVerif.Crc
