import SpVerif.Model.FileData
import SpVerif.Proofs.CfdpHeader
/-!
# Characterisation lemmas for the File Data PDU model (reused by C04/C09/C10/C11/C12)

Each stage of `FileDataPdu.pack` / `unpack` as a complete case analysis in terms of the octets it
reads.
-/
namespace SpVerif.FileData
open SpVerif SpVerif.CfdpHeader

/-- length of the CRC trailer the header announces -/
def crcLen (h : PduHeader) : Nat := if h.conf.crcFlag = 1 then 2 else 0

theorem crcLen_le (h : PduHeader) : crcLen h ≤ 2 := by unfold crcLen; split <;> omega

theorem offWidth_eq (h : PduHeader) : offWidth h = if h.conf.fileFlag = 1 then 8 else 4 := by
  unfold offWidth PduHeader.largeFileFlagSet
  by_cases hf : h.conf.fileFlag = 1 <;> simp [hf]

theorem offWidth_pos (h : PduHeader) : 4 ≤ offWidth h ∧ offWidth h ≤ 8 := by
  rw [offWidth_eq]; split <;> omega

theorem calcLen_eq (p : Pdu) :
    p.calcLen = metaLen p.params.segMeta + offWidth p.header + p.params.fileData.length + crcLen p.header := rfl

/-- the offset field alone takes four octets of the 16-bit budget -/
theorem put_fileData_calcLen_gt (p : Pdu) (d : Bytes) (h : 65531 < d.length) :
    65535 < (p.put (.fileData d)).calcLen := by
  have := offWidth_pos p.header
  show 65535 < metaLen _ + offWidth p.header + d.length + _
  omega

theorem recalc_eq (p : Pdu) :
    p.recalc = if 65535 < p.calcLen then .error .value
      else .ok { p with header := { p.header with dataFieldLen := p.calcLen } } := by
  unfold Pdu.recalc
  rw [setDataFieldLen_eq]
  split <;> rfl

theorem recalc_ok {p : Pdu} (h : p.calcLen ≤ 65535) :
    p.recalc = .ok { p with header := { p.header with dataFieldLen := p.calcLen } } := by
  rw [recalc_eq, if_neg (by omega)]

theorem recalc_inv {p q : Pdu} (h : p.recalc = .ok q) :
    p.calcLen ≤ 65535 ∧ q = { p with header := { p.header with dataFieldLen := p.calcLen } } := by
  rw [recalc_eq] at h
  split at h
  · cases h
  · exact ⟨by omega, (Except.ok.inj h).symm⟩

theorem recalc_refuse {p : Pdu} (h : 65535 < p.calcLen) : p.recalc = .error .value := by
  rw [recalc_eq, if_pos h]

/-- the previous cached length plays no role -/
theorem recalc_dfl_irrel (h : PduHeader) (ps : Params) (n : Nat) :
    Pdu.recalc ⟨{ h with dataFieldLen := n }, ps⟩ = Pdu.recalc ⟨h, ps⟩ := by
  rw [recalc_eq, recalc_eq]
  rfl

theorem recalc_error (p : Pdu) (e : Err) (h : p.recalc = .error e) : e = .value := by
  rw [recalc_eq] at h
  split at h
  · cases h; rfl
  · cases h

/-- **the constructor**: source and destination IDs of one width, then `_calculate_pdu_data_field_len`
    on PDU type File Data, direction towards the receiver and the flag the params call for -/
theorem new_eq (c : PduConfig) (ps : Params) :
    Pdu.new c ps =
      if c.source.width ≠ c.dest.width then .error .value
      else Pdu.recalc ⟨⟨1, if ps.segMeta.isSome then 1 else 0, 0, { c with direction := 0 }⟩, ps⟩ := by
  show (PduHeader.new 1 _ 0 { c with direction := 0 } >>= fun h => Pdu.recalc ⟨h, ps⟩) = _
  rw [CfdpHeader.new_eq]
  by_cases hw : c.source.width ≠ c.dest.width
  · rw [if_pos (Or.inr hw), if_pos hw]; rfl
  · rw [if_neg (fun g => g.elim (by omega) hw), if_neg hw]; rfl

theorem packMeta_none : packMeta none = .ok [] := rfl

theorem packMeta_some (m : SegMeta) :
    packMeta (some m) =
      if 63 < m.metadata.length then .error .value
      else if m.state * 64 + m.metadata.length < 256 then
        .ok (u8 (m.state * 64 + m.metadata.length) :: m.metadata)
      else .error .value := by
  unfold packMeta byteOfN
  by_cases h1 : 63 < m.metadata.length
  · simp [h1, throw, throwThe, MonadExceptOf.throw, bind, Except.bind]
  · by_cases h2 : m.state * 64 + m.metadata.length < 256 <;> simp [h1, h2, bind, Except.bind, pure, Except.pure]

theorem packMeta_len {m : Option SegMeta} {md : Bytes} (h : packMeta m = .ok md) : md.length = metaLen m := by
  cases m with
  | none => cases h; rfl
  | some m =>
    rw [packMeta_some] at h
    split at h
    · cases h
    · split at h
      · cases h; exact Nat.add_comm _ 1
      · cases h

theorem packMeta_error (m : Option SegMeta) (e : Err) (h : packMeta m = .error e) : e = .value := by
  cases m with
  | none => cases h
  | some m =>
    rw [packMeta_some] at h
    split at h
    · cases h; rfl
    · split at h
      · cases h
      · cases h; rfl

theorem packBody_eq_of {p : Pdu} {hdr md : Bytes} (h1 : p.header.pack = .ok hdr)
    (h2 : packMeta p.params.segMeta = .ok md) (h3 : p.params.offset < 256 ^ offWidth p.header) :
    p.packBody = .ok (hdr ++ md ++ beBytes (offWidth p.header) p.params.offset ++ p.params.fileData) := by
  unfold Pdu.packBody
  simp only [h1, h2, packBE_ok h3, bind, Except.bind, pure, Except.pure]

theorem pack_eq_of {p : Pdu} {body : Bytes} (h : p.packBody = .ok body) :
    p.pack = .ok (if p.header.conf.crcFlag = 1 then body ++ Crc.crcTrailer body else body) := by
  unfold Pdu.pack
  simp only [h, bind, Except.bind, pure, Except.pure]
  split <;> rfl

theorem byteOfN_error {v : Nat} {e : Err} (h : byteOfN v = .error e) : e = .value := by
  unfold byteOfN at h
  split at h
  · cases h
  · cases h; rfl

/-- the header's `pack` fails only with `ValueError` -/
theorem header_pack_error (h : PduHeader) (e : Err) (he : h.pack = .error e) : e = .value := by
  unfold PduHeader.pack at he
  rcases bind_error_inv he with h0 | ⟨b0, _, he⟩
  · exact byteOfN_error h0
  · split at he
    · cases he; rfl
    · rcases bind_error_inv he with h3 | ⟨b3, _, he⟩
      · exact byteOfN_error h3
      · cases he

theorem enumOf_rcs {v : Nat} (h : v < 4) : enumOf recordContStates v = .ok v := by
  have : v = 0 ∨ v = 1 ∨ v = 2 ∨ v = 3 := by omega
  rcases this with h | h | h | h <;> simp [enumOf, recordContStates, h]

theorem parseMeta_none {h : PduHeader} (data : Bytes) (hm : h.segMeta = 0) :
    parseMeta h data = .ok (⟨h, Params.empty⟩, h.headerLen) := by
  simp [parseMeta, hm, pure, Except.pure]

/-- the object the metadata part of the decoder produces: header flag set, provisional length -/
def metaPdu (h : PduHeader) (st : Nat) (md : Bytes) : Pdu :=
  ⟨{ h with segMeta := 1, dataFieldLen := 1 + md.length + offWidth h + crcLen h }, ⟨[], 0, some ⟨st, md⟩⟩⟩

theorem parseMeta_some {h : PduHeader} (data : Bytes) (hm : h.segMeta ≠ 0) :
    parseMeta h data =
      match data.drop h.headerLen with
      | [] => .error .value
      | b :: t =>
        if t.length ≤ b.toNat % 64 then .error .value
        else .ok (metaPdu h (b.toNat / 64 % 4) (t.take (b.toNat % 64)), h.headerLen + 1 + b.toNat % 64) := by
  unfold parseMeta
  simp only [hm, ne_eq, not_false_eq_true, ↓reduceIte]
  cases hd : data.drop h.headerLen with
  | nil =>
    have hl : h.headerLen ≥ data.length := by
      have := List.drop_eq_nil_iff.mp hd; omega
    simp [hl, throw, throwThe, MonadExceptOf.throw, bind, Except.bind]
  | cons b t =>
    have hlen := congrArg List.length hd
    simp only [List.length_drop, List.length_cons] at hlen
    have g1 : ¬ h.headerLen ≥ data.length := by omega
    have i0 : idx data h.headerLen = .ok b.toNat := by
      have := idx_drop data h.headerLen 0
      rw [hd] at this
      simpa [idx] using this.symm
    have hst : b.toNat / 64 % 4 < 4 := Nat.mod_lt _ (by omega)
    simp only [g1, ↓reduceIte, i0, enumOf_rcs hst, bind, Except.bind]
    by_cases g2 : t.length ≤ b.toNat % 64
    · have : h.headerLen + 1 + b.toNat % 64 ≥ data.length := by omega
      simp [g2, this, throw, throwThe, MonadExceptOf.throw]
    · have g2' : ¬ h.headerLen + 1 + b.toNat % 64 ≥ data.length := by omega
      have hs : slice data (h.headerLen + 1) (h.headerLen + 1 + b.toNat % 64) = t.take (b.toNat % 64) := by
        have := slice_drop data h.headerLen 1 (1 + b.toNat % 64)
        rw [hd] at this
        rw [show h.headerLen + 1 + b.toNat % 64 = h.headerLen + (1 + b.toNat % 64) by omega, ← this]
        simp [slice, Nat.add_comm 1]
      have hml : b.toNat % 64 < 64 := Nat.mod_lt _ (by omega)
      have htl : (t.take (b.toNat % 64)).length = b.toNat % 64 := by simp; omega
      simp only [g2, g2', ↓reduceIte, hs, pure, Except.pure]
      unfold Pdu.setSegMeta
      have hw := offWidth_pos h
      have hc := crcLen_le h
      have hcl : (Pdu.putSegMeta ⟨h, Params.empty⟩ (some ⟨b.toNat / 64 % 4, t.take (b.toNat % 64)⟩)).calcLen
          = 1 + (t.take (b.toNat % 64)).length + offWidth h + crcLen h := by
        simp [Pdu.calcLen, Pdu.putSegMeta, metaLen, Params.empty, offWidth, PduHeader.largeFileFlagSet, crcLen]
      rw [recalc_ok (by rw [hcl, htl]; omega), hcl]
      rfl

theorem parseRest_eq (p : Pdu) (i : Nat) (data : Bytes) :
    parseRest p i data =
      if (data.drop i).length < offWidth p.header then .error .value
      else Pdu.recalc ⟨p.header, { p.params with
              offset := beNat ((data.drop i).take (offWidth p.header)),
              fileData := (data.drop i).drop (offWidth p.header) }⟩ := by
  unfold parseRest
  have hg : (data.drop i).length = data.length - i := List.length_drop
  by_cases g : (data.drop i).length < offWidth p.header
  · have : i + offWidth p.header > data.length := by omega
    rw [if_pos g]
    simp only [this, ↓reduceIte, throw, throwThe, MonadExceptOf.throw, bind, Except.bind]
  · have hw := offWidth_pos p.header
    have g' : ¬ i + offWidth p.header > data.length := by omega
    have hs : slice data i (i + offWidth p.header) = (data.drop i).take (offWidth p.header) := by
      simp [slice, List.drop_take]
    have hl : ((data.drop i).take (offWidth p.header)).length = offWidth p.header := by
      rw [List.length_take]; omega
    rw [if_neg g]
    simp only [g', ↓reduceIte, hs, unpackBE_ok hl, bind, Except.bind, sliceFrom, Pdu.setFileData,
      Pdu.putFileData, List.drop_drop]

theorem parseRest_error (p : Pdu) (i : Nat) (data : Bytes) (e : Err) (h : parseRest p i data = .error e) :
    e = .value := by
  rw [parseRest_eq] at h
  split at h
  · cases h; rfl
  · exact recalc_error _ _ h

/-- **body decoder without segment metadata**: `t` = the octets after the header -/
theorem parseBody_none {h : PduHeader} (data : Bytes) (hm : h.segMeta = 0) :
    parseBody h data =
      if (data.drop h.headerLen).length < offWidth h then .error .value
      else Pdu.recalc ⟨h, ⟨(data.drop h.headerLen).drop (offWidth h),
              beNat ((data.drop h.headerLen).take (offWidth h)), none⟩⟩ := by
  unfold parseBody
  rw [parseMeta_none data hm]
  simp only [bind, Except.bind]
  rw [parseRest_eq]
  rfl

/-- **body decoder with segment metadata**: first octet `b` = `state << 6 | len`, then `len` octets
    of metadata, then offset and file data -/
theorem parseBody_some {h : PduHeader} (data : Bytes) (hm : h.segMeta ≠ 0) :
    parseBody h data =
      match data.drop h.headerLen with
      | [] => .error .value
      | b :: t =>
        if t.length ≤ b.toNat % 64 then .error .value
        else if (t.drop (b.toNat % 64)).length < offWidth h then .error .value
        else Pdu.recalc ⟨{ h with segMeta := 1 },
              ⟨(t.drop (b.toNat % 64)).drop (offWidth h), beNat ((t.drop (b.toNat % 64)).take (offWidth h)),
               some ⟨b.toNat / 64 % 4, t.take (b.toNat % 64)⟩⟩⟩ := by
  unfold parseBody
  rw [parseMeta_some data hm]
  cases hd : data.drop h.headerLen with
  | nil => rfl
  | cons b t =>
    simp only
    by_cases g : t.length ≤ b.toNat % 64
    · simp [g, bind, Except.bind]
    · simp only [g, ↓reduceIte, bind, Except.bind]
      rw [parseRest_eq]
      have hdrop : data.drop (h.headerLen + 1 + b.toNat % 64) = t.drop (b.toNat % 64) := by
        rw [show h.headerLen + 1 + b.toNat % 64 = h.headerLen + (1 + b.toNat % 64) by omega, ← List.drop_drop, hd]
        simp [Nat.add_comm 1]
      rw [hdrop]
      have hw : offWidth (metaPdu h (b.toNat / 64 % 4) (t.take (b.toNat % 64))).header = offWidth h := rfl
      rw [hw]
      split
      · rfl
      · exact recalc_dfl_irrel { h with segMeta := 1 } _ _

theorem parseBody_error (h : PduHeader) (data : Bytes) (e : Err) (he : parseBody h data = .error e) :
    e = .value := by
  by_cases hm : h.segMeta = 0
  · rw [parseBody_none data hm] at he
    split at he
    · cases he; rfl
    · exact recalc_error _ _ he
  · rw [parseBody_some data hm] at he
    split at he
    · cases he; rfl
    · split at he
      · cases he; rfl
      · split at he
        · cases he; rfl
        · exact recalc_error _ _ he

theorem parseBody_documented (h : PduHeader) (data : Bytes) : Documented (parseBody h data) := by
  intro e he
  rw [parseBody_error h data e he]; rfl

theorem endOfData_eq (h : PduHeader) (n : Nat) : endOfData h n = n - crcLen h := by
  unfold endOfData crcLen; split <;> rfl

theorem unpack_header_error {d : Bytes} {e : Err} (hu : PduHeader.unpack d = .error e) :
    Pdu.unpack d = .error e := by
  simp [Pdu.unpack, hu, bind, Except.bind]

theorem unpack_of_header {d : Bytes} {h : PduHeader} (hu : PduHeader.unpack d = .ok h) :
    Pdu.unpack d =
      if d.length < h.packetLen then .error .value
      else if h.conf.crcFlag = 1 ∧ Crc.crc16 (d.take h.packetLen) ≠ 0 then .error .crc
      else parseBody h (d.take (h.packetLen - crcLen h)) := by
  unfold Pdu.unpack
  rw [hu, bind_ok, verify_eq]
  by_cases g1 : d.length < h.packetLen
  · rw [if_pos g1, if_pos g1]; rfl
  · by_cases g2 : h.conf.crcFlag = 1 ∧ Crc.crc16 (d.take h.packetLen) ≠ 0
    · rw [if_neg g1, if_pos g2, if_neg g1, if_pos g2]; rfl
    · rw [if_neg g1, if_neg g2, if_neg g1, if_neg g2, bind_ok, endOfData_eq]; rfl

/-- the only errors: `ValueError` (too short at some stage), `UnsupportedCfdpVersion`, `InvalidCrc` -/
theorem unpack_error (d : Bytes) (e : Err) (he : Pdu.unpack d = .error e) :
    e = .value ∨ e = .cfdpVersion ∨ e = .crc := by
  cases hu : PduHeader.unpack d with
  | error e' =>
    rw [unpack_header_error hu] at he
    cases he
    rcases CfdpHeader.unpack_error d _ hu with h | h
    · exact Or.inl h
    · exact Or.inr (Or.inl h)
  | ok h =>
    rw [unpack_of_header hu] at he
    split at he
    · cases he; exact Or.inl rfl
    · split at he
      · cases he; exact Or.inr (Or.inr rfl)
      · exact Or.inl (parseBody_error _ _ _ he)

theorem unpack_documented (d : Bytes) : Documented (Pdu.unpack d) := by
  intro e he
  rcases unpack_error d e he with rfl | rfl | rfl <;> rfl

/-- the header decoder reads nothing beyond the header -/
theorem header_unpack_append {d : Bytes} {h : PduHeader} (rest : Bytes)
    (hp : PduHeader.unpack (d.take h.headerLen ++ (d.drop h.headerLen ++ rest)) = .ok h) :
    PduHeader.unpack (d ++ rest) = .ok h := by
  have : d ++ rest = d.take h.headerLen ++ (d.drop h.headerLen ++ rest) := by
    rw [← List.append_assoc, List.take_append_drop]
  rw [this]; exact hp

/-- **the verdict and the result depend only on the declared PDU** (given that the header decoder
    has the prefix property, which C05 proves): octets after the declared PDU are never read -/
theorem unpack_append {d : Bytes} {h : PduHeader} (hu : PduHeader.unpack d = .ok h)
    (hl : h.packetLen ≤ d.length) (rest : Bytes) (hu' : PduHeader.unpack (d ++ rest) = .ok h) :
    Pdu.unpack (d ++ rest) = Pdu.unpack d := by
  rw [unpack_of_header hu, unpack_of_header hu']
  have g1 : ¬ (d ++ rest).length < h.packetLen := by simp; omega
  have g2 : ¬ d.length < h.packetLen := by omega
  have t1 : (d ++ rest).take h.packetLen = d.take h.packetLen := List.take_append_of_le_length hl
  have t2 : (d ++ rest).take (h.packetLen - crcLen h) = d.take (h.packetLen - crcLen h) :=
    List.take_append_of_le_length (by omega)
  simp only [g1, g2, ↓reduceIte, t1, t2]

/-- acceptance implies: the declared PDU lies inside the buffer and, with the CRC flag, the CRC-16
    over exactly the declared PDU is zero (C04) -/
theorem unpack_accept_crc {d : Bytes} {x : Pdu} (hx : Pdu.unpack d = .ok x) :
    ∃ h, PduHeader.unpack d = .ok h ∧ h.packetLen ≤ d.length ∧
      (h.conf.crcFlag = 1 → Crc.crc16 (d.take h.packetLen) = 0) ∧
      parseBody h (d.take (h.packetLen - crcLen h)) = .ok x := by
  cases hu : PduHeader.unpack d with
  | error e => rw [unpack_header_error hu] at hx; cases hx
  | ok h =>
    rw [unpack_of_header hu] at hx
    split at hx
    · cases hx
    · split at hx
      · cases hx
      · rename_i g1 g2
        exact ⟨h, rfl, by omega, fun hc => Decidable.not_not.mp fun hz => g2 ⟨hc, hz⟩, hx⟩

end SpVerif.FileData
