import SpVerif.Crc
/-!
# CRC theory: linearity, injectivity of the zero-input step, burst detection
All lemmas are list inductions or small case splits over `BitVec 16`; no enumeration of states.
-/
namespace SpVerif.Crc

def iter (f : α → α) : Nat → α → α
  | 0, s => s
  | n+1, s => iter f n (f s)

theorem zstep_xor (s t : BitVec 16) : zstep (s ^^^ t) = zstep s ^^^ zstep t := by
  unfold zstep
  rw [BitVec.msb_xor, BitVec.shiftLeft_xor_distrib]
  cases hs : s.msb <;> cases ht : t.msb <;> simp [BitVec.xor_assoc, BitVec.xor_comm P]

theorem zstep_zero : zstep 0 = 0 := by decide

theorem zstep_eq_zero (s : BitVec 16) (h : zstep s = 0) : s = 0 := by
  unfold zstep at h
  split at h
  · -- `s <<< 1 = P`, but bit 0 of a shifted word is 0 and bit 0 of `P` is 1
    have h0 := congrArg (fun v => v.getLsbD 0) (BitVec.xor_eq_zero_iff.mp h)
    simp [P] at h0
  · rename_i hm
    have hlt := BitVec.msb_eq_false_iff_two_mul_lt.mp (Bool.not_eq_true _ ▸ hm)
    have := congrArg BitVec.toNat h
    rw [BitVec.toNat_shiftLeft] at this
    apply BitVec.eq_of_toNat_eq
    simp at this ⊢
    omega

theorem zstep_inj {s t : BitVec 16} (h : zstep s = zstep t) : s = t :=
  BitVec.xor_eq_zero_iff.mp (zstep_eq_zero _ (by rw [zstep_xor, h]; exact BitVec.xor_self))

theorem feedBit_xor (s t : BitVec 16) (x y : Bool) :
    feedBit (s ^^^ t) (x ^^ y) = feedBit s x ^^^ feedBit t y := by
  have e : (if (x ^^ y) then TOP else 0) = (if x then TOP else 0) ^^^ (if y then TOP else 0) := by
    cases x <;> cases y <;> decide
  unfold feedBit
  rw [← zstep_xor, e]
  ac_rfl

theorem iter_zstep_eq_zero : ∀ n s, iter zstep n s = 0 → s = 0
  | 0, _, h => h
  | n+1, _, h => zstep_eq_zero _ (iter_zstep_eq_zero n _ h)

theorem iter_zstep_zero : ∀ n, iter zstep n 0 = 0
  | 0 => rfl
  | n+1 => by
      show iter zstep n (zstep 0) = 0
      rw [zstep_zero]; exact iter_zstep_zero n

theorem iter_zstep_xor : ∀ n s t, iter zstep n (s ^^^ t) = iter zstep n s ^^^ iter zstep n t
  | 0, _, _ => rfl
  | n+1, s, t => by simp [iter, zstep_xor, iter_zstep_xor n]

theorem feedBits_xor : ∀ (a b : List Bool) (s t : BitVec 16), a.length = b.length →
    feedBits (s ^^^ t) (List.zipWith (· ^^ ·) a b) = feedBits s a ^^^ feedBits t b
  | [], [], _, _, _ => rfl
  | x :: a, y :: b, s, t, h => by
      simp only [List.zipWith_cons_cons, feedBits, List.foldl_cons]
      rw [feedBit_xor]
      exact feedBits_xor a b _ _ (by simpa using h)
  | [], _ :: _, _, _, h => by simp at h
  | _ :: _, [], _, _, h => by simp at h

theorem feedBits_append (s : BitVec 16) (a b : List Bool) :
    feedBits s (a ++ b) = feedBits (feedBits s a) b := by simp [feedBits]

theorem feedBits_zeros (s : BitVec 16) : ∀ n, feedBits s (List.replicate n false) = iter zstep n s
  | 0 => rfl
  | n+1 => by
      have : feedBit s false = zstep s := by simp [feedBit]
      simp only [List.replicate_succ, feedBits, List.foldl_cons, this, iter]
      exact feedBits_zeros (zstep s) n

/-- place a bit list at the top of the register: first bit at position 15 -/
def load : List Bool → BitVec 16
  | [] => 0
  | x :: B => (if x then TOP else 0) ^^^ (load B >>> 1)

theorem top_bit (i : Nat) : TOP.getLsbD i = decide (i = 15) := by
  rw [show TOP = BitVec.twoPow 16 15 by decide, BitVec.getLsbD_twoPow]
  by_cases h : i = 15
  · subst h; decide
  · simp [h]; omega

theorem load_getLsbD : ∀ (B : List Bool) (i : Nat), i < 16 →
    (load B).getLsbD i = B.getD (15 - i) false
  | [], i, _ => by simp [load]
  | x :: B, i, h => by
      simp only [load, BitVec.getLsbD_xor, BitVec.getLsbD_ushiftRight]
      by_cases h15 : i = 15
      · subst h15
        rw [BitVec.getLsbD_of_ge (load B) (1 + 15) (by omega)]
        cases x <;> simp [top_bit]
      · rw [load_getLsbD B (1 + i) (by omega), show 15 - i = (15 - (1 + i)) + 1 by omega, List.getD_cons_succ]
        cases x <;> simp [top_bit, h15]

theorem load_low (B : List Bool) (i : Nat) (h : i + B.length < 16) : (load B).getLsbD i = false := by
  rw [load_getLsbD B i (by omega), List.getD_eq_getElem?_getD, List.getElem?_eq_none (by omega)]; rfl

theorem load_eq_zero (B : List Bool) (h : B.length ≤ 16) (h0 : load B = 0) : B = List.replicate B.length false := by
  refine List.eq_replicate_iff.mpr ⟨rfl, fun b hb => ?_⟩
  obtain ⟨j, hj, rfl⟩ := List.getElem_of_mem hb
  simpa [h0, show 15 - (15 - j) = j by omega, hj] using (load_getLsbD B (15 - j) (by omega)).symm

theorem zstep_half (v : BitVec 16) (h : v.getLsbD 0 = false) : zstep (v >>> 1) = v := by
  unfold zstep
  have hm : (v >>> 1).msb = false := by simp [BitVec.msb_eq_getLsbD_last]
  rw [hm]
  simp only [Bool.false_eq_true, ↓reduceIte]
  ext i hi
  simp only [BitVec.getElem_shiftLeft, BitVec.getElem_ushiftRight]
  by_cases h0 : i = 0
  · subst h0; simpa using h.symm
  · have : 1 + (i - 1) = i := by omega
    simp [h0, this]
    exact (BitVec.getLsbD_eq_getElem hi)

theorem feedBits_load : ∀ (B : List Bool) (s : BitVec 16), B.length ≤ 16 →
    feedBits s B = iter zstep B.length (s ^^^ load B)
  | [], s, _ => by simp [feedBits, load, iter]
  | x :: B, s, h => by
      simp only [List.length_cons] at h
      show feedBits (feedBit s x) B = iter zstep B.length (zstep (s ^^^ load (x :: B)))
      rw [feedBits_load B (feedBit s x) (by omega)]
      congr 1
      simp only [load]
      rw [← BitVec.xor_assoc, zstep_xor, zstep_half _ (load_low B 0 (by omega))]
      rfl

/-- feeding at most 16 bits from the zero state yields zero only for the all-zero pattern -/
theorem feedBits_zero_state (B : List Bool) (h : B.length ≤ 16) (h0 : feedBits 0 B = 0) :
    B = List.replicate B.length false := by
  rw [feedBits_load B 0 h, show 0 ^^^ load B = load B from BitVec.zero_xor] at h0
  exact load_eq_zero B h (iter_zstep_eq_zero _ _ h0)

/-- flipping a non-zero pattern of at most 16 adjacent bits changes the CRC register -/
theorem burst_changes_crc (s : BitVec 16) (m : List Bool) (k j : Nat) (B : List Bool)
    (hB : B.length ≤ 16) (hne : B ≠ List.replicate B.length false)
    (hlen : m.length = k + B.length + j) :
    feedBits s (List.zipWith (· ^^ ·) m (List.replicate k false ++ B ++ List.replicate j false)) ≠ feedBits s m := by
  intro h
  have hx := feedBits_xor m (List.replicate k false ++ B ++ List.replicate j false) s 0 (by simp [hlen]; omega)
  rw [show s ^^^ 0 = s from BitVec.xor_zero] at hx
  -- by linearity the mask alone, fed from state 0, ends in state 0; clocking is injective
  have hz := (BitVec.xor_right_inj _).mp ((hx.symm.trans h).trans BitVec.xor_zero.symm)
  rw [feedBits_append, feedBits_append, feedBits_zeros, feedBits_zeros, iter_zstep_zero] at hz
  exact hne (feedBits_zero_state B hB (iter_zstep_eq_zero _ _ hz))

end SpVerif.Crc
