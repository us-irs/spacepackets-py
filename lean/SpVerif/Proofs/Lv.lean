import SpVerif.Model.Lv
/-!
# The LV codec (`Model/Lv.lean`)

`CfdpLv.unpack_cons` is the decoder on every non-empty input in closed form; the other facts about
decoding are read off it.
-/
namespace SpVerif.Lv
open SpVerif

/-- decidable equality of results (for `decide` on concrete decoder runs) -/
instance instDecEqPyLv {α : Type} [DecidableEq α] : DecidableEq (Py α)
  | .ok x, .ok y => decidable_of_iff (x = y) ⟨congrArg _, Except.ok.inj⟩
  | .error x, .error y => decidable_of_iff (x = y) ⟨congrArg _, Except.error.inj⟩
  | .ok _, .error _ => isFalse nofun
  | .error _, .ok _ => isFalse nofun

theorem CfdpLv.new_ok {v : Bytes} (h : v.length ≤ 255) : CfdpLv.new v = .ok ⟨v⟩ :=
  if_neg (Nat.not_lt.2 h)

theorem CfdpLv.new_err {v : Bytes} (h : 255 < v.length) : CfdpLv.new v = .error .value :=
  if_pos h

theorem CfdpLv.pack_eq (l : CfdpLv) (h : l.value.length ≤ 255) :
    l.pack = .ok (u8 l.value.length :: l.value) := by
  unfold CfdpLv.pack
  rw [byteOfN_ok (by omega), bind_ok]
  split
  · rfl
  · rw [List.eq_nil_of_length_eq_zero (by omega : l.value.length = 0)]; rfl

theorem CfdpLv.pack_err (l : CfdpLv) (h : 255 < l.value.length) : l.pack = .error .value := by
  unfold CfdpLv.pack byteOfN
  rw [if_neg (by omega)]; rfl

theorem CfdpLv.pack_bind {β : Type} (l : CfdpLv) (k : Bytes → Py β) :
    (l.pack >>= k) = if l.value.length ≤ 255 then k (u8 l.value.length :: l.value) else .error .value := by
  split
  · rw [CfdpLv.pack_eq l ‹_›]; rfl
  · rw [CfdpLv.pack_err l (by omega)]; rfl

theorem CfdpLv.pack_length (l : CfdpLv) (b : Bytes) (h : l.pack = .ok b) : b.length = l.packetLen := by
  by_cases hl : l.value.length ≤ 255
  · rw [CfdpLv.pack_eq l hl] at h
    cases h; rfl
  · rw [CfdpLv.pack_err l (by omega)] at h; cases h

theorem CfdpLv.unpack_nil : CfdpLv.unpack [] = .error .value := rfl

theorem CfdpLv.unpack_cons (n : UInt8) (r : Bytes) :
    CfdpLv.unpack (n :: r) =
      if n.toNat ≤ r.length then .ok ⟨r.take n.toNat⟩ else .error .value := by
  have hn := toNat_lt n
  have e : CfdpLv.unpack (n :: r) =
      if 1 + n.toNat > r.length + 1 then .error .value
      else if n.toNat = 0 then CfdpLv.new [] else CfdpLv.new (slice (n :: r) 1 (1 + n.toNat)) := rfl
  rw [e]
  by_cases h : n.toNat ≤ r.length
  · rw [if_neg (by omega), if_pos h]
    by_cases h0 : n.toNat = 0
    · rw [if_pos h0, h0]; rfl
    · have hs : slice (n :: r) 1 (1 + n.toNat) = r.take n.toNat := by
        simp [slice, Nat.add_comm 1 n.toNat]
      rw [if_neg h0, hs, CfdpLv.new_ok (by rw [List.length_take]; omega)]
  · rw [if_pos (by omega), if_neg h]

theorem CfdpLv.unpack_ok_iff (d : Bytes) (l : CfdpLv) :
    CfdpLv.unpack d = .ok l ↔ ∃ n r, d = n :: r ∧ n.toNat ≤ r.length ∧ l = ⟨r.take n.toNat⟩ := by
  cases d with
  | nil => simp [CfdpLv.unpack_nil]
  | cons n r =>
    rw [CfdpLv.unpack_cons]
    constructor
    · intro h
      split at h
      · exact ⟨n, r, rfl, ‹_›, (Except.ok.inj h).symm⟩
      · cases h
    · rintro ⟨n', r', he, hn, hl⟩
      cases he
      rw [if_pos hn, hl]

theorem CfdpLv.unpack_documented (d : Bytes) : Documented (CfdpLv.unpack d) := by
  cases d with
  | nil => exact Documented.err rfl
  | cons n r => rw [CfdpLv.unpack_cons]; exact Documented.ite (Documented.ok _) (Documented.err rfl)

theorem CfdpLv.unpack_pack_append (v rest : Bytes) (h : v.length ≤ 255) :
    CfdpLv.unpack (u8 v.length :: (v ++ rest)) = .ok ⟨v⟩ := by
  have e : (u8 v.length).toNat = v.length := by rw [u8_toNat]; omega
  rw [CfdpLv.unpack_cons, e, if_pos (by simp), List.take_left]

theorem CfdpLv.unpack_append (d rest : Bytes) (l : CfdpLv) (h : CfdpLv.unpack d = .ok l) :
    CfdpLv.unpack (d ++ rest) = .ok l := by
  obtain ⟨n, r, hd, hn, hl⟩ := (CfdpLv.unpack_ok_iff d l).1 h
  subst hd
  rw [List.cons_append, CfdpLv.unpack_cons, if_pos (by rw [List.length_append]; omega), hl,
    List.take_append_of_le_length hn]

/-- a decoded LV has at most 255 value octets, lies inside the input, and the input starts with
    exactly its encoding -/
theorem CfdpLv.unpack_spec (d : Bytes) (l : CfdpLv) (h : CfdpLv.unpack d = .ok l) :
    l.value.length ≤ 255 ∧ l.packetLen ≤ d.length ∧
      d = u8 l.value.length :: l.value ++ d.drop l.packetLen := by
  obtain ⟨n, r, hd, hn, hl⟩ := (CfdpLv.unpack_ok_iff d l).1 h
  subst hd hl
  have hb := toNat_lt n
  have e : (r.take n.toNat).length = n.toNat := by rw [List.length_take]; omega
  refine ⟨by rw [e]; omega, by simp only [CfdpLv.packetLen, e, List.length_cons]; omega, ?_⟩
  simp only [CfdpLv.packetLen, e, u8_toNat_self, List.drop_succ_cons, List.cons_append,
    List.take_append_drop]

end SpVerif.Lv
