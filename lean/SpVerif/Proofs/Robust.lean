import SpVerif.Proofs.Prefix
import SpVerif.Proofs.CfdpCrcAccept
import SpVerif.Proofs.Uslp
/-!
# Helper lemmas for C10 (robust decoding)

* `Rejected x`: the computation fails, and with a documented error class.
* `prefix_rejected`: the generic route to "every strict prefix of a valid self-delimiting unit is
  rejected". A decoder `D` whose acceptance implies that a *header* decoder `H` accepted with a
  declared length inside the buffer, where `H` ignores trailing octets, rejects every strict prefix
  of an input on which `H` declares the full length.
* `Local.prefix_rejected`: the same for a unit whose own decoder is local (`Proofs/Prefix.lean`).
-/
namespace SpVerif.Robust
open SpVerif

/-- fails, and with a documented error class -/
def Rejected {α : Type} (x : Py α) : Prop := ∃ e, x = .error e ∧ e.documented = true

theorem Rejected.of_err {α : Type} {x : Py α} {e : Err} (h : x = .error e) (hd : e.documented = true) :
    Rejected x := ⟨e, h, hd⟩

theorem Rejected.of_documented {α : Type} {x : Py α} (hd : Documented x) (hn : ∀ a, x ≠ .ok a) :
    Rejected x := by
  cases hx : x with
  | ok a => exact absurd hx (hn a)
  | error e => exact ⟨e, rfl, hd e hx⟩

theorem Rejected.documented {α : Type} {x : Py α} (h : Rejected x) : Documented x := by
  obtain ⟨e, he, hd⟩ := h
  intro e' h'
  rw [he] at h'
  cases h'
  exact hd

theorem Rejected.bind {α β : Type} {x : Py α} (h : Rejected x) (f : α → Py β) : Rejected (x >>= f) := by
  obtain ⟨e, rfl, hd⟩ := h
  exact ⟨e, rfl, hd⟩

/-- **generic prefix lemma.** `D` is the decoder, `H` the (header) decoder that fixes the declared
    length `len`. If acceptance by `D` implies acceptance by `H` with the declared length inside
    the buffer, `H` ignores trailing octets, and on `p` the header declares exactly `p.length`, then
    `D` rejects `p.take k` for every `k < p.length`. -/
theorem prefix_rejected {α β : Type} (D : Bytes → Py α) (H : Bytes → Py β) (len : β → Nat)
    (hdoc : ∀ d, Documented (D d))
    (hacc : ∀ d a, D d = .ok a → ∃ b, H d = .ok b ∧ len b ≤ d.length)
    (happ : ∀ d r b, H d = .ok b → H (d ++ r) = .ok b)
    (p : Bytes) (b : β) (hp : H p = .ok b) (hb : len b = p.length) (k : Nat) (hk : k < p.length) :
    Rejected (D (p.take k)) := by
  apply Rejected.of_documented (hdoc _)
  intro a ha
  obtain ⟨b', hb', hl⟩ := hacc _ a ha
  have := happ _ (p.drop k) b' hb'
  rw [List.take_append_drop, hp] at this
  cases this
  simp only [List.length_take] at hl
  omega

open Prefix in
theorem _root_.SpVerif.Prefix.Local.prefix_rejected {α : Type} {c : Codec α} (hl : Local c)
    (hdoc : ∀ d, Documented (c.decode d)) {p : Bytes} {r : α} (hp : c.decode p = .ok r) (hr : c.len r = p.length)
    {k : Nat} (hk : k < p.length) : Rejected (c.decode (p.take k)) :=
  Robust.prefix_rejected c.decode c.decode c.len hdoc (fun d a h => ⟨a, h, (hl d a h).1⟩)
    (fun d s a h => hl.extends d a s h) p r hp hr k hk

theorem take_length_lt {l : Bytes} {k n : Nat} (hl : l.length = n) (hk : k < l.length) : (l.take k).length < n := by
  rw [List.length_take]; omega

open CfdpHeader in
theorem pdu_header_unpack_append (d r : Bytes) (h : PduHeader) (hu : PduHeader.unpack d = .ok h) :
    PduHeader.unpack (d ++ r) = .ok h :=
  Prefix.cfdpHdr_local.extends d h r hu

end SpVerif.Robust
