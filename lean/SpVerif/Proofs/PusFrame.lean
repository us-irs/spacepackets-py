import SpVerif.Proofs.CrcResidue
/-!
# What the PUS-C telecommand and telemetry packets share below their structures

Both are `primary header ‖ secondary header ‖ data ‖ CRC-16`, both decoders cut a buffer up the same way.
-/
namespace SpVerif.PusFrame
open SpVerif SpVerif.Crc

/-- octet 0 of a PUS-C secondary header: version 2 in the high nibble -/
theorem octet0 (a : Nat) (h : a < 16) : (32 + a) % 256 / 16 = 2 ∧ (32 + a) % 256 % 16 = a := by omega

theorem be16_join (v : Nat) (h : v < 65536) : v / 256 % 256 * 256 + v % 256 % 256 = v := by omega

/-- the pieces the decoders take out of `d = hdr ‖ sec ‖ data ‖ CRC ‖ rest`, with a 6-octet `hdr` and `k` octets `sec` -/
theorem cut {hdr sec data body : Bytes} {k : Nat} (hb : body = hdr ++ sec ++ data) (h6 : hdr.length = 6)
    (hk : sec.length = k) (rest : Bytes) :
    body ++ crcTrailer body ++ rest = hdr ++ (sec ++ (data ++ crcTrailer body ++ rest)) ∧
    (body ++ crcTrailer body ++ rest).drop 6 = sec ++ (data ++ crcTrailer body ++ rest) ∧
    (body ++ crcTrailer body ++ rest).length = data.length + (k + 8) + rest.length ∧
    (body ++ crcTrailer body ++ rest).take (data.length + (k + 8)) = body ++ crcTrailer body ∧
    slice (body ++ crcTrailer body ++ rest) (k + 6) (data.length + (k + 8) - 2) = data := by
  subst hb hk
  have hl : (hdr ++ sec ++ data ++ crcTrailer (hdr ++ sec ++ data)).length = data.length + (sec.length + 8) := by
    simp only [List.length_append, h6, show (crcTrailer _).length = 2 from rfl]; omega
  refine ⟨by simp only [List.append_assoc], ?_, by rw [List.length_append, hl], ?_, ?_⟩
  · rw [← h6]; simp only [List.append_assoc, List.drop_left]
  · rw [← hl, List.take_left]
  · rw [show sec.length + 6 = (hdr ++ sec).length by rw [List.length_append, h6, Nat.add_comm],
      show data.length + (sec.length + 8) - 2 = (hdr ++ sec).length + data.length by rw [List.length_append, h6]; omega,
      List.append_assoc _ (crcTrailer _)]
    exact slice_eq_of_append _ _ _

end SpVerif.PusFrame
