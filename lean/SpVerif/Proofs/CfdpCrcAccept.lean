import SpVerif.Model.CfdpFront
import SpVerif.Proofs.CfdpHeader
import SpVerif.Proofs.CrcBurstBytes
/-!
# What acceptance by the CFDP front (header + `verify_length_and_checksum`) says about the CRC

`cfdpDeclaredLen d`, `cfdpCrcFlag d` — PDU length and CRC flag as functions of octets 0–3 only.
-/
namespace SpVerif.CfdpCrc
open SpVerif SpVerif.CfdpHeader SpVerif.CfdpFront

def oct (d : Bytes) (i : Nat) : Nat := (d[i]?.getD 0).toNat

/-- header length declared by the width codes in octet 3 -/
def cfdpHeaderLen (d : Bytes) : Nat := 4 + 2 * (oct d 3 / 16 % 8 + 1) + (oct d 3 % 8 + 1)
/-- total PDU length: data-field length (octets 1–2) + header length -/
def cfdpDeclaredLen (d : Bytes) : Nat := oct d 1 * 256 + oct d 2 + cfdpHeaderLen d
/-- the CRC flag (bit 1 of octet 0) -/
def cfdpCrcFlag (d : Bytes) : Nat := oct d 0 / 2 % 2

/-- window `[k, k + len)` does not meet octets 0–3 -/
def AvoidsFixedHeader (k : Nat) : Prop := 32 ≤ k

instance (k : Nat) : Decidable (AvoidsFixedHeader k) := by unfold AvoidsFixedHeader; infer_instance

theorem fixed_congr {d d' : Bytes} (h : ∀ i, i < 4 → d'[i]? = d[i]?) :
    cfdpHeaderLen d' = cfdpHeaderLen d ∧ cfdpDeclaredLen d' = cfdpDeclaredLen d ∧ cfdpCrcFlag d' = cfdpCrcFlag d := by
  simp only [cfdpHeaderLen, cfdpDeclaredLen, cfdpCrcFlag, oct, h 0 (by omega), h 1 (by omega), h 2 (by omega),
    h 3 (by omega), and_self]

/-- the header decoder reads length, CRC flag and header length off octets 0–3 -/
theorem unpack_fixed {d : Bytes} {h : PduHeader} (hu : PduHeader.unpack d = .ok h) :
    h.packetLen = cfdpDeclaredLen d ∧ h.conf.crcFlag = cfdpCrcFlag d ∧ h.headerLen = cfdpHeaderLen d ∧
    h.headerLen ≤ d.length := by
  obtain ⟨x0, x1, x2, x3, r, rfl, _, _, _, hl, rfl⟩ := unpack_ok_inv hu
  exact ⟨rfl, rfl, rfl, by simp only [decoded, PduHeader.headerLen, List.length_cons]; omega⟩

/-- whether the header decoder accepts depends on octets 0 and 3 and the buffer length only -/
theorem unpack_ok_of_fixed {d d' : Bytes} {h : PduHeader} (hu : PduHeader.unpack d = .ok h)
    (hl : d'.length = d.length) (hf : ∀ i, i < 4 → d'[i]? = d[i]?) : ∃ h', PduHeader.unpack d' = .ok h' := by
  obtain ⟨x0, x1, x2, x3, r, rfl, g1, g2, g3, g4, -⟩ := unpack_ok_inv hu
  obtain ⟨y0, y1, y2, y3, r', rfl⟩ := exists_cons4 d' (by rw [hl]; exact Nat.le_add_left 4 _)
  cases Option.some.inj (hf 0 (by omega))
  cases Option.some.inj (hf 3 (by omega))
  rw [unpack_cons4, if_neg (not_not_intro g1), if_neg (not_not_intro g2), if_neg (not_not_intro g3),
    if_neg (by simp only [List.length_cons] at hl; omega)]
  exact ⟨_, rfl⟩

/-- **acceptance implies CRC** for `verify_length_and_checksum` with the CRC flag set -/
theorem verify_accept_crc {h : PduHeader} {d : Bytes} {n : Nat} (hv : h.verifyLengthAndChecksum d = .ok n)
    (hc : h.conf.crcFlag = 1) : n = h.packetLen ∧ h.packetLen ≤ d.length ∧ Crc.crc16 (d.take h.packetLen) = 0 := by
  obtain ⟨h1, h2, h3⟩ := (verify_ok_iff h d n).mp hv
  exact ⟨h1, h2, h3 hc⟩

theorem pduFront_ok_iff (d : Bytes) (h : PduHeader) :
    pduFront d = .ok h ↔ PduHeader.unpack d = .ok h ∧ ∃ n, h.verifyLengthAndChecksum d = .ok n := by
  unfold pduFront
  constructor
  · intro ha
    obtain ⟨h0, hu, ha⟩ := bind_ok_inv ha
    obtain ⟨n, hv, ha⟩ := bind_ok_inv ha
    cases ha
    exact ⟨hu, n, hv⟩
  · rintro ⟨hu, n, hv⟩
    rw [hu, bind_ok, hv]; rfl

/-- **front: acceptance of a CRC-flagged PDU implies residue zero over exactly the declared PDU** -/
theorem front_accept_crc {d : Bytes} {h : PduHeader} (ha : pduFront d = .ok h) (hc : cfdpCrcFlag d = 1) :
    h.packetLen = cfdpDeclaredLen d ∧ cfdpDeclaredLen d ≤ d.length ∧ Crc.crc16 (d.take (cfdpDeclaredLen d)) = 0 := by
  obtain ⟨hu, n, hv⟩ := (pduFront_ok_iff d h).mp ha
  obtain ⟨e1, e2, _, _⟩ := unpack_fixed hu
  obtain ⟨_, h2, h3⟩ := verify_accept_crc hv (by rw [e2]; exact hc)
  rw [e1] at h2 h3
  exact ⟨e1, h2, h3⟩

/-- a burst that avoids octets 0–3 leaves them unchanged -/
theorem burst_fixed {d d' : Bytes} {k : Nat} {B : List Bool} (hb : Crc.Burst d d' k B) (hav : AvoidsFixedHeader k) :
    ∀ i, i < 4 → d'[i]? = d[i]? := by
  intro i hi
  exact hb.getElem?_eq i (Or.inl (by unfold AvoidsFixedHeader at hav; omega))

/-- **burst on an accepted CRC-flagged PDU**: the header still decodes (to a header with the same
    declared length, header length and CRC flag), and `verify_length_and_checksum` raises `InvalidCrc`. -/
theorem burst_verify_crc {d d' : Bytes} {h : PduHeader} {k : Nat} {B : List Bool}
    (ha : pduFront d = .ok h) (hc : cfdpCrcFlag d = 1) (hb : Crc.Burst d d' k B)
    (hB : B.length ≤ 16) (hne : B ≠ List.replicate B.length false)
    (hin : k + B.length ≤ 8 * cfdpDeclaredLen d) (hav : AvoidsFixedHeader k) :
    ∃ h', PduHeader.unpack d' = .ok h' ∧ h'.packetLen = h.packetLen ∧ h'.headerLen = h.headerLen ∧
      h'.conf.crcFlag = 1 ∧ h'.verifyLengthAndChecksum d' = .error .crc ∧
      Crc.crc16 (d'.take (cfdpDeclaredLen d')) ≠ 0 := by
  obtain ⟨hu, _, _⟩ := (pduFront_ok_iff d h).mp ha
  obtain ⟨e1, hle, hz⟩ := front_accept_crc ha hc
  have hf := burst_fixed hb hav
  obtain ⟨f1, f2, f3⟩ := fixed_congr hf
  obtain ⟨h', hu'⟩ := unpack_ok_of_fixed hu hb.length_eq hf
  obtain ⟨g1, g2, g3, _⟩ := unpack_fixed hu'
  rw [f2] at g1
  rw [f3, hc] at g2
  have hne0 := hb.crc_take_ne_zero _ hle hin hz hB hne
  refine ⟨h', hu', g1.trans e1.symm, g3.trans (f1.trans (unpack_fixed hu).2.2.1.symm), g2, ?_, by rw [f2]; exact hne0⟩
  rw [verify_eq, if_neg (by rw [g1, hb.length_eq]; omega), if_pos ⟨g2, by rw [g1]; exact hne0⟩]

/-- every decoder built on the front fails with `InvalidCrc` when the front does -/
theorem front_bind_error {α : Type} {d : Bytes} {e : Err} (he : pduFront d = .error e) (body : PduHeader → Py α) :
    (pduFront d >>= body) = .error e := by
  rw [he]; rfl

/-- the file-directive front accepts only what the plain front accepts, with room for the directive code -/
theorem directiveFront_ok {d : Bytes} {h : PduHeader} {c : Nat} (ha : directiveFront d = .ok (h, c)) :
    pduFront d = .ok h ∧ h.headerLen + 1 ≤ d.length := by
  unfold directiveFront at ha
  obtain ⟨h0, hu, ha⟩ := bind_ok_inv ha
  dsimp only at ha
  obtain ⟨g, ha⟩ := guard_ok_inv ha
  obtain ⟨_, _, ha⟩ := bind_ok_inv ha
  obtain ⟨n, hv, ha⟩ := bind_ok_inv ha
  cases ha
  exact ⟨(pduFront_ok_iff d h).mpr ⟨hu, n, hv⟩, by omega⟩

/-- the front on a burst-corrupted accepted PDU: `InvalidCrc` -/
theorem burst_front_crc {d d' : Bytes} {h : PduHeader} {k : Nat} {B : List Bool}
    (ha : pduFront d = .ok h) (hc : cfdpCrcFlag d = 1) (hb : Crc.Burst d d' k B)
    (hB : B.length ≤ 16) (hne : B ≠ List.replicate B.length false)
    (hin : k + B.length ≤ 8 * cfdpDeclaredLen d) (hav : AvoidsFixedHeader k) : pduFront d' = .error .crc := by
  obtain ⟨h', hu', _, _, _, hv', _⟩ := burst_verify_crc ha hc hb hB hne hin hav
  simp [pduFront, hu', hv', bind, Except.bind]

theorem burst_directiveFront_crc {d d' : Bytes} {h : PduHeader} {c k : Nat} {B : List Bool}
    (ha : directiveFront d = .ok (h, c)) (hc : cfdpCrcFlag d = 1) (hb : Crc.Burst d d' k B)
    (hB : B.length ≤ 16) (hne : B ≠ List.replicate B.length false)
    (hin : k + B.length ≤ 8 * cfdpDeclaredLen d) (hav : AvoidsFixedHeader k) : directiveFront d' = .error .crc := by
  obtain ⟨hf, hroom⟩ := directiveFront_ok ha
  obtain ⟨h', hu', _, hh, _, hv', _⟩ := burst_verify_crc hf hc hb hB hne hin hav
  have g : ¬ h'.headerLen + 1 > d'.length := by rw [hh, hb.length_eq]; omega
  simp only [directiveFront, hu', bind, Except.bind, g, ↓reduceIte,
    idx_ok (show h'.headerLen < d'.length by omega), hv']

end SpVerif.CfdpCrc
