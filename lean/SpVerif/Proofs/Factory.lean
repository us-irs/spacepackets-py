import SpVerif.Model.Factory
import SpVerif.Props.C05
import SpVerif.Proofs.FileDirective
import SpVerif.Proofs.Ack
import SpVerif.Proofs.Prompt
import SpVerif.Proofs.KeepAlive
import SpVerif.Proofs.Nak
import SpVerif.Proofs.FileData
import SpVerif.Props.C07
import SpVerif.Proofs.Eof
import SpVerif.Proofs.Finished
import SpVerif.Proofs.Metadata
/-!
# Lemmas about the PDU factory model (`Model/Factory.lean`)

What the inspectors and the factory do on a buffer whose fixed header decodes: the directive octet
is read at `header_len` of the *decoded* header (`header_len_from_raw` agrees with it for every
width combination, `C05_header_len_from_raw`), and the `elif` chain hands the buffer to one decoder
per directive octet. Whatever the factory returns is *canonical* (`AnyPdu.Canonical`): the holder's
matching accessor returns it.
-/
namespace SpVerif.Factory
open SpVerif SpVerif.CfdpHeader SpVerif.FileDirective SpVerif.Props

theorem pduType_nil : pduType [] = .error .value := rfl

theorem pduType_cons (x : UInt8) (r : Bytes) : pduType (x :: r) = .ok (x.toNat / 16 % 2) := by
  simp [pduType, idx, bind, Except.bind, pure, Except.pure]

theorem pduType_lt (d : Bytes) (t : Nat) (h : pduType d = .ok t) : t < 2 := by
  cases d with
  | nil => cases h
  | cons x r => rw [pduType_cons] at h; cases h; omega

theorem pduType_documented (d : Bytes) : Documented (pduType d) := by
  cases d with
  | nil => exact Documented.err rfl
  | cons x r => rw [pduType_cons]; exact Documented.ok _

theorem isFileDirective_nil : isFileDirective [] = .error .value := rfl

theorem isFileDirective_cons (x : UInt8) (r : Bytes) :
    isFileDirective (x :: r) = .ok (x.toNat / 16 % 2 == 0) := by
  simp [isFileDirective, pduType_cons, bind, Except.bind, pure, Except.pure, FILE_DIRECTIVE]

theorem isFileDirective_eq (d : Bytes) :
    isFileDirective d = (pduType d >>= fun t => pure (t == 0)) := rfl

theorem isFileDirective_documented (d : Bytes) : Documented (isFileDirective d) := by
  cases d with
  | nil => exact Documented.err rfl
  | cons x r => rw [isFileDirective_cons]; exact Documented.ok _

theorem pduType_of_header (d : Bytes) (h : PduHeader) (hu : PduHeader.unpack d = .ok h) :
    pduType d = .ok h.pduType := by
  obtain ⟨x0, x1, x2, x3, r, rfl, _, _, _, _, rfl⟩ := unpack_ok_inv hu
  exact pduType_cons x0 _

/-- `DirectiveType(octet)`, wrapped as the inspector returns it -/
def directiveOf (c : Nat) : Py (Option Nat) := do
  let c ← enumOf directiveTypes c
  pure (some c)

theorem directiveOf_eq (c : Nat) :
    directiveOf c = if c ∈ directiveTypes then .ok (some c) else .error .value := by
  unfold directiveOf enumOf
  split <;> rfl

theorem directiveOf_documented (c : Nat) : Documented (directiveOf c) := by
  rw [directiveOf_eq]; split
  · exact Documented.ok _
  · exact Documented.err rfl

theorem pduDirectiveType_cons (x : UInt8) (r : Bytes) :
    pduDirectiveType (x :: r) =
      if x.toNat / 16 % 2 ≠ 0 then .ok none
      else headerLenFromRaw (x :: r) >>= fun hl =>
        if (x :: r).length ≤ hl then .error .value else idx (x :: r) hl >>= directiveOf := by
  unfold pduDirectiveType
  rw [isFileDirective_cons]
  by_cases h0 : x.toNat / 16 % 2 = 0
  · simp only [h0, bind, Except.bind, pure, Except.pure]
    cases headerLenFromRaw (x :: r) with
    | error e => rfl
    | ok hl =>
      by_cases g : (x :: r).length ≤ hl
      · simp only [g, ↓reduceIte, throw, throwThe, MonadExceptOf.throw]
        rfl
      · simp only [g, ↓reduceIte]
        cases idx (x :: r) hl <;> rfl
  · have : (x.toNat / 16 % 2 == 0) = false := by simpa using h0
    simp [h0, this, bind, Except.bind, pure, Except.pure]

theorem pduDirectiveType_nil : pduDirectiveType [] = .error .value := rfl

theorem pduDirectiveType_documented (d : Bytes) : Documented (pduDirectiveType d) := by
  cases d with
  | nil => exact Documented.err rfl
  | cons x r =>
    rw [pduDirectiveType_cons]
    split
    · exact Documented.ok _
    · apply Documented.bind (headerLenFromRaw_documented _)
      intro hl _
      split
      · exact Documented.err rfl
      · apply Documented.bind
        · intro e he
          unfold idx at he
          split at he <;> cases he
          rename_i hn
          simp only [List.getElem?_eq_none_iff] at hn
          omega
        · intro c _; exact directiveOf_documented c

/-- on a buffer whose fixed header decodes: the directive octet is the one right behind the header
    (`header_len_from_raw` = `header_len` of the decoded header, for every width combination) -/
theorem pduDirectiveType_of_header (d : Bytes) (h : PduHeader) (hu : PduHeader.unpack d = .ok h) :
    pduDirectiveType d =
      if h.pduType ≠ 0 then .ok none
      else if d.length ≤ h.headerLen then .error .value
      else idx d h.headerLen >>= directiveOf := by
  have hl := C05.C05_header_len_from_raw d h hu
  obtain ⟨x0, x1, x2, x3, r, rfl, _, _, _, _, rfl⟩ := unpack_ok_inv hu
  rw [pduDirectiveType_cons, hl]
  rfl

theorem fromRaw_nil : fromRaw [] = .error .value := rfl

theorem fromRaw_cons (x : UInt8) (r : Bytes) :
    fromRaw (x :: r) =
      if x.toNat / 16 % 2 ≠ 0 then decodeAs .fileData (x :: r)
      else pduDirectiveType (x :: r) >>= fun dir => dispatch dir (x :: r) := by
  unfold fromRaw
  rw [isFileDirective_cons]
  by_cases h0 : x.toNat / 16 % 2 = 0
  · simp [h0, bind, Except.bind]
  · have : (x.toNat / 16 % 2 == 0) = false := by simpa using h0
    simp [h0, this, bind, Except.bind]

theorem fromRaw_of_header (d : Bytes) (h : PduHeader) (hu : PduHeader.unpack d = .ok h) :
    fromRaw d =
      if h.pduType ≠ 0 then decodeAs .fileData d
      else if d.length ≤ h.headerLen then .error .value
      else idx d h.headerLen >>= directiveOf >>= fun dir => dispatch dir d := by
  have ht := pduType_of_header d h hu
  have hd := pduDirectiveType_of_header d h hu
  cases d with
  | nil => cases ht
  | cons x r =>
    rw [pduType_cons] at ht
    have e : x.toNat / 16 % 2 = h.pduType := Except.ok.inj ht
    rw [fromRaw_cons, hd, e]
    by_cases h0 : h.pduType = 0
    · simp only [h0, ne_eq, not_true_eq_false, ↓reduceIte]
      split <;> rfl
    · simp only [h0, ne_eq, not_false_eq_true, ↓reduceIte]

theorem fromRaw_fileData (d : Bytes) (h : PduHeader) (hu : PduHeader.unpack d = .ok h)
    (ht : h.pduType ≠ 0) : fromRaw d = (fun x => some (AnyPdu.fileData x)) <$> FileData.Pdu.unpack d := by
  rw [fromRaw_of_header d h hu, if_pos ht]
  simp only [decodeAs, decoderOf]
  cases FileData.Pdu.unpack d <;> rfl

/-- file directive with directive octet `c`: `DirectiveType(c)`, then the decoder of that directive -/
theorem fromRaw_directive (d : Bytes) (h : PduHeader) (hu : PduHeader.unpack d = .ok h)
    (ht : h.pduType = 0) (c : Nat) (hc : idx d h.headerLen = .ok c) :
    pduDirectiveType d = directiveOf c ∧ fromRaw d = directiveOf c >>= fun dir => dispatch dir d := by
  have hl : ¬ d.length ≤ h.headerLen := by
    intro hle; rw [idx_err hle] at hc; cases hc
  constructor
  · rw [pduDirectiveType_of_header d h hu, if_neg (by omega), if_neg hl, hc]; rfl
  · rw [fromRaw_of_header d h hu, if_neg (by omega), if_neg hl, hc]; rfl

/-- the `elif` chain selects the decoder of the kind whose directive code it is given, or nothing -/
theorem dispatch_cases (dir : Option Nat) (d : Bytes) :
    dispatch dir d = .ok none ∨ ∃ k : Kind, dir = k.code ∧ dispatch dir d = decodeAs k d := by
  unfold dispatch
  by_cases h1 : dir = some DIR_EOF
  · exact Or.inr ⟨.eof, h1, if_pos h1⟩
  rw [if_neg h1]
  by_cases h2 : dir = some DIR_METADATA
  · exact Or.inr ⟨.metadata, h2, if_pos h2⟩
  rw [if_neg h2]
  by_cases h3 : dir = some DIR_FINISHED
  · exact Or.inr ⟨.finished, h3, if_pos h3⟩
  rw [if_neg h3]
  by_cases h4 : dir = some DIR_ACK
  · exact Or.inr ⟨.ack, h4, if_pos h4⟩
  rw [if_neg h4]
  by_cases h5 : dir = some DIR_NAK
  · exact Or.inr ⟨.nak, h5, if_pos h5⟩
  rw [if_neg h5]
  by_cases h6 : dir = some DIR_KEEP_ALIVE
  · exact Or.inr ⟨.keepAlive, h6, if_pos h6⟩
  rw [if_neg h6]
  by_cases h7 : dir = some DIR_PROMPT
  · exact Or.inr ⟨.prompt, h7, if_pos h7⟩
  rw [if_neg h7]
  exact Or.inl rfl

/-- the directive octet of a kind is a member of `DirectiveType` and selects that kind's decoder -/
theorem dispatch_code (k : Kind) (c : Nat) (h : k.code = some c) (d : Bytes) :
    directiveOf c = .ok (some c) ∧ (directiveOf c >>= fun dir => dispatch dir d) = decodeAs k d := by
  cases k <;> cases h <;> exact ⟨rfl, rfl⟩

theorem directiveOf_unknown (c : Nat) (hc : c ∉ directiveTypes) : directiveOf c = .error .value := by
  rw [directiveOf_eq, if_neg hc]

theorem directiveOf_member (c : Nat) (hc : c ∈ directiveTypes) : directiveOf c = .ok (some c) := by
  rw [directiveOf_eq, if_pos hc]

theorem idx_take (d : Bytes) (k i : Nat) (h : i < k) : idx (d.take k) i = idx d i := by
  simp [idx, h]

/-- a file directive cut to `k` octets: refused (`ValueError`) up to and including the header, and
    handed to the decoder of the directive octet beyond it -/
theorem fromRaw_take_directive (d : Bytes) (h : PduHeader) (hu : PduHeader.unpack d = .ok h)
    (ht : h.pduType = 0) (c : Nat) (hc : idx d h.headerLen = .ok c) (k : Nat) (hk : k ≤ d.length) :
    fromRaw (d.take k) =
      if k ≤ h.headerLen then .error .value
      else directiveOf c >>= fun dir => dispatch dir (d.take k) := by
  have hhl : 4 ≤ h.headerLen := headerLen_ge h
  obtain ⟨x0, x1, x2, x3, r, rfl, _, _, _, _, eh⟩ := unpack_ok_inv hu
  have e0 : x0.toNat / 16 % 2 = 0 := by rw [eh] at ht; exact ht
  have ehl : 4 + 2 * (x3.toNat / 16 % 8 + 1) + (x3.toNat % 8 + 1) = h.headerLen := by rw [eh]; rfl
  have short : ∀ t : Bytes, (x0 :: t).length < 4 → fromRaw (x0 :: t) = .error .value := fun t hl => by
    rw [fromRaw_cons, if_neg (by omega), pduDirectiveType_cons, if_neg (by omega), headerLenFromRaw_short _ hl]
    rfl
  match k, hk with
  | 0, _ => rw [if_pos (by omega)]; rfl
  | 1, _ => rw [if_pos (by omega)]; exact short [] (by simp)
  | 2, _ => rw [if_pos (by omega)]; exact short [x1] (by simp)
  | 3, _ => rw [if_pos (by omega)]; exact short [x1, x2] (by simp)
  | k + 4, hk =>
    have et : (x0 :: x1 :: x2 :: x3 :: r).take (k + 4) = x0 :: x1 :: x2 :: x3 :: r.take k := by
      simp [List.take_succ_cons]
    have el : (x0 :: x1 :: x2 :: x3 :: r.take k).length = k + 4 := by
      simp only [List.length_cons, List.length_take] at hk ⊢; omega
    rw [et, fromRaw_cons, if_neg (by omega), pduDirectiveType_cons, if_neg (by omega), headerLenFromRaw_cons4, ehl]
    show (if (x0 :: x1 :: x2 :: x3 :: r.take k).length ≤ h.headerLen then _ else _) >>= _ = _
    rw [el]
    by_cases hle : k + 4 ≤ h.headerLen
    · rw [if_pos hle, if_pos hle]; rfl
    · rw [if_neg hle, if_neg hle, ← et, idx_take _ _ _ (by omega), hc]
      rfl

theorem documented_map {α β : Type} (f : α → β) {x : Py α} (h : Documented x) : Documented (f <$> x) := by
  cases x with
  | ok a => exact Documented.ok _
  | error e => intro e' he; cases he; exact h e rfl

/-- the decoder of every kind fails only with documented errors (C06 / C07) -/
theorem decodeAs_documented (k : Kind) (d : Bytes) : Documented (decodeAs k d) := by
  cases k <;> simp only [decodeAs, decoderOf]
  · exact documented_map _ (documented_map _ (FileData.unpack_documented d))
  · exact documented_map _ (documented_map _ (Eof.unpack_documented d))
  · exact documented_map _ (documented_map _ (Finished.unpack_documented d))
  · exact documented_map _ (documented_map _ (Ack.unpack_documented d))
  · exact documented_map _ (documented_map _ (Metadata.unpack_documented d))
  · exact documented_map _ (documented_map _ (Nak.unpack_documented d))
  · exact documented_map _ (documented_map _ (Prompt.unpack_documented d))
  · exact documented_map _ (documented_map _ (KeepAlive.unpack_documented d))

theorem dispatch_documented (dir : Option Nat) (d : Bytes) : Documented (dispatch dir d) := by
  rcases dispatch_cases dir d with h | ⟨k, _, h⟩ <;> rw [h]
  · exact Documented.ok _
  · exact decodeAs_documented k d

theorem fromRaw_documented (d : Bytes) : Documented (fromRaw d) := by
  cases d with
  | nil => exact Documented.err rfl
  | cons x r =>
    rw [fromRaw_cons]
    split
    · exact decodeAs_documented _ _
    · apply Documented.bind (pduDirectiveType_documented _)
      intro dir _
      exact dispatch_documented dir _

/-- the objects the library itself builds (constructors, factory), as opposed to objects obtained by
    calling the decoder of one class on the octets of another kind: a File Data object carries the
    File Data type bit, a Prompt / EOF object its own directive code (the three classes whose
    `pdu_type` / `directive_type` views read stored values) -/
def AnyPdu.Canonical : AnyPdu → Prop
  | .fileData x => x.header.pduType = FILE_DATA
  | .prompt x => x.fd.code = DIR_PROMPT
  | .eof x => x.fd.code = DIR_EOF
  | _ => True

instance (p : AnyPdu) : Decidable p.Canonical := by
  cases p <;> (unfold AnyPdu.Canonical; infer_instance)

theorem decodeAs_inv (k : Kind) (d : Bytes) (p : AnyPdu) (h : decodeAs k d = .ok (some p)) :
    decoderOf k d = .ok p := by
  unfold decodeAs at h
  obtain ⟨q, hq, he⟩ := map_ok_inv h
  cases he
  exact hq

/-- the directive code stored by a directive decoder is the octet `pdu_directive_type` reads -/
theorem code_of_prelude (d : Bytes) (fd : FileDirective) (q : Bytes) (c : Nat)
    (hp : prelude d = .ok (fd, q)) (hd : pduDirectiveType d = .ok (some c)) : fd.code = c := by
  obtain ⟨hu, hi, _⟩ := (prelude_ok_iff d fd q).mp hp
  rw [pduDirectiveType_of_header d fd.header hu] at hd
  split at hd
  · cases hd
  · split at hd
    · cases hd
    · rw [hi, bind_ok, directiveOf_eq] at hd
      split at hd
      · cases hd; rfl
      · cases hd

/-- **whatever the factory returns, for whatever input, is an object of the kind the octets name**:
    its `pdu_type` is the type bit, its class is the one of the directive octet, and it is canonical -/
theorem fromRaw_sound (d : Bytes) (p : AnyPdu) (h : fromRaw d = .ok (some p)) :
    p.Canonical ∧ pduType d = .ok p.pduType ∧ pduDirectiveType d = .ok p.kind.code := by
  cases d with
  | nil => cases h
  | cons x r =>
    rw [fromRaw_cons] at h
    by_cases h0 : x.toNat / 16 % 2 = 0
    · rw [if_neg (by omega)] at h
      cases hd : pduDirectiveType (x :: r) with
      | error e => rw [hd] at h; cases h
      | ok dir =>
        rw [hd] at h
        change dispatch dir (x :: r) = _ at h
        rw [pduType_cons, h0]
        rcases dispatch_cases dir (x :: r) with hn | ⟨k, rfl, hk⟩
        · rw [hn] at h; cases h
        · have hx := decodeAs_inv _ _ _ (hk.symm.trans h)
          cases k with
          | fileData => cases h
          | eof =>
            obtain ⟨a, ha, rfl⟩ := map_ok_inv hx
            obtain ⟨fd, q, hp, hf, _⟩ := Eof.unpack_inv _ a ha
            exact ⟨((Eof.parse_fd fd q a hf).2.1).trans (code_of_prelude _ _ _ _ hp hd), rfl, rfl⟩
          | prompt =>
            obtain ⟨a, ha, rfl⟩ := map_ok_inv hx
            exact ⟨code_of_prelude _ _ _ _ (Prompt.unpack_inv _ a ha).1 hd, rfl, rfl⟩
          | _ => obtain ⟨a, _, rfl⟩ := map_ok_inv hx; exact ⟨trivial, rfl, rfl⟩
    · rw [if_pos h0] at h
      have hx : AnyPdu.fileData <$> FileData.Pdu.unpack (x :: r) = .ok p := decodeAs_inv _ _ _ h
      obtain ⟨a, ha, rfl⟩ := map_ok_inv hx
      obtain ⟨_, _, _, hu⟩ := C07.C07_decode_encode _ a ha
      have ht := pduType_of_header _ _ hu
      have hlt := pduType_lt _ _ ht
      have e : x.toNat / 16 % 2 = a.header.pduType := Except.ok.inj ((pduType_cons x r).symm.trans ht)
      exact ⟨show a.header.pduType = 1 by omega, ht,
        by rw [pduDirectiveType_of_header _ _ hu, if_pos (by omega)]; rfl⟩

theorem castTo_none (k : Kind) : Holder.castTo k none = .error .type := rfl

/-- a canonical held object: success exactly for its own kind, returning the held object itself;
    `TypeError` for each of the seven other kinds -/
theorem castTo_canonical (p : AnyPdu) (hc : p.Canonical) (k : Kind) :
    Holder.castTo k (some p) = if p.kind = k then .ok p else .error .type := by
  cases p <;> cases k <;>
    simp_all [Holder.castTo, AnyPdu.Canonical, AnyPdu.kind, AnyPdu.pduType, AnyPdu.directiveType,
      AnyPdu.isDirectiveClass, AnyPdu.view, Kind.code, notTarget, FILE_DATA, FILE_DIRECTIVE,
      DIR_EOF, DIR_FINISHED, DIR_ACK, DIR_METADATA, DIR_NAK, DIR_PROMPT, DIR_KEEP_ALIVE,
      bind, Except.bind, pure, Except.pure]

end SpVerif.Factory
