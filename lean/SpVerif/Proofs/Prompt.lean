import SpVerif.Model.Prompt
import SpVerif.Proofs.FileDirective
/-!
# The Prompt PDU model: constructor equation, and the decoder as prelude + one parameter octet
-/
namespace SpVerif.Prompt
open SpVerif SpVerif.CfdpHeader SpVerif.FileDirective

theorem new_eq (c : PduConfig) (rr : Nat) :
    Prompt.new c rr =
      if c.source.width ≠ c.dest.width then .error .value
      else .ok ⟨⟨⟨0, 0, (if c.crcFlag = 1 then 3 else 1) + 1, { c with direction := 0 }⟩, 9⟩, rr⟩ := by
  unfold Prompt.new
  rw [new_bind _ _ _ (by omega)]
  by_cases hw : c.source.width ≠ c.dest.width
  · rw [if_pos hw, if_pos hw]
  rw [if_neg hw, if_neg hw]
  by_cases hc : c.crcFlag = 1
  · rw [if_pos hc, if_pos hc, setParamLen_eq]; rfl
  · rw [if_neg hc, if_neg hc]; rfl

/-- the parameter parser: one octet behind the directive header -/
def parse (r : FileDirective × Bytes) : Py Prompt := do
  let i := r.1.headerLen
  if i ≥ r.2.length then throw .value
  let b ← idx r.2 i
  let rr ← enumOf [0, 1] (b / 128 % 2)
  pure ⟨r.1, rr⟩

theorem unpack_eq (d : Bytes) : Prompt.unpack d = prelude d >>= parse := by
  rw [prelude_bind]; rfl

theorem parse_keeps (fd : FileDirective) (p : Bytes) (a : Prompt) (h : parse (fd, p) = .ok a) :
    a.fd = fd ∧ fd.headerLen < p.length := by
  unfold parse at h
  by_cases hs : fd.headerLen ≥ p.length
  · rw [if_pos hs] at h; cases h
  · rw [if_neg hs] at h
    obtain ⟨_, _, h⟩ := bind_ok_inv h
    obtain ⟨_, _, h⟩ := bind_ok_inv h
    cases pure_ok_inv h
    exact ⟨rfl, by omega⟩

theorem parse_documented (r : FileDirective × Bytes) : Documented (parse r) := by
  obtain ⟨fd, p⟩ := r
  unfold parse
  by_cases hs : fd.headerLen ≥ p.length
  · rw [if_pos hs]; exact Documented.err rfl
  · rw [if_neg hs]
    show Documented (idx p fd.headerLen >>= _)
    rw [idx_ok (by omega), bind_ok]
    exact Documented.bind (Documented.ite (Documented.ok _) (Documented.err rfl)) fun _ _ => Documented.ok _

theorem unpack_documented (d : Bytes) : Documented (Prompt.unpack d) := by
  rw [unpack_eq]; exact bind_prelude_documented parse parse_documented d

theorem unpack_inv (d : Bytes) (a : Prompt) (h : Prompt.unpack d = .ok a) :
    prelude d = .ok (a.fd, d.take a.fd.paramsEnd) ∧ a.fd.headerLen < a.fd.paramsEnd ∧
    parse (a.fd, d.take a.fd.paramsEnd) = .ok a ∧
    a.packetLen ≤ d.length ∧ (a.fd.header.conf.crcFlag = 1 → Crc.crc16 (d.take a.packetLen) = 0) := by
  rw [unpack_eq] at h
  obtain ⟨hp, hf, h3, h4, _⟩ := bind_prelude_keeps parse (·.fd) parse_keeps d a h
  have := (parse_keeps _ _ _ hf).2
  rw [List.length_take] at this
  exact ⟨hp, by omega, hf, h3, h4⟩

theorem unpack_take (d : Bytes) (a : Prompt) (h : Prompt.unpack d = .ok a) (rest : Bytes) :
    Prompt.unpack (d.take a.packetLen ++ rest) = .ok a := by
  rw [unpack_eq] at h ⊢
  exact (bind_prelude_keeps parse (·.fd) parse_keeps d a h).2.2.2.2 rest

end SpVerif.Prompt
