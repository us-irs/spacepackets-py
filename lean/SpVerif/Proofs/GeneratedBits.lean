import SpVerif.Generated.Bits
import SpVerif.Props.C01
import SpVerif.Model.CfdpHeader
import SpVerif.Model.PusTc
import SpVerif.Model.PusTm
import SpVerif.Model.UslpHeader
import SpVerif.Model.UslpFrame
import SpVerif.Model.Ack
import SpVerif.Model.Eof
import SpVerif.Model.Finished
import SpVerif.Model.Metadata
import SpVerif.Model.Prompt
import SpVerif.Model.FileData
import SpVerif.Model.Tlv
import SpVerif.Model.Srv1
import SpVerif.Model.Cds
import SpVerif.Model.SeqCount
import SpVerif.Model.ByteField
/-!
# The shift-and-mask expressions of the Python source equal the arithmetic of the models

`SpVerif/Generated/Bits.lean` is produced by `tools/pyexpr2lean.py` from the text of the package
under verification: one `Nat` definition per located integer expression (`<<<`, `>>>`, `&&&`, `|||`
exactly as the source writes them). For every generated definition `X` this file proves
`Generated.X_eq`: under the range hypotheses of the model's domain, `X` equals the corresponding
arithmetic-normal-form term of the hand-written model (`* 2^k`, `/ 2^k`, `% 2^k`), stated against
the model's own definitions where it has one (`pidRaw`, `pscRaw`, `idBytes`, `statusToInt`, …) and
against the arithmetic the model inlines otherwise (copied verbatim, with the place named). The
`*_model` lemmas then re-express whole model functions through the generated definitions.

A changed shift distance or mask in the source changes the generated text, and the theorem about
that expression no longer checks (the harness rebuilds this file against the regenerated text).

Technique: every expression is an instance of one of `shl_or` (`x <<< k ||| y`), `shr_and`
(`(x >>> k) &&& (2^n - 1)`), `and_shr` (`(x &&& mask) >>> k`), core's `Nat.and_two_pow_sub_one_eq_mod`, or, for
several `|||`, of `or_add` applied innermost first at the bit boundary named in the call. The instance is
given as a term: the defeq check unfolds the generated definition and evaluates `2 ^ 14`, `(2 ^ 4 - 1) * 2 ^ 4`
on literals, so a changed shift distance or mask no longer matches. Core Lean only; no enumeration of cases.
-/
namespace SpVerif.Generated
open SpVerif

/-- `X ||| b = X + b` when `X` is a multiple of `2 ^ i` and `b` lies below bit `i` -/
theorem or_add (i X b : Nat) (hX : X % 2 ^ i = 0) (hb : b < 2 ^ i) : X ||| b = X + b := by
  have h : X = 2 ^ i * (X / 2 ^ i) := by
    have := Nat.div_add_mod X (2 ^ i); omega
  rw [h, ← Nat.two_pow_add_eq_or_of_lt hb]

/-- a mask of `n` ones starting at bit `k` -/
theorem and_shifted_mask (x k n : Nat) : x &&& ((2 ^ n - 1) * 2 ^ k) = x / 2 ^ k % 2 ^ n * 2 ^ k := by
  apply Nat.eq_of_testBit_eq
  intro i
  rw [Nat.testBit_and, Nat.testBit_mul_two_pow, Nat.testBit_mul_two_pow, Nat.testBit_two_pow_sub_one,
    Nat.testBit_mod_two_pow, Nat.testBit_div_two_pow]
  by_cases h : k ≤ i
  · have : i - k + k = i := by omega
    simp [h, this, Bool.and_comm]
  · simp [h]

theorem shr_and (x k n : Nat) : (x >>> k) &&& (2 ^ n - 1) = x / 2 ^ k % 2 ^ n := by
  rw [Nat.and_two_pow_sub_one_eq_mod, Nat.shiftRight_eq_div_pow]

theorem and_shr (x k n : Nat) : (x &&& ((2 ^ n - 1) * 2 ^ k)) >>> k = x / 2 ^ k % 2 ^ n := by
  rw [and_shifted_mask, Nat.shiftRight_eq_div_pow, Nat.mul_div_cancel _ (Nat.two_pow_pos k)]

theorem andNot_shifted_mask (x k n : Nat) : andNot x ((2 ^ n - 1) * 2 ^ k) = x - x / 2 ^ k % 2 ^ n * 2 ^ k := by
  rw [andNot, and_shifted_mask]

theorem b2n_lt (b : Bool) : Uslp.b2n b < 2 := by cases b <;> decide

/-! ## CCSDS space packet primary header (`spacepackets/ccsds/spacepacket.py`, C01) -/
section C01
open SpVerif.SpacePacket

theorem packetSeqCtrl_raw_eq (f c : Nat) (hc : c < 16384) : packetSeqCtrl_raw f c = pscRaw f c := shl_or f 14 c hc
theorem packetSeqCtrl_from_raw_seq_flags_eq (raw : Nat) : packetSeqCtrl_from_raw_seq_flags raw = raw / 16384 % 4 := shr_and raw 14 2
/-- right-hand side: the count argument of `Psc.fromRaw` (bits above bit 15 are kept by `& ~0xC000`) -/
theorem packetSeqCtrl_from_raw_seq_count_eq (raw : Nat) :
    packetSeqCtrl_from_raw_seq_count raw = raw / 65536 * 65536 + raw % 16384 :=
  (andNot_shifted_mask raw 14 2).trans (by omega)
theorem packetId_raw_eq (t s a : Nat) (hs : s < 2) (ha : a < 2048) : packetId_raw t s a = pidRaw t s a := by
  unfold packetId_raw pidRaw
  rw [shl_or t 12 _ (by rw [Nat.shiftLeft_eq]; omega), Nat.shiftLeft_eq, or_add 11 _ a (by omega) ha]
theorem packetId_from_raw_ptype_eq (raw : Nat) : packetId_from_raw_ptype raw = raw / 4096 % 2 := shr_and raw 12 1
theorem packetId_from_raw_sec_header_flag_eq (raw : Nat) : packetId_from_raw_sec_header_flag raw = raw / 2048 % 2 := shr_and raw 11 1
theorem packetId_from_raw_apid_eq (raw : Nat) : packetId_from_raw_apid raw = raw % 2048 :=
  Nat.and_two_pow_sub_one_eq_mod raw 11
/-- right-hand side: the first word of `Sph.pack` -/
theorem sph_pack_word0_eq (v t s a : Nat) (ht : t < 2) (hs : s < 2) (ha : a < 2048) :
    sph_pack_word0 v t s a = v * 8192 + pidRaw t s a := by
  unfold sph_pack_word0; rw [packetId_raw_eq t s a hs ha]; exact shl_or v 13 _ (by unfold pidRaw; omega)
theorem sph_pack_word1_eq (f c : Nat) (hc : c < 16384) : sph_pack_word1 f c = pscRaw f c :=
  packetSeqCtrl_raw_eq f c hc
theorem sph_pack_word2_eq (d : Nat) : sph_pack_word2 d = d := rfl
/-- right-hand sides of the six extractions: the arguments of `Sph.new` in `Sph.unpack` -/
theorem sph_unpack_version_eq (d0 : Nat) : sph_unpack_version d0 = d0 / 32 % 8 := shr_and d0 5 3
theorem sph_unpack_ptype_eq (d0 : Nat) : sph_unpack_ptype d0 = d0 / 16 % 2 := shr_and d0 4 1
theorem sph_unpack_sec_header_flag_eq (d0 : Nat) : sph_unpack_sec_header_flag d0 = d0 / 8 % 2 := shr_and d0 3 1
theorem sph_unpack_apid_eq (d0 d1 : Nat) (h1 : d1 < 256) : sph_unpack_apid d0 d1 = d0 % 8 * 256 + d1 := by
  unfold sph_unpack_apid; rw [shl_or _ 8 _ h1, Nat.and_two_pow_sub_one_eq_mod d0 3]
theorem sph_unpack_seq_flags_eq (psc : Nat) (h : psc < 65536) : sph_unpack_seq_flags psc = psc / 16384 :=
  (and_shr psc 14 2).trans (Nat.mod_eq_of_lt (by omega))
theorem sph_unpack_seq_count_eq (psc : Nat) (h : psc < 65536) : sph_unpack_seq_count psc = psc % 16384 :=
  (andNot_shifted_mask psc 14 2).trans (by omega)
theorem idBytes_byte_one_eq (v t s a : Nat) : idBytes_byte_one v t s a = (idBytes v t s a).1 := by
  unfold idBytes_byte_one idBytes
  rw [and_shr a 8 3, and_shifted_mask _ 5 3, Nat.shiftLeft_eq v, Nat.mul_div_cancel _ (Nat.two_pow_pos 5)]
  simp only [Nat.shiftLeft_eq, Nat.and_two_pow_sub_one_eq_mod _ 1]
  rw [or_add 5 (v % 2 ^ 3 * 2 ^ 5) (t % 2 * 2 ^ 4) (by omega) (by omega), or_add 4 _ (s % 2 * 2 ^ 3) (by omega) (by omega),
    or_add 3 _ (a / 2 ^ 8 % 2 ^ 3) (by omega) (Nat.mod_lt _ (Nat.two_pow_pos 3))]
theorem idBytes_byte_two_eq (v t s a : Nat) : idBytes_byte_two a = (idBytes v t s a).2 :=
  Nat.and_two_pow_sub_one_eq_mod a 8
/-- right-hand side: the result of `apidFromRaw` -/
theorem apid_from_raw_space_packet_eq (d0 d1 : Nat) (h1 : d1 < 256) :
    apid_from_raw_space_packet d0 d1 = d0 % 8 * 256 + d1 :=
  sph_unpack_apid_eq d0 d1 h1

/-- `PacketId.from_raw` of the model, through the translated extractions -/
theorem packetId_fromRaw_model (raw : Nat) :
    PacketId.fromRaw raw =
      ⟨packetId_from_raw_ptype raw, packetId_from_raw_sec_header_flag raw, packetId_from_raw_apid raw⟩ := by
  rw [packetId_from_raw_ptype_eq, packetId_from_raw_sec_header_flag_eq, packetId_from_raw_apid_eq]; rfl
/-- `PacketSeqCtrl.from_raw` of the model, through the translated extractions -/
theorem psc_fromRaw_model (raw : Nat) :
    Psc.fromRaw raw =
      Psc.new (packetSeqCtrl_from_raw_seq_flags raw) ((packetSeqCtrl_from_raw_seq_count raw : Nat) : Int) := by
  rw [packetSeqCtrl_from_raw_seq_flags_eq, packetSeqCtrl_from_raw_seq_count_eq]; rfl
/-- `SpacePacketHeader.pack` of the model packs exactly the three translated words -/
theorem sph_pack_model (h : Sph) (ht : h.ptype < 2) (hs : h.shf < 2) (ha : h.apid < 2048) (hc : h.count < 16384) :
    h.pack = (do
      let w0 ← packBE 2 (sph_pack_word0 h.version h.ptype h.shf h.apid)
      let w1 ← packBE 2 (sph_pack_word1 h.flags h.count)
      let w2 ← packBE 2 (sph_pack_word2 h.dlen)
      pure (w0 ++ w1 ++ w2)) := by
  rw [sph_pack_word0_eq _ _ _ _ ht hs ha, sph_pack_word1_eq _ _ hc, sph_pack_word2_eq]; rfl
/-- `SpacePacketHeader.unpack` of the model returns the translated extractions of the octets -/
theorem sph_unpack_model (d : Bytes) (h6 : 6 ≤ d.length) :
    Sph.unpack d = .ok ⟨sph_unpack_version d[0].toNat, sph_unpack_ptype d[0].toNat,
      sph_unpack_sec_header_flag d[0].toNat, sph_unpack_apid d[0].toNat d[1].toNat,
      sph_unpack_seq_flags (d[2].toNat * 256 + d[3].toNat), sph_unpack_seq_count (d[2].toNat * 256 + d[3].toNat),
      d[4].toNat * 256 + d[5].toNat⟩ := by
  have b0 := toNat_lt d[0]
  have b1 := toNat_lt d[1]
  have b2 := toNat_lt d[2]
  have b3 := toNat_lt d[3]
  rw [Props.C01.unpack_eq d h6, sph_unpack_version_eq, sph_unpack_ptype_eq, sph_unpack_sec_header_flag_eq,
    sph_unpack_apid_eq _ _ b1, sph_unpack_seq_flags_eq _ (by omega), sph_unpack_seq_count_eq _ (by omega)]
  congr 2 <;> omega
end C01

/-! ## CFDP fixed PDU header (`spacepackets/cfdp/pdu/header.py`, C05) -/
section C05
open SpVerif.CfdpHeader

/-- right-hand side: octet 0 of `PduHeader.pack` (`CFDP_VERSION_2 << 5` is the leading 32) -/
theorem pduHeader_pack_octet0_eq (t dir mode crc file : Nat) (ht : t < 2) (hd : dir < 2) (hm : mode < 2)
    (hc : crc < 2) (hf : file < 2) :
    pduHeader_pack_octet0 t dir mode crc file = 32 + t * 16 + dir * 8 + mode * 4 + crc * 2 + file := by
  unfold pduHeader_pack_octet0
  simp only [Nat.shiftLeft_eq]
  rw [or_add 5 (1 * 2 ^ 5) (t * 2 ^ 4) (by omega) (by omega), or_add 4 _ (dir * 2 ^ 3) (by omega) (by omega),
    or_add 3 _ (mode * 2 ^ 2) (by omega) (by omega), or_add 2 _ (crc * 2 ^ 1) (by omega) (by omega),
    or_add 1 _ file (by omega) hf]
theorem pduHeader_pack_octet1_eq (len : Nat) : pduHeader_pack_octet1 len = len / 256 % 256 :=
  shr_and len 8 8
theorem pduHeader_pack_octet2_eq (len : Nat) : pduHeader_pack_octet2 len = len % 256 :=
  Nat.and_two_pow_sub_one_eq_mod len 8
/-- right-hand side: octet 3 of `PduHeader.pack`; the widths are 1..8 (the model refuses width 0 before) -/
theorem pduHeader_pack_octet3_eq (seg idw smf seqw : Nat) (h1 : idw ≤ 8) (h2 : smf < 2) (h3 : seqw ≤ 8) :
    pduHeader_pack_octet3 seg idw smf seqw = seg * 128 + (idw - 1) * 16 + smf * 8 + (seqw - 1) := by
  unfold pduHeader_pack_octet3
  simp only [Nat.shiftLeft_eq]
  rw [or_add 7 (seg * 2 ^ 7) ((idw - 1) * 2 ^ 4) (by omega) (by omega), or_add 4 _ (smf * 2 ^ 3) (by omega) (by omega),
    or_add 3 _ (seqw - 1) (by omega) (by omega)]
/-- right-hand sides of the extractions: the terms of `PduHeader.unpack` -/
theorem pduHeader_unpack_version_eq (d0 : Nat) : pduHeader_unpack_version d0 = d0 / 32 % 8 := shr_and d0 5 3
theorem pduHeader_unpack_pdu_type_eq (d0 : Nat) : pduHeader_unpack_pdu_type d0 = d0 / 16 % 2 := and_shr d0 4 1
theorem pduHeader_unpack_direction_eq (d0 : Nat) : pduHeader_unpack_direction d0 = d0 / 8 % 2 := and_shr d0 3 1
theorem pduHeader_unpack_trans_mode_eq (d0 : Nat) : pduHeader_unpack_trans_mode d0 = d0 / 4 % 2 := and_shr d0 2 1
theorem pduHeader_unpack_crc_flag_eq (d0 : Nat) : pduHeader_unpack_crc_flag d0 = d0 / 2 % 2 := and_shr d0 1 1
theorem pduHeader_unpack_file_flag_eq (d0 : Nat) : pduHeader_unpack_file_flag d0 = d0 % 2 :=
  Nat.and_two_pow_sub_one_eq_mod d0 1
theorem pduHeader_unpack_data_field_len_eq (d1 d2 : Nat) (h2 : d2 < 256) :
    pduHeader_unpack_data_field_len d1 d2 = d1 * 256 + d2 := shl_or d1 8 d2 h2
theorem pduHeader_unpack_seg_ctrl_eq (d3 : Nat) : pduHeader_unpack_seg_ctrl d3 = d3 / 128 % 2 := and_shr d3 7 1
theorem pduHeader_unpack_entity_id_len_eq (d3 : Nat) : pduHeader_unpack_entity_id_len d3 = d3 / 16 % 8 + 1 :=
  congrArg (· + 1) (shr_and d3 4 3)
theorem pduHeader_unpack_seg_meta_flag_eq (d3 : Nat) : pduHeader_unpack_seg_meta_flag d3 = d3 / 8 % 2 := shr_and d3 3 1
theorem pduHeader_unpack_seq_num_len_eq (d3 : Nat) : pduHeader_unpack_seq_num_len d3 = d3 % 8 + 1 :=
  congrArg (· + 1) (Nat.and_two_pow_sub_one_eq_mod d3 3)
theorem headerLenFromRaw_entity_id_len_eq (d3 : Nat) : headerLenFromRaw_entity_id_len d3 = d3 / 16 % 8 + 1 :=
  pduHeader_unpack_entity_id_len_eq d3
theorem headerLenFromRaw_seq_num_len_eq (d3 : Nat) : headerLenFromRaw_seq_num_len d3 = d3 % 8 + 1 :=
  pduHeader_unpack_seq_num_len_eq d3
theorem headerLenFromRaw_total_eq (e s : Nat) : headerLenFromRaw_total e s = 4 + 2 * e + s := rfl

/-- `header_len_from_raw` of the model, through the translated expressions -/
theorem headerLenFromRaw_model (d : Bytes) :
    headerLenFromRaw d = (do
      if d.length < 4 then throw .value
      let d3 ← idx d 3
      pure (headerLenFromRaw_total (headerLenFromRaw_entity_id_len d3) (headerLenFromRaw_seq_num_len d3))) := by
  simp only [headerLenFromRaw_total_eq, headerLenFromRaw_entity_id_len_eq, headerLenFromRaw_seq_num_len_eq]; rfl
/-- the four fixed octets of `PduHeader.pack` of the model are the translated expressions -/
theorem pduHeader_pack_model (h : PduHeader) (ht : h.pduType < 2) (hd : h.conf.direction < 2)
    (hm : h.conf.transMode < 2) (hc : h.conf.crcFlag < 2) (hf : h.conf.fileFlag < 2) (hsm : h.segMeta < 2)
    (h1 : h.conf.source.width ≤ 8) (h3 : h.conf.seqNum.width ≤ 8) :
    h.pack = (do
      let b0 ← byteOfN (pduHeader_pack_octet0 h.pduType h.conf.direction h.conf.transMode h.conf.crcFlag h.conf.fileFlag)
      let b1 := u8 (pduHeader_pack_octet1 h.dataFieldLen)
      let b2 := u8 (pduHeader_pack_octet2 h.dataFieldLen)
      if h.conf.source.width = 0 ∨ h.conf.seqNum.width = 0 then throw .value
      let b3 ← byteOfN (pduHeader_pack_octet3 h.conf.segCtrl h.conf.source.width h.segMeta h.conf.seqNum.width)
      pure ([b0, b1, b2, b3] ++ h.conf.source.bytes ++ h.conf.seqNum.bytes ++ h.conf.dest.bytes)) := by
  rw [pduHeader_pack_octet0_eq _ _ _ _ _ ht hd hm hc hf, pduHeader_pack_octet1_eq, pduHeader_pack_octet2_eq,
    pduHeader_pack_octet3_eq _ _ _ _ h1 hsm h3]; rfl
end C05

/-! ## PUS-C secondary headers (`spacepackets/ecss/tc.py`, `tm.py`; C02, C03) -/
section C02C03

/-- right-hand side: octet 0 of `TcSec.pack` (`self.pus_version` is `PusVersion.PUS_C = 2`) -/
theorem pusTc_pack_octet0_eq (ack : Nat) (ha : ack < 16) : pusTc_pack_octet0 2 ack = 32 + ack := shl_or 2 4 ack ha
/-- right-hand side: the version test `b0 / 16 ≠ 2` of `TcSec.unpack` -/
theorem pusTc_unpack_pus_version_eq (b0 : Nat) (h : b0 < 256) : pusTc_unpack_pus_version b0 = b0 / 16 :=
  (and_shr b0 4 4).trans (Nat.mod_eq_of_lt (by omega))
theorem pusTc_unpack_ack_flags_eq (b0 : Nat) : pusTc_unpack_ack_flags b0 = b0 % 16 :=
  Nat.and_two_pow_sub_one_eq_mod b0 4
/-- right-hand side: octet 0 of `TmSec.pack` -/
theorem pusTm_pack_octet0_eq (ref : Nat) (hr : ref < 16) : pusTm_pack_octet0 2 ref = 32 + ref := shl_or 2 4 ref hr
theorem pusTm_unpack_pus_version_eq (b0 : Nat) (h : b0 < 256) : pusTm_unpack_pus_version b0 = b0 / 16 :=
  pusTc_unpack_pus_version_eq b0 h
theorem pusTm_unpack_time_ref_eq (b0 : Nat) : pusTm_unpack_time_ref b0 = b0 % 16 :=
  Nat.and_two_pow_sub_one_eq_mod b0 4

/-- `PusTcDataFieldHeader.pack` of the model, through the translated first octet -/
theorem pusTc_pack_model (s : PusTc.TcSec) (ha : s.ack < 16) :
    s.pack = (do
      let b0 ← byteOfN (pusTc_pack_octet0 2 s.ack)
      let b1 ← byteOfN s.service
      let b2 ← byteOfN s.subservice
      let src ← packBE 2 s.sourceId
      pure ([b0, b1, b2] ++ src)) := by
  rw [pusTc_pack_octet0_eq _ ha]; rfl
/-- `PusTmSecondaryHeader.pack` of the model, through the translated first octet -/
theorem pusTm_pack_model (s : PusTm.TmSec) (hr : s.timeRef < 16) :
    s.pack = (do
      let b0 ← byteOfN (pusTm_pack_octet0 2 s.timeRef)
      let b1 ← byteOfN s.service
      let b2 ← byteOfN s.subservice
      let cnt ← packBE 2 s.msgCounter
      let dst ← packBE 2 s.destId
      pure ([b0, b1, b2] ++ cnt ++ dst ++ s.timestamp)) := by
  rw [pusTm_pack_octet0_eq _ hr]; rfl
end C02C03

/-! ## USLP primary header and data field header (`spacepackets/uslp/header.py`, `frame.py`; C17) -/
section C17
open SpVerif.Uslp

/-- right-hand sides: the four octets of `packCommon` -/
theorem uslp_common_octet0_eq (s : Nat) : uslp_common_octet0 s = versionNumber * 16 + s / 4096 % 16 := by
  unfold uslp_common_octet0 versionNumber
  rw [shr_and s 12 4]; exact shl_or 12 4 _ (Nat.mod_lt _ (Nat.two_pow_pos 4))
theorem uslp_common_octet1_eq (s : Nat) : uslp_common_octet1 s = s / 16 % 256 := shr_and s 4 8
theorem uslp_common_octet2_eq (s : Nat) (sd : Bool) (v : Nat) :
    uslp_common_octet2 s (b2n sd) v = s % 16 * 16 + b2n sd * 8 + v / 8 % 8 := by
  have := b2n_lt sd
  unfold uslp_common_octet2
  rw [Nat.and_two_pow_sub_one_eq_mod s 4, shr_and v 3 3, Nat.shiftLeft_eq, Nat.shiftLeft_eq,
    or_add 4 (s % 2 ^ 4 * 2 ^ 4) (b2n sd * 2 ^ 3) (by omega) (by omega),
    or_add 3 _ (v / 2 ^ 3 % 2 ^ 3) (by omega) (Nat.mod_lt _ (Nat.two_pow_pos 3))]
theorem uslp_common_octet3_eq (v m : Nat) (t : Bool) (hm : m < 16) :
    uslp_common_octet3 v m (b2n t) = v % 8 * 32 + m * 2 + b2n t := by
  have := b2n_lt t
  unfold uslp_common_octet3
  rw [Nat.and_two_pow_sub_one_eq_mod v 3, Nat.shiftLeft_eq, Nat.shiftLeft_eq,
    or_add 5 (v % 2 ^ 3 * 2 ^ 5) (m * 2 ^ 1) (by omega) (by omega), or_add 1 _ (b2n t) (by omega) (by omega)]
/-- right-hand sides: the terms of `unpackBase` -/
theorem uslp_base_version_eq (r0 : Nat) (h : r0 < 256) : uslp_base_version r0 = r0 / 16 :=
  (and_shr r0 4 4).trans (Nat.mod_eq_of_lt (by omega))
theorem uslp_base_scid_eq (r0 r1 r2 : Nat) (h1 : r1 < 256) (h2 : r2 < 256) :
    uslp_base_scid r0 r1 r2 = r0 % 16 * 4096 + r1 * 16 + r2 / 16 := by
  unfold uslp_base_scid
  rw [Nat.and_two_pow_sub_one_eq_mod r0 4, and_shr r2 4 4, Nat.shiftLeft_eq, Nat.shiftLeft_eq,
    or_add 12 (r0 % 2 ^ 4 * 2 ^ 12) (r1 * 2 ^ 4) (by omega) (by omega),
    or_add 4 _ (r2 / 2 ^ 4 % 2 ^ 4) (by omega) (Nat.mod_lt _ (Nat.two_pow_pos 4)),
    Nat.mod_eq_of_lt (show r2 / 2 ^ 4 < 2 ^ 4 by omega)]
theorem uslp_base_src_dest_eq (r2 : Nat) : uslp_base_src_dest r2 = r2 / 8 % 2 := and_shr r2 3 1
theorem uslp_base_vcid_eq (r2 r3 : Nat) : uslp_base_vcid r2 r3 = r2 % 8 * 8 + r3 / 32 % 8 := by
  unfold uslp_base_vcid
  rw [Nat.and_two_pow_sub_one_eq_mod r2 3, shr_and r3 5 3]; exact shl_or _ 3 _ (Nat.mod_lt _ (Nat.two_pow_pos 3))
theorem uslp_base_map_id_eq (r3 : Nat) : uslp_base_map_id r3 = r3 / 2 % 16 := shr_and r3 1 4
theorem uslp_base_end_of_header_eq (r3 : Nat) : uslp_base_end_of_header r3 = r3 % 2 :=
  Nat.and_two_pow_sub_one_eq_mod r3 1
/-- right-hand sides: octets 4, 5, 6 of `PrimaryHeader.pack` (octet 6 keeps the `|||` with the
    VCF count length, which the model does not bound either) -/
theorem uslp_primary_pack_octet4_eq (fl : Nat) : uslp_primary_pack_octet4 fl = fl / 256 % 256 := shr_and fl 8 8
theorem uslp_primary_pack_octet5_eq (fl : Nat) : uslp_primary_pack_octet5 fl = fl % 256 :=
  Nat.and_two_pow_sub_one_eq_mod fl 8
theorem uslp_primary_pack_octet6_eq (by_ pc oc : Bool) (vl : Nat) :
    uslp_primary_pack_octet6 (b2n by_) (b2n pc) (b2n oc) vl = (8 * (b2n by_ * 16 + b2n pc * 8 + b2n oc)) ||| vl := by
  have := b2n_lt by_
  have := b2n_lt pc
  have := b2n_lt oc
  unfold uslp_primary_pack_octet6
  rw [Nat.shiftLeft_eq, Nat.shiftLeft_eq, Nat.shiftLeft_eq,
    or_add 7 (b2n by_ * 2 ^ 7) (b2n pc * 2 ^ 6) (by omega) (by omega), or_add 6 _ (b2n oc * 2 ^ 3) (by omega) (by omega)]
  congr 1
  omega
/-- right-hand sides: the terms of `PrimaryHeader.unpack` and `headerIsTruncated` -/
theorem uslp_primary_unpack_frame_len_eq (r4 r5 : Nat) (h5 : r5 < 256) :
    uslp_primary_unpack_frame_len r4 r5 = r4 * 256 + r5 := shl_or r4 8 r5 h5
theorem uslp_primary_unpack_bypass_eq (r6 : Nat) : uslp_primary_unpack_bypass r6 = r6 / 128 % 2 := shr_and r6 7 1
theorem uslp_primary_unpack_prot_ctrl_eq (r6 : Nat) : uslp_primary_unpack_prot_ctrl r6 = r6 / 64 % 2 := shr_and r6 6 1
theorem uslp_primary_unpack_op_ctrl_eq (r6 : Nat) : uslp_primary_unpack_op_ctrl r6 = r6 / 8 % 2 := shr_and r6 3 1
theorem uslp_primary_unpack_vcf_count_len_eq (r6 : Nat) : uslp_primary_unpack_vcf_count_len r6 = r6 % 8 :=
  Nat.and_two_pow_sub_one_eq_mod r6 3
theorem uslp_header_type_test_eq (r3 : Nat) : uslp_header_type_test r3 = r3 % 2 :=
  Nat.and_two_pow_sub_one_eq_mod r3 1
/-- right-hand side: the first octet of `Tfdf.pack` (the model keeps the `|||`) -/
theorem tfdf_pack_octet0_eq (rules upid : Nat) : tfdf_pack_octet0 rules upid = (32 * rules) ||| upid := by
  unfold tfdf_pack_octet0; rw [Nat.shiftLeft_eq, Nat.mul_comm]
/-- right-hand sides: `rules`, `upid` and the pointer of `Tfdf.unpack` -/
theorem tfdf_unpack_rules_eq (r0 : Nat) : tfdf_unpack_rules r0 = r0 / 32 % 8 := shr_and r0 5 3
theorem tfdf_unpack_upid_eq (r0 : Nat) : tfdf_unpack_upid r0 = r0 % 32 :=
  Nat.and_two_pow_sub_one_eq_mod r0 5
theorem tfdf_unpack_fhp_or_lvop_eq (r1 r2 : Nat) (h2 : r2 < 256) : tfdf_unpack_fhp_or_lvop r1 r2 = r1 * 256 + r2 :=
  shl_or r1 8 r2 h2

/-- the four common octets of the model, through the translated expressions -/
theorem uslp_packCommon_model (scid : Int) (sd : Bool) (vcid mapId : Int) (t : Bool)
    (h : ¬ ((scid > 65535 ∨ scid < 0) ∨ (vcid > 63 ∨ vcid < 0) ∨ (mapId > 15 ∨ mapId < 0))) :
    packCommon scid sd vcid mapId t =
      .ok [u8 (uslp_common_octet0 scid.toNat), u8 (uslp_common_octet1 scid.toNat),
           u8 (uslp_common_octet2 scid.toNat (b2n sd) vcid.toNat), u8 (uslp_common_octet3 vcid.toNat mapId.toNat (b2n t))] := by
  rw [uslp_common_octet0_eq, uslp_common_octet1_eq, uslp_common_octet2_eq, uslp_common_octet3_eq _ _ _ (by omega)]
  unfold packCommon
  simp only [h, ↓reduceIte]
end C17

/-! ## CFDP file directives and the file-data segment-metadata octet (C06, C07) -/
section C06C07

/-- right-hand sides: the two parameter octets of `Ack.pack` (status below 16: the model's `byteOf`
    takes the same sum over `Int`) -/
theorem ack_pack_octet0_eq (code sub : Nat) (hs : sub < 16) : ack_pack_octet0 code sub = code * 16 + sub :=
  shl_or code 4 sub hs
theorem ack_pack_octet1_eq (cond st : Nat) (hs : st < 16) : ack_pack_octet1 cond st = cond * 16 + st :=
  shl_or cond 4 st hs
/-- right-hand sides: the fields of `Ack.unpack` -/
theorem ack_unpack_acked_code_eq (b0 : Nat) : ack_unpack_acked_code b0 = b0 / 16 % 16 := and_shr b0 4 4
theorem ack_unpack_subtype_eq (b0 : Nat) : ack_unpack_subtype b0 = b0 % 16 :=
  Nat.and_two_pow_sub_one_eq_mod b0 4
theorem ack_unpack_condition_code_eq (b1 : Nat) : ack_unpack_condition_code b1 = b1 / 16 % 16 := and_shr b1 4 4
theorem ack_unpack_transaction_status_eq (b1 : Nat) : ack_unpack_transaction_status b1 = b1 % 4 :=
  Nat.and_two_pow_sub_one_eq_mod b1 2
/-- right-hand side: the condition-code octet of `Eof.pack` / `Eof.unpack` -/
theorem eof_pack_octet0_eq (cond : Nat) : eof_pack_octet0 cond = cond * 16 := Nat.shiftLeft_eq cond 4
theorem eof_unpack_condition_code_eq (b : Nat) : eof_unpack_condition_code b = b / 16 % 16 := and_shr b 4 4
/-- right-hand side: the first parameter octet of `Finished.pack`, which the model writes with the
    same operators -/
theorem finished_pack_octet0_eq (cond del st : Nat) :
    finished_pack_octet0 cond del st = ((cond <<< 4) ||| (del <<< 2)) ||| st := rfl
/-- right-hand sides: `cond`, `delivery`, `status` of `Finished.unpack` -/
theorem finished_unpack_condition_code_eq (b : Nat) : finished_unpack_condition_code b = b / 16 % 16 :=
  and_shr b 4 4
theorem finished_unpack_delivery_code_eq (b : Nat) : finished_unpack_delivery_code b = b / 4 % 2 :=
  and_shr b 2 1
theorem finished_unpack_file_status_eq (b : Nat) : finished_unpack_file_status b = b % 4 :=
  Nat.and_two_pow_sub_one_eq_mod b 2
/-- right-hand side: the first parameter octet of `Metadata.pack` (`closure_requested` is a `bool`) -/
theorem metadata_pack_octet0_eq (closure : Bool) (ct : Nat) :
    metadata_pack_octet0 (if closure then 1 else 0) ct = (if closure then 64 else 0) ||| ct := by
  unfold metadata_pack_octet0; cases closure <;> simp
/-- the model tests `b / 64 % 2 = 1`; the source passes `b & 0x40` to `bool` -/
theorem metadata_unpack_closure_requested_eq (b : Nat) : metadata_unpack_closure_requested b = b / 64 % 2 * 64 :=
  and_shifted_mask b 6 1
theorem metadata_unpack_closure_requested_bool (b : Nat) :
    decide (metadata_unpack_closure_requested b ≠ 0) = decide (b / 64 % 2 = 1) := by
  rw [metadata_unpack_closure_requested_eq]; congr 1; apply propext; omega
theorem metadata_unpack_checksum_type_eq (b : Nat) : metadata_unpack_checksum_type b = b % 16 :=
  Nat.and_two_pow_sub_one_eq_mod b 4
/-- right-hand side: the parameter octet of `Prompt.pack` / `Prompt.unpack` -/
theorem prompt_pack_octet0_eq (r : Nat) : prompt_pack_octet0 r = r * 128 := Nat.shiftLeft_eq r 7
theorem prompt_unpack_response_required_eq (b : Nat) : prompt_unpack_response_required b = b / 128 % 2 :=
  and_shr b 7 1
/-- right-hand sides: the segment-metadata octet of `FileData.packMeta` / `parseMeta` -/
theorem fileData_pack_seg_meta_octet_eq (state len : Nat) (hl : len < 64) :
    fileData_pack_seg_meta_octet state len = state * 64 + len := shl_or state 6 len hl
theorem fileData_unpack_rec_cont_state_eq (b : Nat) : fileData_unpack_rec_cont_state b = b / 64 % 4 :=
  and_shr b 6 2
theorem fileData_unpack_seg_meta_len_eq (b : Nat) : fileData_unpack_seg_meta_len b = b % 64 :=
  Nat.and_two_pow_sub_one_eq_mod b 6
end C06C07

/-! ## CFDP TLVs (`spacepackets/cfdp/tlv/tlv.py`, C08) -/
section C08
open SpVerif.Tlv

/-- right-hand side: the first value octet of `commonPacker`, which the model writes with the same operators -/
theorem filestore_pack_octet0_eq (action status : Nat) : filestore_pack_octet0 action status = (action <<< 4) ||| status := rfl
/-- right-hand sides: `action`, `status` of `commonUnpacker` -/
theorem filestore_unpack_action_code_eq (b0 : Nat) : filestore_unpack_action_code b0 = b0 / 16 % 16 :=
  shr_and b0 4 4
theorem filestore_unpack_status_code_eq (b0 : Nat) : filestore_unpack_status_code b0 = b0 % 16 :=
  Nat.and_two_pow_sub_one_eq_mod b0 4
/-- right-hand side: the argument of `enumOf statusCodesNat` in `FileStoreResponseTlv.fromTlv` -/
theorem filestore_response_status_named_eq (action status : Nat) (hs : status < 16) :
    filestore_response_status_named action status = action * 16 + status := shl_or action 4 status hs
theorem map_enum_status_code_to_int_eq (s : Nat) : map_enum_status_code_to_int s = statusToInt (s : Int) := 
  (Nat.and_two_pow_sub_one_eq_mod s 4).trans (by unfold statusToInt; omega)
/-- right-hand sides: the two components of `statusToActionStatus` -/
theorem map_enum_status_code_action_eq (s : Nat) : map_enum_status_code_action s = ((s : Int) / 16 % 16).toNat := 
  (and_shr s 4 4).trans (by omega)
theorem map_enum_status_code_status_eq (s : Nat) : map_enum_status_code_status s = ((s : Int) % 16).toNat := 
  (Nat.and_two_pow_sub_one_eq_mod s 4).trans (by omega)
/-- right-hand side: the candidate of `statusFromInt`, which the model writes with the same operators -/
theorem map_int_status_code_to_enum_eq (action status : Nat) :
    map_int_status_code_to_enum action status = (action <<< 4) ||| status := rfl
/-- right-hand side: the octet of `FaultHandlerOverrideTlv.new`, same operators -/
theorem faultHandler_pack_octet_eq (cc hc : Nat) : faultHandler_pack_octet cc hc = (cc <<< 4) ||| hc := rfl
/-- right-hand sides: the fields of `FaultHandlerOverrideTlv.fromTlv` -/
theorem faultHandler_unpack_condition_code_eq (v0 : Nat) : faultHandler_unpack_condition_code v0 = v0 / 16 % 16 :=
  shr_and v0 4 4
theorem faultHandler_unpack_handler_code_eq (v0 : Nat) : faultHandler_unpack_handler_code v0 = v0 % 16 :=
  Nat.and_two_pow_sub_one_eq_mod v0 4

/-- `statusFromInt` of the model, through the translated expression -/
theorem statusFromInt_model (action status : Nat) :
    statusFromInt action status =
      if map_int_status_code_to_enum action status ∈ statusCodesNat
      then ((map_int_status_code_to_enum action status : Nat) : Int) else statusInvalid := rfl
end C08

/-! ## PUS request id (`spacepackets/ecss/req_id.py`, C15) -/
section C15
open SpVerif.SpacePacket SpVerif.Srv1

/-- right-hand side: the version argument of the result of `ReqId.unpack` -/
theorem reqId_unpack_version_eq (w0 : Nat) : reqId_unpack_version w0 = w0 / 8192 % 8 := shr_and w0 13 3
theorem reqId_pack_word0_eq (r : ReqId) (ht : r.pid.ptype < 2) (hs : r.pid.shf < 2) (ha : r.pid.apid < 2048) :
    reqId_pack_word0 r.version r.pid.ptype r.pid.shf r.pid.apid = r.word0 :=
  sph_pack_word0_eq _ _ _ _ ht hs ha
theorem reqId_pack_word1_eq (r : ReqId) (hc : r.psc.count < 16384) :
    reqId_pack_word1 r.psc.flags r.psc.count = r.psc.raw :=
  packetSeqCtrl_raw_eq _ _ hc
theorem reqId_as_u32_word0_eq (r : ReqId) (ht : r.pid.ptype < 2) (hs : r.pid.shf < 2) (ha : r.pid.apid < 2048) :
    reqId_as_u32_word0 r.version r.pid.ptype r.pid.shf r.pid.apid = r.word0 :=
  sph_pack_word0_eq _ _ _ _ ht hs ha
theorem reqId_as_u32_eq (r : ReqId) (hf : r.psc.flags < 4) (hc : r.psc.count < 16384) :
    reqId_as_u32 r.word0 r.psc.flags r.psc.count = r.asU32 := by
  unfold reqId_as_u32 ReqId.asU32 Psc.raw
  rw [packetSeqCtrl_raw_eq _ _ hc]; exact shl_or r.word0 16 _ (by unfold pscRaw; omega)

/-- `RequestId.as_u32` of the model, through the translated expressions -/
theorem reqId_asU32_model (r : ReqId) (ht : r.pid.ptype < 2) (hs : r.pid.shf < 2) (ha : r.pid.apid < 2048) (hf : r.psc.flags < 4)
    (hc : r.psc.count < 16384) :
    r.asU32 = reqId_as_u32 (reqId_as_u32_word0 r.version r.pid.ptype r.pid.shf r.pid.apid) r.psc.flags r.psc.count := by
  rw [reqId_as_u32_word0_eq r ht hs ha, reqId_as_u32_eq r hf hc]
end C15

/-! ## CDS short timestamp (`spacepackets/ccsds/time/cds.py`, C14) -/
section C14

/-- right-hand side: the P-field octet of `Stamp.pack` -/
theorem cds_pfield_eq : cds_pfield = Cds.CDS_ID * 16 := by decide
/-- right-hand side: the argument of `enumOf [0, 1]` in `unpackFromRaw` -/
theorem cds_len_of_day_seg_eq (p : Nat) : cds_len_of_day_seg p = p / 4 % 2 := shr_and p 2 1
/-- right-hand side: the value compared with `CDS_ID` in `unpackFromRaw` -/
theorem cds_unpack_time_code_eq (p : Nat) : cds_unpack_time_code p = p / 16 % 8 := shr_and p 4 3
/-- right-hand side: the whole-day part of `Stamp.unixMs`, in seconds (for a non-negative Unix day) -/
theorem cds_unix_seconds_of_days_eq (d : Nat) :
    ((cds_unix_seconds_of_days d : Nat) : Int) = (d : Int) * Cds.SECONDS_PER_DAY := by
  unfold cds_unix_seconds_of_days Cds.SECONDS_PER_DAY; omega
/-- right-hand side: `ms1` of `Stamp.add` (non-negative millisecond of day; `timedelta` fields are never negative) -/
theorem cds_add_ms_of_day_eq (ms us sec : Nat) :
    ((cds_add_ms_of_day ms us sec : Nat) : Int) = (ms : Int) + ((us : Int) / 1000 + (sec : Int) * 1000) := by
  unfold cds_add_ms_of_day; omega
theorem cds_add_ms_per_day_eq : ((cds_add_ms_per_day : Nat) : Int) = Cds.MS_PER_DAY := by decide
/-- right-hand side: the bound of the overflow checks of `Stamp.add` -/
theorem cds_add_max_days_eq : ((cds_add_max_days : Nat) : Int) = 2 ^ 16 - 1 := by decide
/-- right-hand side: the millisecond component of `fromUnixMicros` -/
theorem cds_from_datetime_ms_eq (sec us : Nat) :
    ((cds_from_datetime_ms sec us : Nat) : Int) = (sec : Int) * 1000 + (us : Int) / 1000 := by
  unfold cds_from_datetime_ms; omega
end C14

/-! ## Sequence counters (`spacepackets/seqcount.py`, C19) -/
section C19

theorem seqMem_modulus_eq (w : Nat) : seqMem_modulus w = 2 ^ w := rfl
/-- right-hand side: the value returned by `Mem.getAndIncrement` (the stored count is below the modulus) -/
theorem seqMem_curr_count_eq (m : SeqCount.Mem) (h : m.count < 2 ^ m.width) :
    seqMem_curr_count m.count (seqMem_modulus m.width) = m.getAndIncrement.1 := by
  unfold seqMem_curr_count seqMem_modulus SeqCount.Mem.getAndIncrement; exact Nat.mod_eq_of_lt h
/-- right-hand side: the count stored by `Mem.getAndIncrement` -/
theorem seqMem_next_count_eq (m : SeqCount.Mem) :
    seqMem_next_count m.count (seqMem_modulus m.width) = m.getAndIncrement.2.count := rfl
/-- right-hand side: the bound of `checkCount` -/
theorem seqFile_check_max_eq (w : Nat) : seqFile_check_max w = 2 ^ w - 1 := rfl
/-- right-hand sides: the bound and the successor of `incr` -/
theorem seqFile_incr_max_eq (w : Nat) : seqFile_incr_max w = 2 ^ w - 1 := rfl
theorem seqFile_incr_next_eq (v : Nat) : seqFile_incr_next v = v + 1 := rfl

/-- `_increment_with_rollover` of the model, through the translated expressions -/
theorem seqFile_incr_model (w v : Nat) :
    SeqCount.incr w v = if v ≥ seqFile_incr_max w then 0 else seqFile_incr_next v := rfl
end C19

/-! ## Integer/octet helpers and unsigned byte fields (`spacepackets/util.py`, C20) -/
section C20

theorem two_pow_mul_8 (n : Nat) : 2 ^ (n * 8) = 256 ^ n := by
  rw [Nat.mul_comm, Nat.pow_mul]
/-- right-hand side: the bound of `toSigned` (`byte_num` is 1, 2, 4 or 8 there) -/
theorem toSigned_max_eq (n : Nat) (h : 1 ≤ n) :
    ((toSigned_max n : Nat) : Int) = ((256 ^ n / 2 : Nat) : Int) - 1 := by
  unfold toSigned_max
  have h2 : 256 ^ n = 2 ^ (n * 8 - 1) * 2 := by
    rw [← two_pow_mul_8, ← Nat.pow_succ]; congr 1; omega
  have h3 : 0 < 2 ^ (n * 8 - 1) := Nat.two_pow_pos _
  rw [h2]; omega
/-- right-hand side: the bound of `toUnsigned` -/
theorem toUnsigned_max_eq (n : Nat) : ((toUnsigned_max n : Nat) : Int) = ((256 ^ n : Nat) : Int) - 1 := by
  unfold toUnsigned_max
  have h3 : 0 < 256 ^ n := Nat.pow_pos (by decide)
  rw [two_pow_mul_8]; omega
/-- right-hand side: the bound of `verifyInt` -/
theorem byteField_verify_int_max_eq (w : Nat) :
    ((byteField_verify_int_max w : Nat) : Int) = ((256 ^ w : Nat) : Int) - 1 := by
  unfold byteField_verify_int_max
  have h3 : 0 < 256 ^ w := Nat.pow_pos (by decide)
  rw [two_pow_mul_8]; omega
end C20

end SpVerif.Generated
