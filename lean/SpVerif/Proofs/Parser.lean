import SpVerif.Model.Parser
/-!
# The stream-parser model: what `pidOf` / `totalOf` read depends on the first six octets only; beyond
its length guard `scanPy` reaches `struct.unpack` only with slices of exactly two octets; how `scan`
unfolds on a short buffer, a packet, junk and an incomplete tail.
-/
namespace SpVerif.Parser
open SpVerif SpVerif.SpacePacket

theorem pidOf_append (a b : Bytes) (h : 2 ≤ a.length) : pidOf (a ++ b) = pidOf a := by
  simp only [pidOf, slice_append_left a b 0 2 h]

theorem lenFieldOf_append (a b : Bytes) (h : 6 ≤ a.length) : lenFieldOf (a ++ b) = lenFieldOf a := by
  simp only [lenFieldOf, slice_append_left a b 4 6 h]

theorem totalOf_append (a b : Bytes) (h : 6 ≤ a.length) : totalOf (a ++ b) = totalOf a := by
  simp only [totalOf, lenFieldOf_append a b h]

theorem totalOf_eq (a : Bytes) : totalOf a = lenFieldOf a + 7 := by
  simp only [totalOf, totalLenFromLenField]

theorem totalOf_ge (a : Bytes) : 7 ≤ totalOf a := by
  rw [totalOf_eq]; omega

theorem pidOf_take (a : Bytes) (n : Nat) (h : 2 ≤ n) (hn : n ≤ a.length) : pidOf (a.take n) = pidOf a := by
  rw [← pidOf_append (a.take n) (a.drop n) (by simp; omega), List.take_append_drop]

theorem totalOf_take (a : Bytes) (n : Nat) (h : 6 ≤ n) (hn : n ≤ a.length) : totalOf (a.take n) = totalOf a := by
  rw [← totalOf_append (a.take n) (a.drop n) (by simp; omega), List.take_append_drop]

/-- `scanPy` beyond the guard: both `struct.unpack("!H", …)` calls see a slice of exactly two octets
    and succeed, so the loop body is that of `scan` -/
theorem scanPy_long (ids : List Nat) (rest : Bytes) (h6 : 6 < rest.length) :
    scanPy ids rest =
      if pidOf rest ∈ ids then
        if totalOf rest > rest.length then pure ([], rest)
        else do
          let r ← scanPy ids (rest.drop (totalOf rest))
          pure (rest.take (totalOf rest) :: r.1, r.2)
      else scanPy ids (rest.drop 1) := by
  rw [scanPy, dif_neg (show ¬ rest.length ≤ headerLen from Nat.not_le.2 h6),
    unpackBE_ok (show (slice rest 0 2).length = 2 by simp; omega), bind_ok,
    unpackBE_ok (show (slice rest 4 6).length = 2 by simp; omega), bind_ok]
  rfl

theorem scan_short (ids : List Nat) (rest : Bytes) (h : rest.length ≤ 6) : scan ids rest = ([], rest) := by
  rw [scan, dif_pos (show rest.length ≤ headerLen from h)]

theorem scan_incomplete (ids : List Nat) (rest : Bytes) (hpid : pidOf rest ∈ ids)
    (hinc : rest.length < totalOf rest) : scan ids rest = ([], rest) := by
  rw [scan, if_pos hpid, dif_pos hinc, dite_eq_ite, ite_self]

theorem scan_match (ids : List Nat) (rest : Bytes) (h6 : 6 < rest.length) (hpid : pidOf rest ∈ ids)
    (hc : totalOf rest ≤ rest.length) :
    scan ids rest = (rest.take (totalOf rest) :: (scan ids (rest.drop (totalOf rest))).1,
                     (scan ids (rest.drop (totalOf rest))).2) := by
  rw [scan, dif_neg (show ¬ rest.length ≤ headerLen from Nat.not_le.2 h6), if_pos hpid, dif_neg (Nat.not_lt.2 hc)]

theorem scan_skip (ids : List Nat) (rest : Bytes) (h6 : 6 < rest.length) (hpid : pidOf rest ∉ ids) :
    scan ids rest = scan ids (rest.drop 1) := by
  rw [scan, dif_neg (show ¬ rest.length ≤ headerLen from Nat.not_le.2 h6), if_neg hpid]

theorem requeue_flatten (r : Bytes) : (requeue r).flatten = r := by
  cases r <;> simp [requeue]

theorem fed_append (s₁ s₂ : List Step) : fed (s₁ ++ s₂) = fed s₁ ++ fed s₂ := by
  induction s₁ with
  | nil => rfl
  | cons st s ih => cases st <;> simp [fed, ih]

theorem returned_cons (o : List Bytes × List Bytes) (os : List (List Bytes × List Bytes)) :
    returned (o :: os) = o.1 ++ returned os := by
  simp [returned]

theorem returned_append (a b : List (List Bytes × List Bytes)) :
    returned (a ++ b) = returned a ++ returned b := by
  simp [returned]

theorem run_append (ids : List Nat) (q : List Bytes) (s₁ s₂ : List Step) :
    run ids q (s₁ ++ s₂) =
      ((run ids q s₁).1 ++ (run ids (run ids q s₁).2 s₂).1, (run ids (run ids q s₁).2 s₂).2) := by
  induction s₁ generalizing q with
  | nil => simp [run]
  | cons st s ih =>
    cases st with
    | append c => simp only [List.cons_append, run, ih]
    | parse => simp only [List.cons_append, run, ih]

theorem scan_packet (ids : List Nat) (p x : Bytes) (h6 : 6 < p.length) (hpid : pidOf p ∈ ids)
    (hlen : p.length = totalOf p) :
    scan ids (p ++ x) = (p :: (scan ids x).1, (scan ids x).2) := by
  have ht : totalOf (p ++ x) = p.length := by rw [totalOf_append _ _ (by omega)]; exact hlen.symm
  rw [scan_match ids (p ++ x) (by simp; omega) (by rw [pidOf_append _ _ (by omega)]; exact hpid)
    (by rw [ht]; simp)]
  rw [ht]; simp

/-- junk octets (no registered ID readable at any of their positions) are skipped one by one as long
    as more than six octets remain -/
theorem scan_junk (ids : List Nat) (j x : Bytes)
    (hj : ∀ i, i < j.length → i + 1 < (j ++ x).length → pidOf ((j ++ x).drop i) ∉ ids) :
    scan ids (j ++ x) = scan ids ((j ++ x).drop (min j.length ((j ++ x).length - 6))) := by
  induction j with
  | nil => simp
  | cons o j ih =>
    by_cases hs : (o :: j ++ x).length ≤ 6
    · rw [Nat.sub_eq_zero_of_le hs, Nat.min_zero, List.drop_zero]
    · have h0 := hj 0 (by simp) (by simp at hs ⊢; omega)
      rw [scan_skip ids (o :: j ++ x) (by omega) (by simpa using h0)]
      simp only [List.cons_append, List.drop_succ_cons, List.drop_zero]
      rw [ih (by
        intro i hi hi'
        have := hj (i + 1) (by simp; omega) (by simp at hi' ⊢; omega)
        simpa using this)]
      have e : min (o :: j).length ((o :: (j ++ x)).length - 6) = min j.length ((j ++ x).length - 6) + 1 := by
        simp only [List.length_cons, List.cons_append] at hs ⊢
        omega
      rw [e, List.drop_succ_cons]

end SpVerif.Parser
