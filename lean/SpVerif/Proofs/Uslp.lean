import SpVerif.Model.UslpFrame
set_option linter.unusedSimpArgs false
set_option linter.unusedVariables false
/-!
# Characterisation lemmas for the USLP models (used by C17 and by C09 / C10 / C11)

Every decoder gets an equational characterisation (`unpack raw = if … then error … else ok ⟨…⟩`) and an
error-class lemma (only `Uslp*` classes / `ValueError`); the two header decoders also an "only the
declared prefix is read" lemma (`unpack raw = ok h → unpack (raw ++ rest) = ok h`).
-/
namespace SpVerif.Uslp

theorem slice_of_decomp {raw a m c : Bytes} {s e : Nat} (h : raw = a ++ m ++ c)
    (hs : s = a.length) (he : e = a.length + m.length) : slice raw s e = m := by
  subst h hs he; exact slice_eq_of_append a m c

theorem slice_take (b : Bytes) (s e k : Nat) (h : e ≤ k) : slice (b.take k) s e = slice b s e := by
  simp [slice, List.take_take, Nat.min_eq_left h]

theorem getElem_toNat_append {a b : Bytes} {i : Nat} (h : i < a.length) (h' : i < (a ++ b).length) :
    (a ++ b)[i].toNat = a[i].toNat := by
  rw [List.getElem_append_left h]

theorem ubind_ok {α β : Type} (a : α) (f : α → UPy β) : (Except.ok a >>= f) = f a := rfl

theorem ubind_ok_inv {α β : Type} {x : UPy α} {f : α → UPy β} {b : β} (h : (x >>= f) = .ok b) :
    ∃ a, x = .ok a ∧ f a = .ok b := by
  cases x with
  | error e => cases h
  | ok a => exact ⟨a, rfl, h⟩

/-- `x` fails, if at all, only with an error satisfying `P` -/
def ErrsIn {α : Type} (P : UErr → Prop) (x : UPy α) : Prop := ∀ e, x = .error e → P e

theorem ErrsIn.ok {α : Type} {P : UErr → Prop} (a : α) : ErrsIn P (.ok a) := fun _ h => nomatch h
theorem ErrsIn.err {α : Type} {P : UErr → Prop} {e : UErr} (h : P e) : ErrsIn P (.error e : UPy α) :=
  fun _ h' => Except.error.inj h' ▸ h
theorem ErrsIn.ite {α : Type} {P : UErr → Prop} {c : Prop} [Decidable c] {x y : UPy α}
    (hx : ErrsIn P x) (hy : ErrsIn P y) : ErrsIn P (if c then x else y) := by split <;> assumption
theorem ErrsIn.bind {α β : Type} {P : UErr → Prop} {x : UPy α} {f : α → UPy β}
    (hx : ErrsIn P x) (hf : ∀ a, x = .ok a → ErrsIn P (f a)) : ErrsIn P (x >>= f) := by
  cases x with
  | error e => exact fun e' h => hx e' (Except.error.inj h ▸ rfl)
  | ok a => exact hf a rfl

/-- `8k ||| v = 8k + v` for a three-bit `v` (octet 6 of the header: flags and VCF count length) -/
theorem or8 (k v : Nat) (hv : v < 8) : (8 * k) ||| v = 8 * k + v := by
  have := Nat.two_pow_add_eq_or_of_lt (i := 3) (b := v) (by simpa using hv) k
  simpa using this.symm

/-- `32r ||| u = 32r + u` for a five-bit `u` (data field header: construction rule and protocol id) -/
theorem or32 (r u : Nat) (hu : u < 32) : (32 * r) ||| u = 32 * r + u := by
  have := Nat.two_pow_add_eq_or_of_lt (i := 5) (b := u) (by simpa using hu) r
  simpa using this.symm

theorem packCommon_nat (s v m : Nat) (sd tr : Bool) :
    packCommon (s : Int) sd (v : Int) (m : Int) tr =
      if 65535 < s ∨ 63 < v ∨ 15 < m then .error (.py .value)
      else .ok [u8 (versionNumber * 16 + s / 4096 % 16), u8 (s / 16 % 256),
                u8 (s % 16 * 16 + b2n sd * 8 + v / 8 % 8), u8 (v % 8 * 32 + m * 2 + b2n tr)] := by
  unfold packCommon
  by_cases h : 65535 < s ∨ 63 < v ∨ 15 < m
  · rw [if_pos (by omega), if_pos h]
  · rw [if_neg (by omega), if_neg h]
    simp only [Int.toNat_natCast]

/-- out-of-range identifiers (negative ones included) are refused with `ValueError` -/
theorem packCommon_refuse (scid vcid mapId : Int) (sd tr : Bool)
    (h : scid < 0 ∨ 65535 < scid ∨ vcid < 0 ∨ 63 < vcid ∨ mapId < 0 ∨ 15 < mapId) :
    packCommon scid sd vcid mapId tr = .error (.py .value) := by
  unfold packCommon
  split
  · rfl
  · omega

theorem unpackBase_short (raw : Bytes) (tr : Bool) (ver : Nat) (h : raw.length < 4) :
    unpackBase raw tr ver = .error (.uslp .invalidLen) := by
  simp [unpackBase, h, bind, Except.bind, throw, throwThe, MonadExceptOf.throw]

theorem unpackBase_eq (raw : Bytes) (tr : Bool) (ver : Nat) (h4 : 4 ≤ raw.length) :
    unpackBase raw tr ver =
      if raw[0].toNat / 16 ≠ ver then .error (.uslp .versionMismatch)
      else if (raw[3].toNat % 2 == 1) ≠ tr then .error (.uslp .typeMismatch)
      else .ok (raw[0].toNat % 16 * 4096 + raw[1].toNat * 16 + raw[2].toNat / 16,
                raw[2].toNat / 8 % 2 == 1, raw[2].toNat % 8 * 8 + raw[3].toNat / 32 % 8,
                raw[3].toNat / 2 % 16) := by
  have hl : ¬ raw.length < 4 := by omega
  unfold unpackBase
  simp only [hl, ↓reduceIte, bind, Except.bind, pure, Except.pure, throw, throwThe, MonadExceptOf.throw,
    idx_ok (show 0 < raw.length by omega), idx_ok (show 1 < raw.length by omega),
    idx_ok (show 2 < raw.length by omega), idx_ok (show 3 < raw.length by omega), liftPy_ok]

theorem TruncatedHeader.unpack_short (raw : Bytes) (ver : Nat) (h : raw.length < 4) :
    TruncatedHeader.unpack raw ver = .error (.uslp .invalidLen) := by
  simp [TruncatedHeader.unpack, unpackBase_short raw true ver h, bind, Except.bind]

theorem TruncatedHeader.unpack_eq (raw : Bytes) (ver : Nat) (h4 : 4 ≤ raw.length) :
    TruncatedHeader.unpack raw ver =
      if raw[0].toNat / 16 ≠ ver then .error (.uslp .versionMismatch)
      else if raw[3].toNat % 2 ≠ 1 then .error (.uslp .typeMismatch)
      else .ok ⟨((raw[0].toNat % 16 * 4096 + raw[1].toNat * 16 + raw[2].toNat / 16 : Nat) : Int),
                raw[2].toNat / 8 % 2 == 1, ((raw[2].toNat % 8 * 8 + raw[3].toNat / 32 % 8 : Nat) : Int),
                ((raw[3].toNat / 2 % 16 : Nat) : Int)⟩ := by
  unfold TruncatedHeader.unpack
  rw [unpackBase_eq raw true ver h4]
  by_cases hv : raw[0].toNat / 16 ≠ ver <;> by_cases ht : raw[3].toNat % 2 = 1 <;>
    simp [hv, ht, bind, Except.bind, pure, Except.pure]

theorem vcfLoop_eq (raw : Bytes) (k pos acc : Nat) (h : pos + k ≤ raw.length) :
    vcfLoop raw k pos acc = .ok (acc + beNat (slice raw pos (pos + k))) := by
  induction k generalizing pos acc with
  | zero => simp [vcfLoop, slice, pure, Except.pure]
  | succ k ih =>
    have hp : pos < raw.length := by omega
    unfold vcfLoop
    simp only [idx_ok hp, liftPy_ok, bind, Except.bind]
    rw [ih (pos + 1) _ (by omega)]
    have hs : slice raw pos (pos + (k + 1)) = raw[pos] :: slice raw (pos + 1) (pos + 1 + k) := by
      simp only [slice]
      rw [show pos + (k + 1) = pos + 1 + k by omega, List.drop_eq_getElem_cons (by simp; omega), List.getElem_take]
    rw [hs, beNat_cons]
    have hl : (slice raw (pos + 1) (pos + 1 + k)).length = k := by simp; omega
    rw [hl, Nat.add_assoc]

/-- under the length guard every branch that reads the VCF count yields the big-endian value of
    the `n` octets after the fixed part -/
theorem readVcf_eq (raw : Bytes) (n : Nat) (h : 7 + n ≤ raw.length) :
    readVcf raw n = .ok (beNat (slice raw 7 (7 + n))) := by
  unfold readVcf
  by_cases h1 : n = 1
  · subst h1
    have h7 : 7 < raw.length := by omega
    have := vcfLoop_eq raw 1 7 0 (by omega)
    simp only [vcfLoop, idx_ok h7, liftPy_ok, bind, Except.bind, pure, Except.pure] at this
    simp at this
    simp [idx_ok h7, this]
  · by_cases h2 : n = 2
    · subst h2
      have hl : (slice raw 7 9).length = 2 := by simp; omega
      simp [unpackBE_ok hl]
    · by_cases h4 : n = 4
      · subst h4
        have hl : (slice raw 7 11).length = 4 := by simp; omega
        simp [unpackBE_ok hl]
      · simp only [h1, h2, h4, ↓reduceIte]
        rw [vcfLoop_eq raw n 7 0 h]; simp

theorem PrimaryHeader.unpack_short (raw : Bytes) (ver : Nat) (h : raw.length < 7) :
    PrimaryHeader.unpack raw ver = .error (.uslp .invalidLen) := by
  simp [PrimaryHeader.unpack, h, bind, Except.bind, throw, throwThe, MonadExceptOf.throw]

/-- the decoded regular header as a function of the octets -/
def hdrOf (raw : Bytes) (h7 : 7 ≤ raw.length) : PrimaryHeader :=
  ⟨((raw[0].toNat % 16 * 4096 + raw[1].toNat * 16 + raw[2].toNat / 16 : Nat) : Int),
   raw[2].toNat / 8 % 2 == 1, ((raw[2].toNat % 8 * 8 + raw[3].toNat / 32 % 8 : Nat) : Int),
   ((raw[3].toNat / 2 % 16 : Nat) : Int), raw[4].toNat * 256 + raw[5].toNat,
   raw[6].toNat / 128 % 2 == 1, raw[6].toNat / 64 % 2 == 1, raw[6].toNat / 8 % 2 == 1, raw[6].toNat % 8,
   some (beNat (slice raw 7 (7 + raw[6].toNat % 8)))⟩

theorem PrimaryHeader.unpack_eq (raw : Bytes) (ver : Nat) (h7 : 7 ≤ raw.length) :
    PrimaryHeader.unpack raw ver =
      if raw[0].toNat / 16 ≠ ver then .error (.uslp .versionMismatch)
      else if raw[3].toNat % 2 = 1 then .error (.uslp .typeMismatch)
      else if raw.length - 7 < raw[6].toNat % 8 then .error (.uslp .invalidLen)
      else .ok (hdrOf raw h7) := by
  have hl : ¬ raw.length < 7 := by omega
  unfold PrimaryHeader.unpack
  simp only [hl, ↓reduceIte, bind, Except.bind, pure, Except.pure, throw, throwThe, MonadExceptOf.throw]
  rw [unpackBase_eq raw false ver (by omega)]
  by_cases hv : raw[0].toNat / 16 ≠ ver
  · simp [hv]
  · by_cases ht : raw[3].toNat % 2 = 1
    · simp [hv, ht]
    · simp only [hv, ht, ↓reduceIte, idx_ok (show 4 < raw.length by omega),
        idx_ok (show 5 < raw.length by omega), idx_ok (show 6 < raw.length by omega), liftPy_ok]
      have ht' : ¬ ((raw[3].toNat % 2 == 1) ≠ false) := by simp [ht]
      simp only [ht', ↓reduceIte]
      by_cases hg : raw.length - 7 < raw[6].toNat % 8
      · simp [hg]
      · have hr := readVcf_eq raw (raw[6].toNat % 8) (by omega)
        simp only [gt_iff_lt, hg, ↓reduceIte, hr]
        rfl

theorem headerIsTruncated_eq (raw : Bytes) (h4 : 4 ≤ raw.length) :
    headerIsTruncated raw = .ok (raw[3].toNat % 2 == 1) := by
  have hl : ¬ raw.length < 4 := by omega
  simp [headerIsTruncated, hl, idx_ok (show 3 < raw.length by omega), bind, Except.bind, pure, Except.pure]

theorem headerIsTruncated_short (raw : Bytes) (h : raw.length < 4) :
    headerIsTruncated raw = .error (.py .value) := by
  simp [headerIsTruncated, h, bind, Except.bind, throw, throwThe, MonadExceptOf.throw]

/-- the construction rule belongs to the frame type (always true when no type is passed) -/
def rulesOk (rules : Nat) : Option FrameType → Bool
  | some f => verifyFrameType rules f
  | none => true

theorem Tfdf.unpack_nil (tr : Bool) (n : Nat) (ft : Option FrameType) :
    Tfdf.unpack [] tr n ft = .error (.uslp .invalidLen) := rfl

/-- the data-field decoder on a non-empty buffer: the rule must belong to the frame type; with a
    pointer three octets are needed, in the buffer and in the declared length -/
theorem Tfdf.unpack_eq (raw : Bytes) (h1 : 1 ≤ raw.length) (tr : Bool) (n : Nat) (ft : Option FrameType) :
    Tfdf.unpack raw tr n ft =
      if rulesOk (raw[0].toNat / 32 % 8) ft = false then .error (.uslp .invalidConstructionRules)
      else if shouldHaveFhp (raw[0].toNat / 32 % 8) tr ft = true then
        if raw.length < 3 ∨ n < 3 then .error (.uslp .invalidLen)
        else do
          let r1 ← liftPy (idx raw 1)
          let r2 ← liftPy (idx raw 2)
          pure ⟨raw[0].toNat / 32 % 8, raw[0].toNat % 32, some (r1 * 256 + r2), slice raw 3 n⟩
      else .ok ⟨raw[0].toNat / 32 % 8, raw[0].toNat % 32, none, slice raw 1 n⟩ := by
  unfold Tfdf.unpack
  rw [if_neg (by omega), idx_ok (show 0 < raw.length by omega), liftPy_ok, ubind_ok]
  cases ft with
  | none => rfl
  | some f => cases h : verifyFrameType (raw[0].toNat / 32 % 8) f <;> simp only [rulesOk, h] <;> rfl

theorem Tfdf.unpack_fhp_short (raw : Bytes) (h1 : 1 ≤ raw.length) (tr : Bool) (n : Nat) (h3 : raw.length < 3 ∨ n < 3)
    (ft : Option FrameType) (hok : rulesOk (raw[0].toNat / 32 % 8) ft = true)
    (hs : shouldHaveFhp (raw[0].toNat / 32 % 8) tr ft = true) :
    Tfdf.unpack raw tr n ft = .error (.uslp .invalidLen) := by
  rw [Tfdf.unpack_eq raw h1, if_neg (by rw [hok]; nofun), if_pos hs, if_pos h3]

theorem Tfdf.unpack_fhp (x0 x1 x2 : UInt8) (r : Bytes) (tr : Bool) (n : Nat) (hn : 3 ≤ n)
    (ft : Option FrameType) (hok : rulesOk (x0.toNat / 32 % 8) ft = true)
    (hs : shouldHaveFhp (x0.toNat / 32 % 8) tr ft = true) :
    Tfdf.unpack (x0 :: x1 :: x2 :: r) tr n ft =
      .ok ⟨x0.toNat / 32 % 8, x0.toNat % 32, some (x1.toNat * 256 + x2.toNat), slice (x0 :: x1 :: x2 :: r) 3 n⟩ := by
  rw [Tfdf.unpack_eq _ (Nat.le_add_left 1 _), List.getElem_cons_zero, if_neg (by rw [hok]; nofun), if_pos hs,
    if_neg (by simp only [List.length_cons]; omega)]
  rfl

theorem Tfdf.unpack_nofhp (x0 : UInt8) (r : Bytes) (tr : Bool) (n : Nat)
    (ft : Option FrameType) (hok : rulesOk (x0.toNat / 32 % 8) ft = true)
    (hs : shouldHaveFhp (x0.toNat / 32 % 8) tr ft = false) :
    Tfdf.unpack (x0 :: r) tr n ft = .ok ⟨x0.toNat / 32 % 8, x0.toNat % 32, none, slice (x0 :: r) 1 n⟩ := by
  rw [Tfdf.unpack_eq _ (Nat.le_add_left 1 _), List.getElem_cons_zero, if_neg (by rw [hok]; nofun),
    if_neg (by rw [hs]; nofun)]

theorem Tfdf.unpack_err (raw : Bytes) (tr : Bool) (n : Nat) (ft : Option FrameType) (e : UErr)
    (h : Tfdf.unpack raw tr n ft = .error e) :
    e = .uslp .invalidLen ∨ e = .uslp .invalidConstructionRules := by
  cases raw with
  | nil => cases h; exact .inl rfl
  | cons x r =>
    rw [Tfdf.unpack_eq (x :: r) (Nat.succ_pos _)] at h
    split at h
    · cases h; exact .inr rfl
    split at h
    · split at h
      · cases h; exact .inl rfl
      · rename_i g
        rw [idx_ok (show 1 < (x :: r).length by omega), idx_ok (show 2 < (x :: r).length by omega)] at h
        cases h
    · cases h

theorem Frame.unpackHeader_short (raw : Bytes) (ft : FrameType) (p : FrameProps) (h : raw.length < 4) :
    Frame.unpackHeader raw ft p = .error (.uslp .invalidLen) := by
  simp [Frame.unpackHeader, h, bind, Except.bind, throw, throwThe, MonadExceptOf.throw]

/-- the guards of `TransferFrame.unpack` in the order the code applies them -/
theorem Frame.unpackHeader_eq (raw : Bytes) (ft : FrameType) (p : FrameProps) (h4 : 4 ≤ raw.length) :
    Frame.unpackHeader raw ft p =
      if ft = .fixed ∧ p.kind ≠ .fixed then .error (.py .value)
      else if ft = .fixed ∧ raw.length < p.lenParam then .error (.uslp .invalidLen)
      else if raw[3].toNat % 2 = 1 then
        if ft ≠ .variable then .error (.uslp .truncatedNotAllowed)
        else if p.kind ≠ .variable then .error (.py .value)
        else if raw.length < p.lenParam then .error (.uslp .invalidLen)
        else (TruncatedHeader.unpack raw).bind (fun h => .ok (Header.truncated h))
      else (PrimaryHeader.unpack raw).bind (fun h => .ok (Header.primary h)) := by
  have hl : ¬ raw.length < 4 := by omega
  unfold Frame.unpackHeader
  rw [headerIsTruncated_eq raw h4]
  cases ft <;> cases hk : p.kind <;> by_cases hlen : raw.length < p.lenParam <;>
    by_cases ht : raw[3].toNat % 2 = 1 <;>
    simp [hl, hk, hlen, ht, bind, Except.bind, pure, Except.pure, throw, throwThe, MonadExceptOf.throw]

/-- what the header stage guarantees when it accepts: for the fixed type fixed-frame properties and a
    buffer of at least the fixed length; a truncated header only for the variable type with
    variable-frame properties and a buffer of at least the truncated length; the header is what the
    header decoder that applies returns -/
theorem Frame.unpackHeader_ok {raw : Bytes} {ft : FrameType} {p : FrameProps} {hdr : Header}
    (hu : Frame.unpackHeader raw ft p = .ok hdr) :
    4 ≤ raw.length ∧ (ft = .fixed → p.kind = .fixed ∧ p.lenParam ≤ raw.length) ∧
    match hdr with
    | .truncated h =>
      ft = .variable ∧ p.kind = .variable ∧ p.lenParam ≤ raw.length ∧ TruncatedHeader.unpack raw = .ok h
    | .primary h => PrimaryHeader.unpack raw = .ok h := by
  by_cases h4 : 4 ≤ raw.length
  · rw [Frame.unpackHeader_eq raw ft p h4] at hu
    by_cases g1 : ft = .fixed ∧ p.kind ≠ .fixed
    · rw [if_pos g1] at hu; cases hu
    by_cases g2 : ft = .fixed ∧ raw.length < p.lenParam
    · rw [if_neg g1, if_pos g2] at hu; cases hu
    rw [if_neg g1, if_neg g2] at hu
    refine ⟨h4, fun hf => ⟨Classical.not_not.1 fun hk => g1 ⟨hf, hk⟩, Nat.le_of_not_lt fun hl => g2 ⟨hf, hl⟩⟩, ?_⟩
    by_cases ht : raw[3].toNat % 2 = 1
    · by_cases c1 : ft ≠ .variable
      · rw [if_pos ht, if_pos c1] at hu; cases hu
      by_cases c2 : p.kind ≠ .variable
      · rw [if_pos ht, if_neg c1, if_pos c2] at hu; cases hu
      by_cases c3 : raw.length < p.lenParam
      · rw [if_pos ht, if_neg c1, if_neg c2, if_pos c3] at hu; cases hu
      rw [if_pos ht, if_neg c1, if_neg c2, if_neg c3] at hu
      cases hx : TruncatedHeader.unpack raw <;> rw [hx] at hu <;> cases hu
      exact ⟨Classical.not_not.1 c1, Classical.not_not.1 c2, Nat.le_of_not_lt c3, rfl⟩
    · rw [if_neg ht] at hu
      cases hp : PrimaryHeader.unpack raw <;> rw [hp] at hu <;> cases hu
      rfl
  · rw [Frame.unpackHeader_short raw ft p (by omega)] at hu; cases hu

theorem tfdfLen_primary (ft : FrameType) (h : PrimaryHeader) (L : Nat) (p : FrameProps) :
    tfdfLen ft (.primary h) L p =
      if ft = .fixed ∧ (L : Int) < (h.frameLen : Int) + 1 - (h.len : Int) then .error (.uslp .invalidLen)
      else .ok ((h.frameLen : Int) + 1 - (h.len : Int) - optSizeI p.fecf - (if h.ocf then 4 else 0)
                - optSizeI p.insertZone) := by
  cases ft <;> by_cases hc : (L : Int) < (h.frameLen : Int) + 1 - (h.len : Int) <;>
    simp [tfdfLen, Header.len, Header.hasOcf, hc, bind, Except.bind, pure, Except.pure, throw, throwThe,
      MonadExceptOf.throw]
  all_goals (split <;> simp_all)

theorem tfdfLen_truncated (h : TruncatedHeader) (L : Nat) (p : FrameProps) (hk : p.kind = .variable) :
    tfdfLen .variable (.truncated h) L p =
      .ok ((p.lenParam : Int) - 4 - optSizeI p.fecf - optSizeI p.insertZone) := by
  simp [tfdfLen, Header.len, TruncatedHeader.len, Header.hasOcf, hk, bind, Except.bind, pure, Except.pure]

theorem frameLenCheck_primary (raw : Bytes) (ft : FrameType) (p : FrameProps) (h : PrimaryHeader) :
    frameLenCheck raw ft p (.primary h) =
      if raw.length < h.frameLen + 1 then .error (.uslp .invalidLen)
      else if ft = .fixed ∧ h.frameLen + 1 ≠ p.lenParam then .error (.uslp .invalidLen) else .ok () := rfl

theorem frameLenCheck_primary_ok (raw : Bytes) (ft : FrameType) (p : FrameProps) (h : PrimaryHeader)
    (h1 : h.frameLen + 1 ≤ raw.length) (h2 : ft = .fixed → h.frameLen + 1 = p.lenParam) :
    frameLenCheck raw ft p (.primary h) = .ok () := by
  rw [frameLenCheck_primary, if_neg (by omega), if_neg fun ⟨a, b⟩ => b (h2 a)]

theorem frameLenCheck_primary_inv (raw : Bytes) (ft : FrameType) (p : FrameProps) (h : PrimaryHeader)
    (hc : frameLenCheck raw ft p (.primary h) = .ok ()) :
    h.frameLen + 1 ≤ raw.length ∧ (ft = .fixed → h.frameLen + 1 = p.lenParam) := by
  rw [frameLenCheck_primary] at hc
  split at hc
  · cases hc
  split at hc
  · cases hc
  · rename_i g1 g2
    exact ⟨by omega, fun hf => Classical.not_not.1 fun he => g2 ⟨hf, he⟩⟩

theorem frameLenCheck_err (raw : Bytes) (ft : FrameType) (p : FrameProps) (hdr : Header) (e : UErr)
    (hc : frameLenCheck raw ft p hdr = .error e) : e = .uslp .invalidLen := by
  cases hdr with
  | truncated t => cases hc
  | primary h => exact ErrsIn.ite (P := (· = .uslp .invalidLen)) (.err rfl) (.ite (.err rfl) (.ok _)) e hc

/-- the body stage: frame-length checks, derived data-field length (positive, inside the buffer, and
    leaving room for a declared insert zone), data field, then insert zone / OCF / FECF taken from
    their places -/
theorem Frame.unpackBody_eq (raw : Bytes) (ft : FrameType) (p : FrameProps) (hdr : Header) :
    Frame.unpackBody raw ft p hdr =
      frameLenCheck raw ft p hdr >>= fun _ => tfdfLen ft hdr raw.length p >>= fun e =>
        if e ≤ 0 ∨ (hdr.len : Int) + e > (raw.length : Int) then .error (.uslp .invalidLen)
        else if p.insertZone.isSome ∧ hdr.len + optSize p.insertZone + e.toNat > raw.length then
          .error (.uslp .invalidLen)
        else
          Tfdf.unpack (raw.drop (hdr.len + optSize p.insertZone)) hdr.isTruncated e.toNat (some ft) >>= fun tfdf =>
            let cur := hdr.len + optSize p.insertZone + e.toNat
            .ok ⟨hdr, tfdf, p.insertZone.map (fun s => slice raw hdr.len (hdr.len + s)),
              if hdr.hasOcf then some (slice raw cur (cur + 4)) else none,
              p.fecf.map (fun s => slice raw (if hdr.hasOcf then cur + 4 else cur)
                ((if hdr.hasOcf then cur + 4 else cur) + s))⟩ :=
  rfl

theorem optSize_map (o : Option Bytes) : optSize (o.map List.length) = (optBytes o).length := by
  cases o <;> rfl

private theorem map_slice (o : Option Bytes) (raw : Bytes) (s : Nat)
    (hs : slice raw s (s + (optBytes o).length) = optBytes o) :
    (o.map List.length).map (fun k => slice raw s (s + k)) = o := by
  cases o with
  | none => rfl
  | some m => exact congrArg some hs

/-- Assembly of the decoded frame from the octet ranges: when the checks on the frame length pass,
    the derived data-field length is the length of `tb` and the data-field decoder accepts `tb`
    (followed by whatever comes after it), the decoder returns the header, that data field, and
    the insert zone / OCF / FECF taken from their places. -/
theorem Frame.unpackBody_assemble (hdr : Header) (hb tb ob rest : Bytes) (iz fecf : Option Bytes) (ft : FrameType)
    (p : FrameProps) (t : Tfdf)
    (hhl : hb.length = hdr.len)
    (hiz : p.insertZone = iz.map List.length)
    (hfe : p.fecf = fecf.map List.length)
    (hob : ob.length = if hdr.hasOcf then 4 else 0)
    (hchk : frameLenCheck (hb ++ (optBytes iz ++ (tb ++ (ob ++ (optBytes fecf ++ rest))))) ft p hdr = .ok ())
    (hlen : tfdfLen ft hdr (hb ++ (optBytes iz ++ (tb ++ (ob ++ (optBytes fecf ++ rest))))).length p
      = .ok (tb.length : Int))
    (htb : 1 ≤ tb.length)
    (htf : Tfdf.unpack (tb ++ (ob ++ (optBytes fecf ++ rest))) hdr.isTruncated tb.length (some ft) = .ok t) :
    Frame.unpackBody (hb ++ (optBytes iz ++ (tb ++ (ob ++ (optBytes fecf ++ rest))))) ft p hdr =
      .ok ⟨hdr, t, iz, if hdr.hasOcf then some ob else none, fecf⟩ := by
  generalize hraw : hb ++ (optBytes iz ++ (tb ++ (ob ++ (optBytes fecf ++ rest)))) = raw at hchk hlen ⊢
  have hL : raw.length =
      hdr.len + (optBytes iz).length + tb.length + ob.length + (optBytes fecf).length + rest.length := by
    rw [← hraw, ← hhl]; simp only [List.length_append]; omega
  have hdrop : raw.drop (hdr.len + (optBytes iz).length) = tb ++ (ob ++ (optBytes fecf ++ rest)) := by
    rw [← hraw, ← List.append_assoc, ← hhl, ← List.length_append]; exact List.drop_left
  have hcur : (if hdr.hasOcf = true then hdr.len + (optBytes iz).length + tb.length + 4
      else hdr.len + (optBytes iz).length + tb.length)
      = hdr.len + (optBytes iz).length + tb.length + ob.length := by rw [hob]; split <;> rfl
  have s1 : slice raw hdr.len (hdr.len + (optBytes iz).length) = optBytes iz :=
    slice_of_decomp (c := tb ++ (ob ++ (optBytes fecf ++ rest))) (by rw [← hraw, List.append_assoc]) hhl.symm
      (by rw [hhl])
  have s2 : slice raw (hdr.len + (optBytes iz).length + tb.length)
      (hdr.len + (optBytes iz).length + tb.length + ob.length) = ob :=
    slice_of_decomp (a := hb ++ optBytes iz ++ tb) (c := optBytes fecf ++ rest)
      (by rw [← hraw]; simp only [List.append_assoc])
      (by simp only [List.length_append, hhl]) (by simp only [List.length_append, hhl])
  have s3 : slice raw (hdr.len + (optBytes iz).length + tb.length + ob.length)
      (hdr.len + (optBytes iz).length + tb.length + ob.length + (optBytes fecf).length) = optBytes fecf :=
    slice_of_decomp (a := hb ++ optBytes iz ++ tb ++ ob) (c := rest) (by rw [← hraw]; simp only [List.append_assoc])
      (by simp only [List.length_append, hhl]) (by simp only [List.length_append, hhl])
  rw [Frame.unpackBody_eq, hchk, ubind_ok, hlen, ubind_ok, hiz, hfe, optSize_map, if_neg (by omega),
    Int.toNat_natCast, if_neg (by omega), hdrop, htf, ubind_ok, map_slice iz raw _ s1]
  dsimp only
  rw [hcur, map_slice fecf raw _ s3]
  cases ho : hdr.hasOcf with
  | false => rfl
  | true =>
    have h4 : ob.length = 4 := by rw [hob, ho]; rfl
    rw [h4] at s2
    exact congrArg Except.ok (by rw [if_pos rfl, if_pos rfl, s2])

theorem Frame.unpackHeader_primary_ok (raw : Bytes) (ft : FrameType) (p : FrameProps) (h : PrimaryHeader)
    (h4 : 4 ≤ raw.length) (h3 : raw[3].toNat % 2 = 0) (hu : PrimaryHeader.unpack raw = .ok h)
    (hfix : ft = .fixed → p.kind = .fixed ∧ p.lenParam ≤ raw.length) :
    Frame.unpackHeader raw ft p = .ok (.primary h) := by
  rw [Frame.unpackHeader_eq raw ft p h4, hu]
  have ht : ¬ raw[3].toNat % 2 = 1 := by omega
  cases ft
  · obtain ⟨mk, ml⟩ := hfix rfl
    have g : ¬ raw.length < p.lenParam := by omega
    simp [mk, g, ht, Except.bind]
  · simp [ht, Except.bind]

theorem Frame.unpackHeader_truncated_ok (raw : Bytes) (p : FrameProps) (h : TruncatedHeader)
    (h4 : 4 ≤ raw.length) (h3 : raw[3].toNat % 2 = 1) (hu : TruncatedHeader.unpack raw = .ok h)
    (hk : p.kind = .variable) (hl : p.lenParam ≤ raw.length) :
    Frame.unpackHeader raw .variable p = .ok (.truncated h) := by
  rw [Frame.unpackHeader_eq raw .variable p h4, hu]
  have g : ¬ raw.length < p.lenParam := by omega
  simp [hk, g, h3, Except.bind]

theorem tfdfLen_primary_ok (ft : FrameType) (h : PrimaryHeader) (L : Nat) (p : FrameProps) (n : Nat)
    (hL : h.frameLen + 1 ≤ L)
    (hn : h.frameLen + 1 = h.len + n + optSize p.fecf + (if h.ocf then 4 else 0) + optSize p.insertZone) :
    tfdfLen ft (.primary h) L p = .ok (n : Int) := by
  rw [tfdfLen_primary, if_neg (fun hb => by have := hb.2; omega), optSizeI, optSizeI]
  refine congrArg Except.ok ?_
  cases ho : h.ocf <;> simp only [ho, ↓reduceIte, Bool.false_eq_true] at hn ⊢ <;> omega

theorem Frame.unpackBody_inv (raw : Bytes) (ft : FrameType) (p : FrameProps) (hdr : Header) (f : Frame)
    (hu : Frame.unpackBody raw ft p hdr = .ok f) :
    frameLenCheck raw ft p hdr = .ok () ∧
    ∃ e : Int, tfdfLen ft hdr raw.length p = .ok e ∧ 0 < e ∧ (hdr.len : Int) + e ≤ (raw.length : Int) ∧
      f.header = hdr ∧
      Tfdf.unpack (raw.drop (hdr.len + optSize p.insertZone)) hdr.isTruncated e.toNat (some ft) = .ok f.tfdf := by
  rw [Frame.unpackBody_eq] at hu
  obtain ⟨_, hc, hu⟩ := ubind_ok_inv hu
  obtain ⟨e, he, hu⟩ := ubind_ok_inv hu
  split at hu
  · cases hu
  split at hu
  · cases hu
  obtain ⟨t, ht, hu⟩ := ubind_ok_inv hu
  cases hu
  exact ⟨hc, e, he, by omega, by omega, rfl, ht⟩

/-- the body stage fails only with `UslpInvalidRawPacketOrFrameLen` / `UslpInvalidConstructionRules`,
    provided the header came out of the header stage (no attribute access on the wrong class) -/
theorem Frame.unpackBody_err (raw : Bytes) (ft : FrameType) (p : FrameProps) (hdr : Header) (e : UErr)
    (hreach : ∀ t, hdr = .truncated t → ft = .variable ∧ p.kind = .variable)
    (hu : Frame.unpackBody raw ft p hdr = .error e) :
    e = .uslp .invalidLen ∨ e = .uslp .invalidConstructionRules := by
  have hlen : ErrsIn (fun e => e = .uslp .invalidLen ∨ e = .uslp .invalidConstructionRules)
      (tfdfLen ft hdr raw.length p) := by
    cases hdr with
    | primary h => rw [tfdfLen_primary]; exact .ite (.err (.inl rfl)) (.ok _)
    | truncated t =>
      obtain ⟨rfl, hk⟩ := hreach t rfl
      rw [tfdfLen_truncated _ _ _ hk]; exact .ok _
  rw [Frame.unpackBody_eq] at hu
  exact ErrsIn.bind (fun e h => .inl (frameLenCheck_err raw ft p hdr e h)) (fun _ _ => .bind hlen fun _ _ =>
    .ite (.err (.inl rfl)) <| .ite (.err (.inl rfl)) <| .bind (Tfdf.unpack_err _ _ _ _) fun _ _ => .ok _) e hu

/-- only `Uslp*` classes -/
def UErr.isUslp : UErr → Bool
  | .uslp _ => true
  | .py _ => false

/-- `Uslp*` classes or `ValueError` -/
def UErr.isUslpOrValue : UErr → Bool
  | .uslp _ => true
  | .py .value => true
  | .py _ => false

theorem UErr.documented_of_isUslpOrValue (e : UErr) (h : e.isUslpOrValue = true) : e.toErr.documented = true := by
  cases e with
  | uslp k => rfl
  | py e => cases e <;> simp [UErr.isUslpOrValue] at h <;> rfl

theorem TruncatedHeader.unpack_err (raw : Bytes) (ver : Nat) (e : UErr)
    (h : TruncatedHeader.unpack raw ver = .error e) :
    e = .uslp .invalidLen ∨ e = .uslp .versionMismatch ∨ e = .uslp .typeMismatch := by
  by_cases h4 : 4 ≤ raw.length
  · rw [TruncatedHeader.unpack_eq raw ver h4] at h
    exact ErrsIn.ite (P := fun e => e = .uslp .invalidLen ∨ e = .uslp .versionMismatch ∨ e = .uslp .typeMismatch)
      (.err (.inr (.inl rfl))) (.ite (.err (.inr (.inr rfl))) (.ok _)) e h
  · rw [TruncatedHeader.unpack_short raw ver (by omega)] at h; cases h; exact .inl rfl

theorem PrimaryHeader.unpack_err (raw : Bytes) (ver : Nat) (e : UErr)
    (h : PrimaryHeader.unpack raw ver = .error e) :
    e = .uslp .invalidLen ∨ e = .uslp .versionMismatch ∨ e = .uslp .typeMismatch := by
  by_cases h7 : 7 ≤ raw.length
  · rw [PrimaryHeader.unpack_eq raw ver h7] at h
    exact ErrsIn.ite (P := fun e => e = .uslp .invalidLen ∨ e = .uslp .versionMismatch ∨ e = .uslp .typeMismatch)
      (.err (.inr (.inl rfl))) (.ite (.err (.inr (.inr rfl))) (.ite (.err (.inl rfl)) (.ok _))) e h
  · rw [PrimaryHeader.unpack_short raw ver (by omega)] at h; cases h; exact .inl rfl

theorem PrimaryHeader.unpack_ok {raw : Bytes} {ver : Nat} {h : PrimaryHeader} (hu : PrimaryHeader.unpack raw ver = .ok h) :
    ∃ h7 : 7 ≤ raw.length, raw[0].toNat / 16 = ver ∧ raw[3].toNat % 2 ≠ 1 ∧ 7 + raw[6].toNat % 8 ≤ raw.length ∧
      h = hdrOf raw h7 := by
  by_cases h7 : 7 ≤ raw.length
  · rw [PrimaryHeader.unpack_eq raw ver h7] at hu
    split at hu
    · cases hu
    split at hu
    · cases hu
    split at hu
    · cases hu
    · exact ⟨h7, by omega, by omega, by omega, (Except.ok.inj hu).symm⟩
  · rw [PrimaryHeader.unpack_short raw ver (by omega)] at hu; cases hu

theorem PrimaryHeader.unpack_len (raw : Bytes) (ver : Nat) (h : PrimaryHeader)
    (hu : PrimaryHeader.unpack raw ver = .ok h) : h.len ≤ raw.length ∧ h.vcfLen ≤ 7 := by
  obtain ⟨h7, -, -, hl, rfl⟩ := PrimaryHeader.unpack_ok hu
  simp only [hdrOf, PrimaryHeader.len]
  omega

/-- the header decoder reads only the declared header: trailing octets do not matter (C09) -/
theorem PrimaryHeader.unpack_append (raw rest : Bytes) (ver : Nat) (h : PrimaryHeader)
    (hu : PrimaryHeader.unpack raw ver = .ok h) : PrimaryHeader.unpack (raw ++ rest) ver = .ok h := by
  obtain ⟨h7, c1, c2, c3, rfl⟩ := PrimaryHeader.unpack_ok hu
  rw [PrimaryHeader.unpack_eq _ ver (by rw [List.length_append]; omega)]
  simp (disch := omega) only [hdrOf, List.getElem_append_left, List.length_append]
  rw [if_neg (not_not_intro c1), if_neg c2, if_neg (by omega), slice_append_left raw rest 7 _ c3]

theorem TruncatedHeader.unpack_append (raw rest : Bytes) (ver : Nat) (h : TruncatedHeader)
    (hu : TruncatedHeader.unpack raw ver = .ok h) : TruncatedHeader.unpack (raw ++ rest) ver = .ok h := by
  by_cases h4 : 4 ≤ raw.length
  · rw [TruncatedHeader.unpack_eq raw ver h4] at hu
    rw [TruncatedHeader.unpack_eq _ ver (by rw [List.length_append]; omega)]
    simp (disch := omega) only [List.getElem_append_left]
    exact hu
  · rw [TruncatedHeader.unpack_short raw ver (by omega)] at hu; cases hu

theorem Frame.unpackHeader_err (raw : Bytes) (ft : FrameType) (p : FrameProps) (e : UErr)
    (h : Frame.unpackHeader raw ft p = .error e) : e.isUslpOrValue = true := by
  have hdr : ∀ e' : UErr, (e' = .uslp .invalidLen ∨ e' = .uslp .versionMismatch ∨ e' = .uslp .typeMismatch) →
      e'.isUslpOrValue = true := by rintro _ (rfl | rfl | rfl) <;> rfl
  by_cases h4 : 4 ≤ raw.length
  · rw [Frame.unpackHeader_eq raw ft p h4] at h
    exact ErrsIn.ite (P := (UErr.isUslpOrValue · = true)) (.err rfl) (.ite (.err rfl) <| .ite
      (.ite (.err rfl) <| .ite (.err rfl) <| .ite (.err rfl) <|
        .bind (fun e h => hdr e (TruncatedHeader.unpack_err raw _ e h)) fun _ _ => .ok _)
      (.bind (fun e h => hdr e (PrimaryHeader.unpack_err raw _ e h)) fun _ _ => .ok _)) e h
  · rw [Frame.unpackHeader_short raw ft p (by omega)] at h; cases h; rfl

/-- `TransferFrame.unpack` fails, for every buffer, frame type and managed-parameter object, only
    with one of the `Uslp*` classes or `ValueError` — never IndexError / struct.error /
    AttributeError -/
theorem Frame.unpack_err (raw : Bytes) (ft : FrameType) (p : FrameProps) (e : UErr)
    (h : Frame.unpack raw ft p = .error e) : e.isUslpOrValue = true := by
  refine ErrsIn.bind (P := (UErr.isUslpOrValue · = true)) (Frame.unpackHeader_err raw ft p) (fun hdr hh e h => ?_) e h
  have hreach : ∀ t, hdr = .truncated t → ft = .variable ∧ p.kind = .variable := fun t ht => by
    subst ht; exact ⟨(Frame.unpackHeader_ok hh).2.2.1, (Frame.unpackHeader_ok hh).2.2.2.1⟩
  rcases Frame.unpackBody_err raw ft p hdr e hreach h with rfl | rfl <;> rfl

theorem Frame.unpack_documented (raw : Bytes) (ft : FrameType) (p : FrameProps) :
    Documented (Frame.unpack raw ft p).toPy := by
  intro e h
  cases hu : Frame.unpack raw ft p with
  | ok f => simp [hu] at h
  | error e' =>
    simp [hu] at h
    subst h
    exact UErr.documented_of_isUslpOrValue _ (Frame.unpack_err raw ft p e' hu)

end SpVerif.Uslp
