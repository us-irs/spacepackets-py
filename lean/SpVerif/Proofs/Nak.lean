import SpVerif.Model.Nak
import SpVerif.Proofs.FileDirective
/-!
# The NAK PDU model

Constructor and setter equations; the segment requests as the standard lays them out (`specSegs`) with
the encoder and decoder loops on them; the decoder as prelude + `parse`, with `parse_eq` as the
case-by-case equation of the parser and `parse_ok_inv` as what an accepted parameter field looks like.
-/
namespace SpVerif.Nak
open SpVerif SpVerif.CfdpHeader SpVerif.FileDirective

/-- FSS width as the pack / parse loops select it -/
def segW (large : Bool) : Nat := if large then 8 else 4

theorem segW_eq (fd : FileDirective) : segW fd.header.largeFileFlagSet = fssWidth fd.header.conf.fileFlag :=
  width_of_large fd.header

theorem segW_pos (large : Bool) : 4 ≤ segW large := by unfold segW; split <;> omega

/-- directive-parameter length of a NAK PDU with `n` segment requests -/
def nakParamLen (fileFlag crcFlag n : Nat) : Nat :=
  2 * fssWidth fileFlag * (n + 1) + (if crcFlag = 1 then 2 else 0)

theorem calcLen_eq (fd : FileDirective) (n : Nat) (hf : fd.header.conf.fileFlag < 2) :
    calcLen fd n = fd.setParamLen (nakParamLen fd.header.conf.fileFlag fd.header.conf.crcFlag n) := by
  have key : ∀ l, l = 2 * fssWidth fd.header.conf.fileFlag * (n + 1) →
      fd.setParamLen (if fd.header.conf.crcFlag = 1 then l + 2 else l)
        = fd.setParamLen (nakParamLen fd.header.conf.fileFlag fd.header.conf.crcFlag n) := by
    intro l hl; unfold nakParamLen; rw [← hl]; split <;> rfl
  unfold calcLen
  by_cases h0 : fd.header.conf.fileFlag = 0
  · rw [if_pos h0, pure_bind]
    exact key _ (by rw [h0]; show 8 + n * 8 = 2 * 4 * (n + 1); omega)
  · have h1 : fd.header.conf.fileFlag = 1 := by omega
    rw [if_neg h0, if_pos h1, pure_bind]
    exact key _ (by rw [h1]; show 16 + n * 16 = 2 * 8 * (n + 1); omega)

theorem calcLen_bad_flag (fd : FileDirective) (n : Nat) (hf : 2 ≤ fd.header.conf.fileFlag) :
    calcLen fd n = .error .value := by
  unfold calcLen
  rw [if_neg (by omega), if_neg (by omega)]; rfl

theorem calcLen_documented (fd : FileDirective) (n : Nat) : Documented (calcLen fd n) := by
  by_cases hf : fd.header.conf.fileFlag < 2
  · rw [calcLen_eq fd n hf]; exact setParamLen_documented _ _
  · rw [calcLen_bad_flag fd n (by omega)]; exact Documented.err rfl

theorem new_eq (c : PduConfig) (s e : Int) (segs : List Seg) (hf : c.fileFlag < 2) :
    Nak.new c s e segs =
      if c.source.width ≠ c.dest.width ∨ 65535 < nakParamLen c.fileFlag c.crcFlag segs.length + 1
      then .error .value
      else .ok ⟨⟨⟨0, 0, nakParamLen c.fileFlag c.crcFlag segs.length + 1, { c with direction := 1 }⟩, 8⟩,
                s, e, segs⟩ := by
  unfold Nak.new
  rw [new_bind _ _ _ (by omega)]
  by_cases hw : c.source.width ≠ c.dest.width
  · rw [if_pos hw, if_pos (Or.inl hw)]
  rw [if_neg hw, calcLen_eq _ _ hf, setParamLen_eq]
  by_cases h3 : 65535 < nakParamLen c.fileFlag c.crcFlag segs.length + 1
  · rw [if_pos h3, if_pos (Or.inr h3)]; rfl
  · rw [if_neg h3, if_neg (not_or.mpr ⟨hw, h3⟩)]; rfl

theorem setSegs_eq (k : Nak) (segs : List Seg) (hf : k.fd.header.conf.fileFlag < 2) :
    k.setSegs segs =
      if 65535 < nakParamLen k.fd.header.conf.fileFlag k.fd.header.conf.crcFlag segs.length + 1
      then .error .value
      else .ok { k with segs := segs, fd := { k.fd with header := { k.fd.header with
        dataFieldLen := nakParamLen k.fd.header.conf.fileFlag k.fd.header.conf.crcFlag segs.length + 1 } } } := by
  unfold Nak.setSegs
  rw [calcLen_eq _ _ hf, setParamLen_eq]
  split <;> rfl

theorem setFileFlag_eq (k : Nak) (f : Nat) (hf : f < 2) :
    k.setFileFlag f =
      if 65535 < nakParamLen f k.fd.header.conf.crcFlag k.segs.length + 1 then .error .value
      else .ok { k with fd := { k.fd with header := { k.fd.header with
        dataFieldLen := nakParamLen f k.fd.header.conf.crcFlag k.segs.length + 1,
        conf := { k.fd.header.conf with fileFlag := f } } } } := by
  unfold Nak.setFileFlag
  rw [calcLen_eq _ _ hf]
  show ((k.fd.setFileFlag f).setParamLen (nakParamLen f k.fd.header.conf.crcFlag k.segs.length) >>= _) = _
  rw [setParamLen_eq]
  split <;> rfl

/-- a non-negative offset that fits `w` octets -/
def fits (w : Nat) (v : Int) : Prop := 0 ≤ v ∧ v.toNat < 256 ^ w

instance (w : Nat) (v : Int) : Decidable (fits w v) := by unfold fits; infer_instance

/-- one (start, end) pair as the standard lays it out: two big-endian FSS fields -/
def specPair (w : Nat) (a b : Int) : Bytes := beBytes w a.toNat ++ beBytes w b.toNat

/-- the segment requests in list order -/
def specSegs (w : Nat) : List Seg → Bytes
  | [] => []
  | p :: r => specPair w p.1 p.2 ++ specSegs w r

theorem specPair_length (w : Nat) (a b : Int) : (specPair w a b).length = 2 * w := by
  simp [specPair]; omega

theorem specSegs_length (w : Nat) (l : List Seg) : (specSegs w l).length = l.length * (2 * w) := by
  induction l with
  | nil => simp [specSegs]
  | cons p r ih =>
    simp only [specSegs, List.length_append, specPair_length, ih, List.length_cons]
    rw [Nat.add_mul]; omega

theorem packInt_fits (w : Nat) (v : Int) (h : fits w v) : packInt w v = .ok (beBytes w v.toNat) := by
  obtain ⟨n, rfl⟩ := Int.eq_ofNat_of_zero_le h.1
  exact packInt_ok w n h.2

theorem packInt_not_fits (w : Nat) (v : Int) (h : ¬ fits w v) : packInt w v = .error .struct :=
  packInt_struct w v (by unfold fits at h; omega)

theorem fits4_le (v : Int) (h : fits 4 v) : ¬ v > 4294967295 := by
  have := h.2
  omega

theorem toNat_cast_fits (w : Nat) (v : Int) (h : fits w v) : ((v.toNat : Nat) : Int) = v :=
  Int.toNat_of_nonneg h.1

/-- a laid-out pair is read back, behind any `A` and in front of any `R` -/
theorem slice_specPair (w : Nat) (a b : Int) (ha : fits w a) (hb : fits w b) (A R : Bytes) :
    ((beNat (slice (A ++ (specPair w a b ++ R)) A.length (A.length + w)) : Nat) : Int) = a ∧
    ((beNat (slice (A ++ (specPair w a b ++ R)) (A.length + w) (A.length + w + w)) : Nat) : Int) = b := by
  have s1 := slice_eq_of_append A (beBytes w a.toNat) (beBytes w b.toNat ++ R)
  have s2 := slice_eq_of_append (A ++ beBytes w a.toNat) (beBytes w b.toNat) R
  rw [beBytes_length] at s1
  rw [List.length_append, beBytes_length, beBytes_length] at s2
  simp only [specPair, List.append_assoc] at s1 s2 ⊢
  rw [s1, s2, beNat_beBytes _ _ ha.2, beNat_beBytes _ _ hb.2, toNat_cast_fits _ _ ha, toNat_cast_fits _ _ hb]
  exact ⟨rfl, rfl⟩

/-- `packPair` is the 32-bit guard (without the large-file flag) in front of two `struct.pack`s -/
theorem packPair_eq (large : Bool) (a b : Int) :
    packPair large a b =
      if ¬ large ∧ (a > 4294967295 ∨ b > 4294967295) then .error .value
      else packInt (segW large) a >>= fun x => packInt (segW large) b >>= fun y => pure (x ++ y) := by
  unfold packPair
  cases large
  · by_cases g : a > 4294967295 ∨ b > 4294967295
    · rw [if_pos (by decide), if_pos g, if_pos ⟨by decide, g⟩]; rfl
    · rw [if_pos (by decide), if_neg g, if_neg (fun h => g h.2)]; rfl
  · rw [if_neg (by decide), if_neg (fun h => h.1 rfl)]; rfl

theorem packPair_ok (large : Bool) (a b : Int) (ha : fits (segW large) a) (hb : fits (segW large) b) :
    packPair large a b = .ok (specPair (segW large) a b) := by
  have g : ¬ (¬ large ∧ (a > 4294967295 ∨ b > 4294967295)) := by
    rintro ⟨hl, h⟩
    have hw : segW large = 4 := by unfold segW; rw [if_neg hl]
    rw [hw] at ha hb
    exact h.elim (fits4_le a ha) (fits4_le b hb)
  rw [packPair_eq, if_neg g, packInt_fits _ a ha, packInt_fits _ b hb]; rfl

/-- **a value that does not fit makes the pair fail** (never a truncated encoding):
    `ValueError` from the explicit 32-bit guard, `struct.error` from `struct.pack` otherwise -/
theorem packPair_overflow (large : Bool) (a b : Int)
    (h : ¬ fits (segW large) a ∨ ¬ fits (segW large) b) :
    packPair large a b = .error .value ∨ packPair large a b = .error .struct := by
  rw [packPair_eq]
  by_cases g : ¬ large ∧ (a > 4294967295 ∨ b > 4294967295)
  · exact .inl (if_pos g)
  · rw [if_neg g]
    by_cases ha : fits (segW large) a
    · rw [packInt_fits _ a ha, bind_ok, packInt_not_fits _ b (h.resolve_left (not_not_intro ha))]
      exact .inr rfl
    · rw [packInt_not_fits _ a ha]; exact .inr rfl

/-- every offset of every request fits -/
def SegsFit (w : Nat) (l : List Seg) : Prop := ∀ p ∈ l, fits w p.1 ∧ fits w p.2

theorem SegsFit.tail {w : Nat} {p : Seg} {r : List Seg} (h : SegsFit w (p :: r)) : SegsFit w r :=
  fun q hq => h q (List.mem_cons_of_mem _ hq)

theorem packSegs_spec (large : Bool) (l : List Seg) (h : SegsFit (segW large) l) :
    packSegs large l = .ok (specSegs (segW large) l) := by
  induction l with
  | nil => rfl
  | cons p r ih =>
    have hp := h p List.mem_cons_self
    unfold packSegs
    rw [packPair_ok large p.1 p.2 hp.1 hp.2, bind_ok, ih h.tail]; rfl

theorem packSegs_overflow (large : Bool) (l : List Seg) (h : ¬ SegsFit (segW large) l) :
    packSegs large l = .error .value ∨ packSegs large l = .error .struct := by
  induction l with
  | nil => exact absurd (fun p hp => nomatch hp) h
  | cons p r ih =>
    unfold packSegs
    by_cases hp : fits (segW large) p.1 ∧ fits (segW large) p.2
    · have hr : ¬ SegsFit (segW large) r := fun hr =>
        h fun q hq => (List.mem_cons.mp hq).elim (fun e => e ▸ hp) (hr q)
      rw [packPair_ok large p.1 p.2 hp.1 hp.2, bind_ok]
      rcases ih hr with e | e <;> rw [e]
      · exact .inl rfl
      · exact .inr rfl
    · rcases packPair_overflow large p.1 p.2 (Decidable.not_and_iff_not_or_not.mp hp) with e | e <;> rw [e]
      · exact .inl rfl
      · exact .inr rfl

theorem parseSegs_nil (large : Bool) : parseSegs large [] = .ok [] := by
  rw [parseSegs]; rfl

theorem parseSegs_step (large : Bool) (d : Bytes) (h : 2 * segW large ≤ d.length) :
    parseSegs large d = parseSegs large (d.drop (segW large + segW large)) >>= fun rest =>
      .ok ((((beNat (slice d 0 (segW large)) : Nat) : Int),
        ((beNat (slice d (segW large) (segW large + segW large)) : Nat) : Int)) :: rest) := by
  have hw := segW_pos large
  have hne : d ≠ [] := fun he => by rw [he] at h; simp at h; omega
  rw [parseSegs, dif_neg hne]
  simp only [show (if large = true then 8 else 4) = segW large from rfl]
  rw [unpackBE_ok (by simp; omega), bind_ok, unpackBE_ok (by simp; omega)]; rfl

theorem parseSegs_spec (large : Bool) (l : List Seg) (h : SegsFit (segW large) l) :
    parseSegs large (specSegs (segW large) l) = .ok l := by
  induction l with
  | nil => exact parseSegs_nil large
  | cons p r ih =>
    have hp := h p List.mem_cons_self
    have e : specSegs (segW large) (p :: r) = specPair (segW large) p.1 p.2 ++ specSegs (segW large) r := rfl
    obtain ⟨r1, r2⟩ := slice_specPair _ _ _ hp.1 hp.2 [] (specSegs (segW large) r)
    rw [List.nil_append, List.length_nil, Nat.zero_add] at r1 r2
    have hlen : 2 * segW large ≤ (specSegs (segW large) (p :: r)).length := by
      rw [specSegs_length, List.length_cons, Nat.add_mul]; omega
    rw [parseSegs_step _ _ hlen, e, r1, r2, List.drop_left' (by rw [specPair_length]; omega), ih h.tail]
    rfl

/-- **the loop never raises `struct.error` on a whole number of requests** and returns that many -/
theorem parseSegs_ok (large : Bool) : ∀ (n : Nat) (d : Bytes), d.length = n * (2 * segW large) →
    ∃ l, parseSegs large d = .ok l ∧ l.length = n ∧ SegsFit (segW large) l
  | 0, d, h => by
    have : d = [] := List.eq_nil_of_length_eq_zero (by simpa using h)
    exact ⟨[], this ▸ parseSegs_nil large, rfl, fun p hp => nomatch hp⟩
  | n + 1, d, h => by
    have hw := segW_pos large
    have hlen : 2 * segW large ≤ d.length := by rw [h, Nat.add_mul]; omega
    obtain ⟨l, hl, hn, hfit⟩ := parseSegs_ok large n (d.drop (segW large + segW large))
      (by rw [List.length_drop, h, Nat.add_mul]; omega)
    refine ⟨_, by rw [parseSegs_step _ _ hlen, hl]; rfl, by rw [List.length_cons, hn], fun q hq => ?_⟩
    rcases List.mem_cons.mp hq with rfl | hq
    · have b1 := beNat_lt_of_length (b := slice d 0 (segW large)) (n := segW large) (by simp; omega)
      have b2 := beNat_lt_of_length (b := slice d (segW large) (segW large + segW large)) (n := segW large)
        (by simp; omega)
      exact ⟨⟨by omega, by simpa using b1⟩, ⟨by omega, by simpa using b2⟩⟩
    · exact hfit q hq

/-- the parameter parser (`n` = length of the buffer as passed to `unpack`) -/
def parse (n : Nat) (r : FileDirective × Bytes) : Py Nak := do
  let fd := r.1
  if fd.code ≠ DIR_NAK then throw .value
  if n > fd.packetLen then throw .value
  let data := r.2
  let i := fd.headerLen
  let large := fd.header.largeFileFlagSet
  let w := if ¬ large then 4 else 8
  if i + 2 * w > data.length then throw .value
  let s ← unpackBE w (slice data i (i + w))
  let i := i + w
  let e ← unpackBE w (slice data i (i + w))
  let i := i + w
  if i < data.length then
    if (data.length - i) % (w * 2) ≠ 0 then throw .value
    let segs ← parseSegs large (data.drop i)
    let fd ← calcLen fd segs.length
    pure ⟨fd, (s : Int), (e : Int), segs⟩
  else
    pure ⟨fd, (s : Int), (e : Int), []⟩

theorem unpack_eq (d : Bytes) : Nak.unpack d = prelude d >>= parse d.length := by
  rw [prelude_bind]; rfl

/-- start / end of scope as read from the cut buffer -/
def scopeOf (fd : FileDirective) (p : Bytes) : Int × Int :=
  ((beNat (slice p fd.headerLen (fd.headerLen + fssWidth fd.header.conf.fileFlag)) : Nat),
   (beNat (slice p (fd.headerLen + fssWidth fd.header.conf.fileFlag)
      (fd.headerLen + fssWidth fd.header.conf.fileFlag + fssWidth fd.header.conf.fileFlag)) : Nat))

theorem parse_eq (n : Nat) (fd : FileDirective) (p : Bytes) :
    parse n (fd, p) =
      if fd.code ≠ 8 then .error .value
      else if n > fd.packetLen then .error .value
      else if p.length < fd.headerLen + 2 * fssWidth fd.header.conf.fileFlag then .error .value
      else if p.length = fd.headerLen + 2 * fssWidth fd.header.conf.fileFlag then
        .ok ⟨fd, (scopeOf fd p).1, (scopeOf fd p).2, []⟩
      else if (p.length - (fd.headerLen + 2 * fssWidth fd.header.conf.fileFlag))
                % (2 * fssWidth fd.header.conf.fileFlag) ≠ 0 then .error .value
      else parseSegs fd.header.largeFileFlagSet (p.drop (fd.headerLen + 2 * fssWidth fd.header.conf.fileFlag))
        >>= fun segs => calcLen fd segs.length
        >>= fun fd' => .ok ⟨fd', (scopeOf fd p).1, (scopeOf fd p).2, segs⟩ := by
  unfold parse scopeOf
  simp only [width_of_not_large]
  generalize fssWidth fd.header.conf.fileFlag = w
  by_cases h1 : fd.code ≠ DIR_NAK
  · rw [if_pos h1]; exact (if_pos h1).symm
  rw [if_neg h1]
  refine Eq.trans ?_ (if_neg h1).symm
  by_cases h2 : n > fd.packetLen
  · rw [if_pos h2, if_pos h2]; rfl
  rw [if_neg h2, if_neg h2]
  by_cases h3 : p.length < fd.headerLen + 2 * w
  · rw [if_pos h3, if_pos (by omega : fd.headerLen + 2 * w > p.length)]; rfl
  rw [if_neg h3, if_neg (by omega : ¬ fd.headerLen + 2 * w > p.length)]
  show (unpackBE w _ >>= fun s => unpackBE w _ >>= _) = _
  rw [unpackBE_ok (by simp; omega), bind_ok, unpackBE_ok (by simp; omega), bind_ok,
    show fd.headerLen + w + w = fd.headerLen + 2 * w by omega, show w * 2 = 2 * w by omega]
  by_cases h4 : p.length = fd.headerLen + 2 * w
  · rw [if_pos h4, if_neg (by omega)]; rfl
  rw [if_neg h4, if_pos (by omega)]
  by_cases h5 : (p.length - (fd.headerLen + 2 * w)) % (2 * w) ≠ 0
  · rw [if_pos h5, if_pos h5]; rfl
  · rw [if_neg h5, if_neg h5]; rfl

/-- **what an accepted parameter field looks like**: NAK code, not longer than declared, the scope,
    and then nothing or a whole number of requests that the loop and the length setter accept -/
theorem parse_ok_inv {n : Nat} {fd : FileDirective} {p : Bytes} {a : Nak} (h : parse n (fd, p) = .ok a) :
    fd.code = 8 ∧ n ≤ fd.packetLen ∧
    ((p.length = fd.headerLen + 2 * fssWidth fd.header.conf.fileFlag ∧
        a = ⟨fd, (scopeOf fd p).1, (scopeOf fd p).2, []⟩) ∨
     (fd.headerLen + 2 * fssWidth fd.header.conf.fileFlag < p.length ∧
      (p.length - (fd.headerLen + 2 * fssWidth fd.header.conf.fileFlag))
        % (2 * fssWidth fd.header.conf.fileFlag) = 0 ∧
      ∃ segs fd', parseSegs fd.header.largeFileFlagSet
          (p.drop (fd.headerLen + 2 * fssWidth fd.header.conf.fileFlag)) = .ok segs ∧
        calcLen fd segs.length = .ok fd' ∧ a = ⟨fd', (scopeOf fd p).1, (scopeOf fd p).2, segs⟩)) := by
  rw [parse_eq] at h
  split at h
  · cases h
  split at h
  · cases h
  split at h
  · cases h
  rename_i h1 h2 h3
  refine ⟨Classical.not_not.mp h1, Nat.le_of_not_lt h2, ?_⟩
  split at h
  · rename_i h4; exact .inl ⟨h4, (Except.ok.inj h).symm⟩
  split at h
  · cases h
  rename_i h4 h5
  obtain ⟨segs, hs, h⟩ := bind_ok_inv h
  obtain ⟨fd', hc, h⟩ := bind_ok_inv h
  exact .inr ⟨by omega, Classical.not_not.mp h5, segs, fd', hs, hc, (Except.ok.inj h).symm⟩

theorem parse_documented (n : Nat) (r : FileDirective × Bytes) : Documented (parse n r) := by
  obtain ⟨fd, p⟩ := r
  rw [parse_eq]
  refine Documented.ite (Documented.err rfl) (Documented.ite (Documented.err rfl)
    (Documented.ite (Documented.err rfl) (Documented.ite (Documented.ok _) ?_)))
  split
  · exact Documented.err rfl
  rename_i h5
  obtain ⟨k, hk⟩ := Nat.dvd_of_mod_eq_zero (Classical.not_not.mp h5)
  obtain ⟨l, hl, _, _⟩ := parseSegs_ok fd.header.largeFileFlagSet k
    (p.drop (fd.headerLen + 2 * fssWidth fd.header.conf.fileFlag))
    (by rw [segW_eq, List.length_drop, hk, Nat.mul_comm])
  rw [hl, bind_ok]
  exact Documented.bind (calcLen_documented fd l.length) fun _ _ => Documented.ok _

/-- the decoder fails, on any octet string whatever, only with `ValueError`,
    `UnsupportedCfdpVersion` or `InvalidCrc` (in particular never with `struct.error`) -/
theorem unpack_documented (d : Bytes) : Documented (Nak.unpack d) := by
  rw [unpack_eq]; exact bind_prelude_documented (parse d.length) (parse_documented d.length) d

/-- **inversion**: an accepted buffer is *exactly* the declared PDU (nothing may follow it), with a
    NAK directive code, a valid CRC when flagged and a data-field length consistent with the
    number of decoded segment requests -/
theorem unpack_inv (d : Bytes) (a : Nak) (h : Nak.unpack d = .ok a) :
    prelude d = .ok (a.fd, d.take a.fd.paramsEnd) ∧ parse d.length (a.fd, d.take a.fd.paramsEnd) = .ok a ∧
    d.length = a.packetLen ∧ a.fd.code = 8 ∧
    (a.fd.header.conf.crcFlag = 1 → Crc.crc16 d = 0) ∧
    a.fd.header.dataFieldLen
      = nakParamLen a.fd.header.conf.fileFlag a.fd.header.conf.crcFlag a.segs.length + 1 ∧
    SegsFit (fssWidth a.fd.header.conf.fileFlag) a.segs := by
  rw [unpack_eq] at h
  obtain ⟨fd, p, hp, hf⟩ := bind_prelude_inv (parse d.length) d a h
  obtain ⟨_, _, h3, h4, rfl⟩ := (prelude_ok_iff d fd p).mp hp
  obtain ⟨wf, _, hlen, _, _, _⟩ := prelude_facts d fd _ hp
  have hff : fd.header.conf.fileFlag < 2 := wf.2.2.2.2.1
  have hdl : fd.header.dataFieldLen < 65536 := wf.2.2.2.2.2.2.2.1
  have hpe := paramsEnd_add fd
  have hpl := packetLen_eq fd
  have hhl := headerLen_eq fd
  obtain ⟨hc, hn, hcase⟩ := parse_ok_inv hf
  have htk : d.take fd.packetLen = d := List.take_of_length_le hn
  -- in both cases the decoded base object is the declared one: the recomputed length is the declared length
  have key : ∀ segs : List Seg, fd.paramsEnd = fd.headerLen + 2 * fssWidth fd.header.conf.fileFlag * (segs.length + 1) →
      fd.header.dataFieldLen = nakParamLen fd.header.conf.fileFlag fd.header.conf.crcFlag segs.length + 1 := by
    intro segs hs
    unfold nakParamLen
    generalize (if fd.header.conf.crcFlag = 1 then 2 else 0) = c2 at hpe ⊢
    omega
  rcases hcase with ⟨hl, rfl⟩ | ⟨_, hm, segs, fd', hs, hcl, rfl⟩
  · refine ⟨hp, hf, Nat.le_antisymm hn h3, hc, fun hcf => htk ▸ h4 hcf, key [] (by rw [← hlen, hl]; simp), fun q hq => nomatch hq⟩
  · obtain ⟨k, hk⟩ := Nat.dvd_of_mod_eq_zero hm
    obtain ⟨l, hl, hlk, hfit⟩ := parseSegs_ok fd.header.largeFileFlagSet k
      (d.take fd.paramsEnd |>.drop (fd.headerLen + 2 * fssWidth fd.header.conf.fileFlag))
      (by rw [segW_eq, List.length_drop, hk, Nat.mul_comm])
    obtain rfl : l = segs := Except.ok.inj (hl.symm.trans hs)
    have hdl' := key l (by
      rw [← hlen, hlk, Nat.mul_add, Nat.mul_one]
      have : 0 < fssWidth fd.header.conf.fileFlag := by have := fssWidth_pos fd.header.conf.fileFlag; omega
      generalize 2 * fssWidth fd.header.conf.fileFlag * k = m at hk
      omega)
    rw [calcLen_eq fd _ hff, setParamLen_eq, if_neg (by omega), ← hdl', fd_eta fd _ rfl] at hcl
    cases hcl
    exact ⟨hp, hf, Nat.le_antisymm hn h3, hc, fun hcf => htk ▸ h4 hcf, hdl', segW_eq fd ▸ hfit⟩

/-- a buffer longer than the PDU it declares is refused with `ValueError` (by design) -/
theorem unpack_longer (d : Bytes) (fd : FileDirective) (p : Bytes) (hp : prelude d = .ok (fd, p))
    (hl : fd.packetLen < d.length) : Nak.unpack d = .error .value := by
  rw [unpack_eq, hp, bind_ok, parse_eq]
  by_cases h1 : fd.code ≠ 8
  · rw [if_pos h1]
  · rw [if_neg h1, if_pos hl]

end SpVerif.Nak
