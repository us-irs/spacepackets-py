import SpVerif.Py
/-!
# Big-endian integer codec

`beBytes w v` is `v.to_bytes(w, "big")` / `struct.pack("!B/H/I/Q", v)` for `v < 256^w`;
`beNat b` is `int.from_bytes(b, "big")` / `struct.unpack`.
-/
namespace SpVerif

def beBytes : Nat → Nat → Bytes
  | 0, _ => []
  | w+1, v => beBytes w (v / 256) ++ [u8 (v % 256)]

def beNat (b : Bytes) : Nat := b.foldl (fun acc x => acc * 256 + x.toNat) 0

/-- `struct.pack("!…", v)` for width `n` and `v ≥ 0`: `struct.error` iff `v ≥ 256^n`.
    (Negative values never reach `struct.pack` in the modelled code: constructors reject them.) -/
def packBE (n : Nat) (v : Nat) : Py Bytes :=
  if v < 256 ^ n then .ok (beBytes n v) else .error .struct

/-- `struct.unpack("!…", b)[0]` for width `n`: `struct.error` iff `len(b) ≠ n`. -/
def unpackBE (n : Nat) (b : Bytes) : Py Nat :=
  if b.length = n then .ok (beNat b) else .error .struct

@[simp] theorem beBytes_length (w v : Nat) : (beBytes w v).length = w := by
  induction w generalizing v with
  | zero => rfl
  | succ w ih => simp [beBytes, ih]

theorem beNat_append_single (b : Bytes) (x : UInt8) : beNat (b ++ [x]) = beNat b * 256 + x.toNat := by
  simp [beNat]

@[simp] theorem beNat_nil : beNat [] = 0 := rfl

theorem beNat_foldl (acc : Nat) (b : Bytes) :
    b.foldl (fun acc x => acc * 256 + x.toNat) acc = acc * 256 ^ b.length + beNat b := by
  induction b generalizing acc with
  | nil => simp [beNat]
  | cons x b ih =>
    simp only [List.foldl_cons, List.length_cons, beNat]
    rw [ih, ih (0 * 256 + x.toNat)]
    rw [Nat.pow_succ]
    simp only [Nat.zero_mul, Nat.zero_add]
    rw [Nat.add_mul, Nat.add_assoc]
    congr 1
    rw [Nat.mul_assoc, Nat.mul_comm 256]

theorem beNat_cons (x : UInt8) (b : Bytes) : beNat (x :: b) = x.toNat * 256 ^ b.length + beNat b := by
  have := beNat_foldl (0 * 256 + x.toNat) b
  simp only [Nat.zero_mul, Nat.zero_add] at this
  simpa [beNat] using this

theorem beNat_append (a b : Bytes) : beNat (a ++ b) = beNat a * 256 ^ b.length + beNat b := by
  simp only [beNat, List.foldl_append]
  exact beNat_foldl _ b

theorem list_rev_ind {α : Type} {P : List α → Prop} (hnil : P [])
    (hsnoc : ∀ l x, P l → P (l ++ [x])) : ∀ l, P l := by
  intro l
  have : ∀ r : List α, P r.reverse := by
    intro r
    induction r with
    | nil => simpa using hnil
    | cons x r ih => simpa using hsnoc _ x ih
  simpa using this l.reverse

theorem beNat_lt (b : Bytes) : beNat b < 256 ^ b.length := by
  induction b using list_rev_ind with
  | hnil => simp
  | hsnoc b x ih =>
    rw [beNat_append_single]
    simp only [List.length_append, List.length_cons, List.length_nil, Nat.pow_succ]
    have := toNat_lt x
    omega

theorem beNat_beBytes (w v : Nat) (h : v < 256 ^ w) : beNat (beBytes w v) = v := by
  induction w generalizing v with
  | zero => simp at h; simp [beBytes, h]
  | succ w ih =>
    simp only [beBytes, beNat_append_single, u8_toNat]
    rw [ih (v / 256) (by rw [Nat.pow_succ] at h; omega)]
    omega

theorem beBytes_beNat (b : Bytes) : beBytes b.length (beNat b) = b := by
  induction b using list_rev_ind with
  | hnil => rfl
  | hsnoc b x ih =>
    simp only [List.length_append, List.length_cons, List.length_nil, beBytes, beNat_append_single]
    have hx := toNat_lt x
    have h1 : (beNat b * 256 + x.toNat) / 256 = beNat b := by omega
    have h2 : (beNat b * 256 + x.toNat) % 256 = x.toNat := by omega
    rw [h1, h2, ih]
    simp

theorem beBytes_inj (w a b : Nat) (ha : a < 256 ^ w) (hb : b < 256 ^ w)
    (h : beBytes w a = beBytes w b) : a = b := by
  have := congrArg beNat h
  rwa [beNat_beBytes w a ha, beNat_beBytes w b hb] at this

theorem beBytes_1 (v : Nat) : beBytes 1 v = [u8 (v % 256)] := by simp [beBytes]
theorem beBytes_2 (v : Nat) : beBytes 2 v = [u8 (v / 256 % 256), u8 (v % 256)] := by simp [beBytes]

theorem unpackBE_ok {n : Nat} {b : Bytes} (h : b.length = n) : unpackBE n b = .ok (beNat b) := by
  simp [unpackBE, h]

theorem unpackBE_beBytes (w v : Nat) (h : v < 256 ^ w) : unpackBE w (beBytes w v) = .ok v := by
  simp [unpackBE, beNat_beBytes w v h]

theorem packBE_ok {n v : Nat} (h : v < 256 ^ n) : packBE n v = .ok (beBytes n v) := by
  simp [packBE, h]

theorem packBE_inv {n v : Nat} {w : Bytes} (h : packBE n v = .ok w) : w = beBytes n v ∧ v < 256 ^ n := by
  unfold packBE at h
  split at h
  · cases h; exact ⟨rfl, by assumption⟩
  · cases h

theorem packBE_len {n v : Nat} {w : Bytes} (h : packBE n v = .ok w) : w.length = n := by
  rw [(packBE_inv h).1, beBytes_length]

theorem packBE2_ok {v : Nat} (h : v < 65536) : packBE 2 v = .ok [u8 (v / 256), u8 (v % 256)] := by
  have h3 : v / 256 % 256 = v / 256 := by omega
  rw [packBE_ok (by omega), beBytes_2, h3]

theorem beNat_two (x y : UInt8) : beNat [x, y] = x.toNat * 256 + y.toNat := by
  simp [beNat]

theorem beNat_two_lt (x y : UInt8) : beNat [x, y] < 65536 := by
  have hx := toNat_lt x
  have hy := toNat_lt y
  rw [beNat_two]; omega

theorem beBytes_beNat_two (x y : UInt8) : beBytes 2 (beNat [x, y]) = [x, y] := beBytes_beNat [x, y]

/-- `struct.unpack("!H", b[s:s+2])` when the two octets are present. -/
theorem unpackBE2_slice (b : Bytes) (s : Nat) (h : s + 2 ≤ b.length) :
    unpackBE 2 (slice b s (s+2)) = .ok (b[s].toNat * 256 + b[s+1].toNat) := by
  have hl : (slice b s (s+2)).length = 2 := by simp; omega
  rw [unpackBE_ok hl]
  match hm : slice b s (s+2), hl with
  | [x, y], _ =>
    have h0 : (slice b s (s+2))[0]? = some x := by simp [hm]
    have h1 : (slice b s (s+2))[1]? = some y := by simp [hm]
    simp [slice, List.getElem?_drop] at h0 h1
    have e0 : b[s] = x := by
      have := List.getElem?_eq_getElem (l := b) (i := s) (by omega); rw [this] at h0; simpa using h0
    have e1 : b[s+1] = y := by
      have := List.getElem?_eq_getElem (l := b) (i := s+1) (by omega); rw [this] at h1; simpa using h1
    simp [beNat_two, e0, e1]

/-- `x << k | y` on disjoint bit ranges -/
theorem shl_or (x k y : Nat) (h : y < 2 ^ k) : x <<< k ||| y = x * 2 ^ k + y := by
  rw [Nat.shiftLeft_eq, Nat.mul_comm, Nat.two_pow_add_eq_or_of_lt h]

end SpVerif
